import PysphVerif.Lemmas.PairForces
import PysphVerif.Lemmas.NbrCacheHist
import PysphVerif.Lemmas.NbrMask
import PysphVerif.Lemmas.PeriodicGhosts
import Mathlib.Algebra.Module.Prod
/-!
# C09 — pair-symmetric momentum equations conserve linear and angular momentum

Everything below is about the definitions of `Gen/C09Equations.lean`, which
`translate/c09_equations2lean.py` regenerates from the current source of the
equations' `loop` bodies and of `equation.py::precomputed_symbols()` on every
run.  Numbers: any linearly ordered field `K`; `sqrt/abs/pow` (`Ops K`) and the
kernel (`Kern K`) are arbitrary functions, the kernel constrained only to the
radial shape `Radial k w g` (`W = w(r,h)`, `∇W = g(r,h)·x`).

Per equation `T`: `additive_T` (the neighbour loop is a sum), `pair_antisym_T`
(`m_a·contrib(a,b) = −m_b·contrib(b,a)`, component by component), `central_T` where the force
is along `x_ab` (cross product with `x_a − x_b` zero), and the closed-system corollaries
`linear_momentum_T` (`Σ m a = 0`), `angular_momentum_T` (`Σ m x × a = 0`) for every finite
particle set, every symmetric duplicate-free neighbour relation and every parameter value.  All
five are read off the pair law `law_T` of `Lemmas/PairForces.lean` (branch conditions such as
`v_ab·x_ab < 0` are shown symmetric there): the first three are its fields, the last two
`PairLaw.linear_momentum`, `CentralLaw.angular_momentum`.  Where the body divides by the
destination mass, `pair_antisym_T` and the two corollaries assume non-zero masses.

The closed system is indexed by an arbitrary finite type `ι`: several mutually
interacting particle arrays are the disjoint union of their index sets, the
neighbour list of a particle being the concatenation of its neighbours in every
source array (the order does not matter in a field).
-/
set_option linter.unusedSectionVars false
set_option linter.unusedVariables false
namespace PysphVerif.C09
open PysphVerif.PairSym PysphVerif.Gen.C09

variable {K : Type} [Field K] [LinearOrder K] [IsStrictOrderedRing K]

/-- A pair-antisymmetric interaction summed over a finite symmetric neighbour
relation vanishes. -/
theorem sum_pair_antisym_eq_zero_field {ι : Type} [Fintype ι] [DecidableEq ι]
    (nbr : ι → Finset ι) (hsymm : ∀ i j, j ∈ nbr i → i ∈ nbr j)
    (F : ι → ι → K) (hF : ∀ i j, j ∈ nbr i → F i j = -F j i) :
    ∑ i, ∑ j ∈ nbr i, F i j = 0 :=
  sum_pair_antisym_eq_zero nbr hsymm F hF

/-- The same for vector-valued interactions (any module without 2-torsion,
e.g. `K × K × K`). -/
theorem sum_pair_antisym_eq_zero_vec {ι : Type} [Fintype ι] [DecidableEq ι]
    (nbr : ι → Finset ι) (hsymm : ∀ i j, j ∈ nbr i → i ∈ nbr j)
    (F : ι → ι → K × K × K) (hF : ∀ i j, j ∈ nbr i → F i j = -F j i) :
    ∑ i, ∑ j ∈ nbr i, F i j = 0 :=
  sum_pair_antisym_eq_zero_of_no_two_torsion (no_two_torsion (K := K)) nbr hsymm F hF

/-- Total moment of a pair-antisymmetric central interaction: all three
components of `Σ_i x_i × Σ_j F_ij` vanish. -/
theorem torque_zero_of_central {ι : Type} [Fintype ι] [DecidableEq ι]
    (nbr : ι → Finset ι) (hsymm : ∀ i j, j ∈ nbr i → i ∈ nbr j)
    (X Y Z : ι → K) (FX FY FZ : ι → ι → K)
    (hX : ∀ i j, j ∈ nbr i → FX i j = -FX j i)
    (hY : ∀ i j, j ∈ nbr i → FY i j = -FY j i)
    (hZ : ∀ i j, j ∈ nbr i → FZ i j = -FZ j i)
    (hc : ∀ i j, j ∈ nbr i → ∃ c, FX i j = c * (X i - X j) ∧ FY i j = c * (Y i - Y j)
            ∧ FZ i j = c * (Z i - Z j)) :
    (∑ i, ∑ j ∈ nbr i, (X i * FY i j - Y i * FX i j) = 0) ∧
    (∑ i, ∑ j ∈ nbr i, (Y i * FZ i j - Z i * FY i j) = 0) ∧
    (∑ i, ∑ j ∈ nbr i, (Z i * FX i j - X i * FZ i j) = 0) := by
  refine ⟨torque_component_zero nbr hsymm X Y FX FY hX hY ?_,
          torque_component_zero nbr hsymm Y Z FY FZ hY hZ ?_,
          torque_component_zero nbr hsymm Z X FZ FX hZ hX ?_⟩ <;>
  · intro i j hj
    obtain ⟨c, h1, h2, h3⟩ := hc i j hj
    simp only [h1, h2, h3]; ring

/-- `DWIJ(a,b) = −DWIJ(b,a)`: `HIJ` is the (symmetric) mean smoothing length,
`XIJ` changes sign, `RIJ` does not, and the gradient is `g(r,h)·x`. -/
theorem dwij_antisym (o : Ops K) (k : Kern K) {w g : K → K → K} (hk : Radial k w g) (a b : P K) :
    pre_DWIJ_0 o k b a = -(pre_DWIJ_0 o k a b) ∧
    pre_DWIJ_1 o k b a = -(pre_DWIJ_1 o k a b) ∧
    pre_DWIJ_2 o k b a = -(pre_DWIJ_2 o k a b) :=
  DWIJ_swap o k a b hk

/-- grad-h forms: exchanging the particles exchanges `DWI` and `DWJ` with a sign. -/
theorem dwi_dwj_swap (o : Ops K) (k : Kern K) {w g : K → K → K} (hk : Radial k w g) (a b : P K) :
    pre_DWI_0 o k b a = -(pre_DWJ_0 o k a b) ∧ pre_DWI_1 o k b a = -(pre_DWJ_1 o k a b) ∧
    pre_DWI_2 o k b a = -(pre_DWJ_2 o k a b) ∧ pre_DWJ_0 o k b a = -(pre_DWI_0 o k a b) ∧
    pre_DWJ_1 o k b a = -(pre_DWI_1 o k a b) ∧ pre_DWJ_2 o k b a = -(pre_DWI_2 o k a b) :=
  DWI_DWJ_swap o k a b hk

theorem pair_scalars_symm (o : Ops K) (k : Kern K) {w g : K → K → K} (hk : Radial k w g) (a b : P K) :
    pre_HIJ o k b a = pre_HIJ o k a b ∧ pre_R2IJ o k b a = pre_R2IJ o k a b ∧
    pre_RIJ o k b a = pre_RIJ o k a b ∧ pre_RHOIJ1 o k b a = pre_RHOIJ1 o k a b ∧
    pre_EPS o k b a = pre_EPS o k a b ∧ pre_WIJ o k b a = pre_WIJ o k a b ∧
    pre_WDP o k b a = pre_WDP o k a b :=
  ⟨HIJ_swap o k a b, R2IJ_swap o k a b, RIJ_swap o k a b, RHOIJ1_swap o k a b, EPS_swap o k a b,
   WIJ_swap o k a b hk, WDP_swap o k a b hk⟩

/-- The neighbour criterion of `find_nearest_neighbors`
(`xij2 < (k h_i)^2 or xij2 < (k h_j)^2`, nnps_base.pyx) as a predicate on a
pair; hand-written (C01 is about the search itself). -/
def nbrCriterion (o : Ops K) (k : Kern K) (scale : K) (a b : P K) : Prop :=
  pre_R2IJ o k a b < (scale * a.h) * (scale * a.h) ∨ pre_R2IJ o k a b < (scale * b.h) * (scale * b.h)

theorem nbr_criterion_symm (o : Ops K) (k : Kern K) (scale : K) (a b : P K) :
    nbrCriterion o k scale a b ↔ nbrCriterion o k scale b a := by
  unfold nbrCriterion
  rw [R2IJ_swap o k a b]
  exact Or.comm


/-! ## `pysph/sph/wc/basic.py.MomentumEquation` (WC_MomentumEquation) -/
section WC_MomentumEquation
variable (o : Ops K) (k : Kern K) {w g : K → K → K} (hk : Radial k w g) (self_alpha : K) (self_beta : K) (self_c0 : K) (self_tensile_correction : Bool)

theorem additive_WC_MomentumEquation (acc acc' : Out_WC_MomentumEquation K) (a b : P K) :
    ((pair_WC_MomentumEquation o k self_alpha self_beta self_c0 self_tensile_correction acc a b).d_au - acc.d_au) = ((pair_WC_MomentumEquation o k self_alpha self_beta self_c0 self_tensile_correction acc' a b).d_au - acc'.d_au) ∧
    ((pair_WC_MomentumEquation o k self_alpha self_beta self_c0 self_tensile_correction acc a b).d_av - acc.d_av) = ((pair_WC_MomentumEquation o k self_alpha self_beta self_c0 self_tensile_correction acc' a b).d_av - acc'.d_av) ∧
    ((pair_WC_MomentumEquation o k self_alpha self_beta self_c0 self_tensile_correction acc a b).d_aw - acc.d_aw) = ((pair_WC_MomentumEquation o k self_alpha self_beta self_c0 self_tensile_correction acc' a b).d_aw - acc'.d_aw) :=
  (law_WC_MomentumEquation o k self_alpha self_beta self_c0 self_tensile_correction).additive a b acc acc'

include hk in
theorem pair_antisym_WC_MomentumEquation (acc acc' : Out_WC_MomentumEquation K) (a b : P K) :
    a.m * ((pair_WC_MomentumEquation o k self_alpha self_beta self_c0 self_tensile_correction acc a b).d_au - acc.d_au) = -(b.m * ((pair_WC_MomentumEquation o k self_alpha self_beta self_c0 self_tensile_correction acc' b a).d_au - acc'.d_au)) ∧
    a.m * ((pair_WC_MomentumEquation o k self_alpha self_beta self_c0 self_tensile_correction acc a b).d_av - acc.d_av) = -(b.m * ((pair_WC_MomentumEquation o k self_alpha self_beta self_c0 self_tensile_correction acc' b a).d_av - acc'.d_av)) ∧
    a.m * ((pair_WC_MomentumEquation o k self_alpha self_beta self_c0 self_tensile_correction acc a b).d_aw - acc.d_aw) = -(b.m * ((pair_WC_MomentumEquation o k self_alpha self_beta self_c0 self_tensile_correction acc' b a).d_aw - acc'.d_aw)) :=
  (law_WC_MomentumEquation o k self_alpha self_beta self_c0 self_tensile_correction).antisym hk a b trivial acc acc'

include hk in
theorem central_WC_MomentumEquation (acc : Out_WC_MomentumEquation K) (a b : P K) :
    (a.x - b.x) * ((pair_WC_MomentumEquation o k self_alpha self_beta self_c0 self_tensile_correction acc a b).d_av - acc.d_av) = (a.y - b.y) * ((pair_WC_MomentumEquation o k self_alpha self_beta self_c0 self_tensile_correction acc a b).d_au - acc.d_au) ∧
    (a.y - b.y) * ((pair_WC_MomentumEquation o k self_alpha self_beta self_c0 self_tensile_correction acc a b).d_aw - acc.d_aw) = (a.z - b.z) * ((pair_WC_MomentumEquation o k self_alpha self_beta self_c0 self_tensile_correction acc a b).d_av - acc.d_av) ∧
    (a.z - b.z) * ((pair_WC_MomentumEquation o k self_alpha self_beta self_c0 self_tensile_correction acc a b).d_au - acc.d_au) = (a.x - b.x) * ((pair_WC_MomentumEquation o k self_alpha self_beta self_c0 self_tensile_correction acc a b).d_aw - acc.d_aw) :=
  (law_WC_MomentumEquation o k self_alpha self_beta self_c0 self_tensile_correction).central hk a b acc

include hk in
theorem linear_momentum_WC_MomentumEquation {ι : Type} [Fintype ι] [DecidableEq ι] (p : ι → P K)
    (nbrs : ι → List ι) (hnd : ∀ i, (nbrs i).Nodup) (hsymm : ∀ i j, j ∈ nbrs i → i ∈ nbrs j)
    (init : ι → Out_WC_MomentumEquation K) (hinit : ∀ i, (init i).d_au = 0 ∧ (init i).d_av = 0 ∧ (init i).d_aw = 0) :
    ∑ i, (p i).m * ((nbrs i).foldl (fun acc j => pair_WC_MomentumEquation o k self_alpha self_beta self_c0 self_tensile_correction acc (p i) (p j)) (init i)).d_au = 0 ∧
    ∑ i, (p i).m * ((nbrs i).foldl (fun acc j => pair_WC_MomentumEquation o k self_alpha self_beta self_c0 self_tensile_correction acc (p i) (p j)) (init i)).d_av = 0 ∧
    ∑ i, (p i).m * ((nbrs i).foldl (fun acc j => pair_WC_MomentumEquation o k self_alpha self_beta self_c0 self_tensile_correction acc (p i) (p j)) (init i)).d_aw = 0 :=
  (law_WC_MomentumEquation o k self_alpha self_beta self_c0 self_tensile_correction).linear_momentum hk p nbrs hnd hsymm init hinit
    fun _ _ => trivial

include hk in
theorem angular_momentum_WC_MomentumEquation {ι : Type} [Fintype ι] [DecidableEq ι] (p : ι → P K)
    (nbrs : ι → List ι) (hnd : ∀ i, (nbrs i).Nodup) (hsymm : ∀ i j, j ∈ nbrs i → i ∈ nbrs j)
    (init : ι → Out_WC_MomentumEquation K) (hinit : ∀ i, (init i).d_au = 0 ∧ (init i).d_av = 0 ∧ (init i).d_aw = 0) :
    (∑ i, (p i).m * ((p i).x * ((nbrs i).foldl (fun acc j => pair_WC_MomentumEquation o k self_alpha self_beta self_c0 self_tensile_correction acc (p i) (p j)) (init i)).d_av - (p i).y * ((nbrs i).foldl (fun acc j => pair_WC_MomentumEquation o k self_alpha self_beta self_c0 self_tensile_correction acc (p i) (p j)) (init i)).d_au) = 0) ∧
    (∑ i, (p i).m * ((p i).y * ((nbrs i).foldl (fun acc j => pair_WC_MomentumEquation o k self_alpha self_beta self_c0 self_tensile_correction acc (p i) (p j)) (init i)).d_aw - (p i).z * ((nbrs i).foldl (fun acc j => pair_WC_MomentumEquation o k self_alpha self_beta self_c0 self_tensile_correction acc (p i) (p j)) (init i)).d_av) = 0) ∧
    (∑ i, (p i).m * ((p i).z * ((nbrs i).foldl (fun acc j => pair_WC_MomentumEquation o k self_alpha self_beta self_c0 self_tensile_correction acc (p i) (p j)) (init i)).d_au - (p i).x * ((nbrs i).foldl (fun acc j => pair_WC_MomentumEquation o k self_alpha self_beta self_c0 self_tensile_correction acc (p i) (p j)) (init i)).d_aw) = 0) :=
  (law_WC_MomentumEquation o k self_alpha self_beta self_c0 self_tensile_correction).angular_momentum hk p nbrs hnd hsymm init hinit
    fun _ _ => trivial

end WC_MomentumEquation

/-! ## `pysph/sph/wc/basic.py.MomentumEquationDeltaSPH` (WC_MomentumEquationDeltaSPH) -/
section WC_MomentumEquationDeltaSPH
variable (o : Ops K) (k : Kern K) {w g : K → K → K} (hk : Radial k w g) (self_alpha : K) (self_c0 : K) (self_rho0 : K)

theorem additive_WC_MomentumEquationDeltaSPH (acc acc' : Out_WC_MomentumEquationDeltaSPH K) (a b : P K) :
    ((pair_WC_MomentumEquationDeltaSPH o k self_alpha self_c0 self_rho0 acc a b).d_au - acc.d_au) = ((pair_WC_MomentumEquationDeltaSPH o k self_alpha self_c0 self_rho0 acc' a b).d_au - acc'.d_au) ∧
    ((pair_WC_MomentumEquationDeltaSPH o k self_alpha self_c0 self_rho0 acc a b).d_av - acc.d_av) = ((pair_WC_MomentumEquationDeltaSPH o k self_alpha self_c0 self_rho0 acc' a b).d_av - acc'.d_av) ∧
    ((pair_WC_MomentumEquationDeltaSPH o k self_alpha self_c0 self_rho0 acc a b).d_aw - acc.d_aw) = ((pair_WC_MomentumEquationDeltaSPH o k self_alpha self_c0 self_rho0 acc' a b).d_aw - acc'.d_aw) :=
  (law_WC_MomentumEquationDeltaSPH o k self_alpha self_c0 self_rho0).additive a b acc acc'

include hk in
theorem pair_antisym_WC_MomentumEquationDeltaSPH (acc acc' : Out_WC_MomentumEquationDeltaSPH K) (a b : P K) :
    a.m * ((pair_WC_MomentumEquationDeltaSPH o k self_alpha self_c0 self_rho0 acc a b).d_au - acc.d_au) = -(b.m * ((pair_WC_MomentumEquationDeltaSPH o k self_alpha self_c0 self_rho0 acc' b a).d_au - acc'.d_au)) ∧
    a.m * ((pair_WC_MomentumEquationDeltaSPH o k self_alpha self_c0 self_rho0 acc a b).d_av - acc.d_av) = -(b.m * ((pair_WC_MomentumEquationDeltaSPH o k self_alpha self_c0 self_rho0 acc' b a).d_av - acc'.d_av)) ∧
    a.m * ((pair_WC_MomentumEquationDeltaSPH o k self_alpha self_c0 self_rho0 acc a b).d_aw - acc.d_aw) = -(b.m * ((pair_WC_MomentumEquationDeltaSPH o k self_alpha self_c0 self_rho0 acc' b a).d_aw - acc'.d_aw)) :=
  (law_WC_MomentumEquationDeltaSPH o k self_alpha self_c0 self_rho0).antisym hk a b trivial acc acc'

include hk in
theorem central_WC_MomentumEquationDeltaSPH (acc : Out_WC_MomentumEquationDeltaSPH K) (a b : P K) :
    (a.x - b.x) * ((pair_WC_MomentumEquationDeltaSPH o k self_alpha self_c0 self_rho0 acc a b).d_av - acc.d_av) = (a.y - b.y) * ((pair_WC_MomentumEquationDeltaSPH o k self_alpha self_c0 self_rho0 acc a b).d_au - acc.d_au) ∧
    (a.y - b.y) * ((pair_WC_MomentumEquationDeltaSPH o k self_alpha self_c0 self_rho0 acc a b).d_aw - acc.d_aw) = (a.z - b.z) * ((pair_WC_MomentumEquationDeltaSPH o k self_alpha self_c0 self_rho0 acc a b).d_av - acc.d_av) ∧
    (a.z - b.z) * ((pair_WC_MomentumEquationDeltaSPH o k self_alpha self_c0 self_rho0 acc a b).d_au - acc.d_au) = (a.x - b.x) * ((pair_WC_MomentumEquationDeltaSPH o k self_alpha self_c0 self_rho0 acc a b).d_aw - acc.d_aw) :=
  (law_WC_MomentumEquationDeltaSPH o k self_alpha self_c0 self_rho0).central hk a b acc

include hk in
theorem linear_momentum_WC_MomentumEquationDeltaSPH {ι : Type} [Fintype ι] [DecidableEq ι] (p : ι → P K)
    (nbrs : ι → List ι) (hnd : ∀ i, (nbrs i).Nodup) (hsymm : ∀ i j, j ∈ nbrs i → i ∈ nbrs j)
    (init : ι → Out_WC_MomentumEquationDeltaSPH K) (hinit : ∀ i, (init i).d_au = 0 ∧ (init i).d_av = 0 ∧ (init i).d_aw = 0) :
    ∑ i, (p i).m * ((nbrs i).foldl (fun acc j => pair_WC_MomentumEquationDeltaSPH o k self_alpha self_c0 self_rho0 acc (p i) (p j)) (init i)).d_au = 0 ∧
    ∑ i, (p i).m * ((nbrs i).foldl (fun acc j => pair_WC_MomentumEquationDeltaSPH o k self_alpha self_c0 self_rho0 acc (p i) (p j)) (init i)).d_av = 0 ∧
    ∑ i, (p i).m * ((nbrs i).foldl (fun acc j => pair_WC_MomentumEquationDeltaSPH o k self_alpha self_c0 self_rho0 acc (p i) (p j)) (init i)).d_aw = 0 :=
  (law_WC_MomentumEquationDeltaSPH o k self_alpha self_c0 self_rho0).linear_momentum hk p nbrs hnd hsymm init hinit
    fun _ _ => trivial

include hk in
theorem angular_momentum_WC_MomentumEquationDeltaSPH {ι : Type} [Fintype ι] [DecidableEq ι] (p : ι → P K)
    (nbrs : ι → List ι) (hnd : ∀ i, (nbrs i).Nodup) (hsymm : ∀ i j, j ∈ nbrs i → i ∈ nbrs j)
    (init : ι → Out_WC_MomentumEquationDeltaSPH K) (hinit : ∀ i, (init i).d_au = 0 ∧ (init i).d_av = 0 ∧ (init i).d_aw = 0) :
    (∑ i, (p i).m * ((p i).x * ((nbrs i).foldl (fun acc j => pair_WC_MomentumEquationDeltaSPH o k self_alpha self_c0 self_rho0 acc (p i) (p j)) (init i)).d_av - (p i).y * ((nbrs i).foldl (fun acc j => pair_WC_MomentumEquationDeltaSPH o k self_alpha self_c0 self_rho0 acc (p i) (p j)) (init i)).d_au) = 0) ∧
    (∑ i, (p i).m * ((p i).y * ((nbrs i).foldl (fun acc j => pair_WC_MomentumEquationDeltaSPH o k self_alpha self_c0 self_rho0 acc (p i) (p j)) (init i)).d_aw - (p i).z * ((nbrs i).foldl (fun acc j => pair_WC_MomentumEquationDeltaSPH o k self_alpha self_c0 self_rho0 acc (p i) (p j)) (init i)).d_av) = 0) ∧
    (∑ i, (p i).m * ((p i).z * ((nbrs i).foldl (fun acc j => pair_WC_MomentumEquationDeltaSPH o k self_alpha self_c0 self_rho0 acc (p i) (p j)) (init i)).d_au - (p i).x * ((nbrs i).foldl (fun acc j => pair_WC_MomentumEquationDeltaSPH o k self_alpha self_c0 self_rho0 acc (p i) (p j)) (init i)).d_aw) = 0) :=
  (law_WC_MomentumEquationDeltaSPH o k self_alpha self_c0 self_rho0).angular_momentum hk p nbrs hnd hsymm init hinit
    fun _ _ => trivial

end WC_MomentumEquationDeltaSPH

/-! ## `pysph/sph/wc/basic.py.PressureGradientUsingNumberDensity` (WC_PressureGradientUsingNumberDensity) -/
section WC_PressureGradientUsingNumberDensity
variable (o : Ops K) (k : Kern K) {w g : K → K → K} (hk : Radial k w g) 

theorem additive_WC_PressureGradientUsingNumberDensity (acc acc' : Out_WC_PressureGradientUsingNumberDensity K) (a b : P K) :
    ((pair_WC_PressureGradientUsingNumberDensity o k  acc a b).d_au - acc.d_au) = ((pair_WC_PressureGradientUsingNumberDensity o k  acc' a b).d_au - acc'.d_au) ∧
    ((pair_WC_PressureGradientUsingNumberDensity o k  acc a b).d_av - acc.d_av) = ((pair_WC_PressureGradientUsingNumberDensity o k  acc' a b).d_av - acc'.d_av) ∧
    ((pair_WC_PressureGradientUsingNumberDensity o k  acc a b).d_aw - acc.d_aw) = ((pair_WC_PressureGradientUsingNumberDensity o k  acc' a b).d_aw - acc'.d_aw) :=
  (law_WC_PressureGradientUsingNumberDensity o k).additive a b acc acc'

include hk in
theorem pair_antisym_WC_PressureGradientUsingNumberDensity (acc acc' : Out_WC_PressureGradientUsingNumberDensity K) (a b : P K) (ha : a.m ≠ 0) (hb : b.m ≠ 0) :
    a.m * ((pair_WC_PressureGradientUsingNumberDensity o k  acc a b).d_au - acc.d_au) = -(b.m * ((pair_WC_PressureGradientUsingNumberDensity o k  acc' b a).d_au - acc'.d_au)) ∧
    a.m * ((pair_WC_PressureGradientUsingNumberDensity o k  acc a b).d_av - acc.d_av) = -(b.m * ((pair_WC_PressureGradientUsingNumberDensity o k  acc' b a).d_av - acc'.d_av)) ∧
    a.m * ((pair_WC_PressureGradientUsingNumberDensity o k  acc a b).d_aw - acc.d_aw) = -(b.m * ((pair_WC_PressureGradientUsingNumberDensity o k  acc' b a).d_aw - acc'.d_aw)) :=
  (law_WC_PressureGradientUsingNumberDensity o k).antisym hk a b ⟨ha, hb⟩ acc acc'

include hk in
theorem central_WC_PressureGradientUsingNumberDensity (acc : Out_WC_PressureGradientUsingNumberDensity K) (a b : P K) :
    (a.x - b.x) * ((pair_WC_PressureGradientUsingNumberDensity o k  acc a b).d_av - acc.d_av) = (a.y - b.y) * ((pair_WC_PressureGradientUsingNumberDensity o k  acc a b).d_au - acc.d_au) ∧
    (a.y - b.y) * ((pair_WC_PressureGradientUsingNumberDensity o k  acc a b).d_aw - acc.d_aw) = (a.z - b.z) * ((pair_WC_PressureGradientUsingNumberDensity o k  acc a b).d_av - acc.d_av) ∧
    (a.z - b.z) * ((pair_WC_PressureGradientUsingNumberDensity o k  acc a b).d_au - acc.d_au) = (a.x - b.x) * ((pair_WC_PressureGradientUsingNumberDensity o k  acc a b).d_aw - acc.d_aw) :=
  (law_WC_PressureGradientUsingNumberDensity o k).central hk a b acc

include hk in
theorem linear_momentum_WC_PressureGradientUsingNumberDensity {ι : Type} [Fintype ι] [DecidableEq ι] (p : ι → P K)
    (nbrs : ι → List ι) (hnd : ∀ i, (nbrs i).Nodup) (hsymm : ∀ i j, j ∈ nbrs i → i ∈ nbrs j)
    (init : ι → Out_WC_PressureGradientUsingNumberDensity K) (hinit : ∀ i, (init i).d_au = 0 ∧ (init i).d_av = 0 ∧ (init i).d_aw = 0) (hm : ∀ i, (p i).m ≠ 0) :
    ∑ i, (p i).m * ((nbrs i).foldl (fun acc j => pair_WC_PressureGradientUsingNumberDensity o k  acc (p i) (p j)) (init i)).d_au = 0 ∧
    ∑ i, (p i).m * ((nbrs i).foldl (fun acc j => pair_WC_PressureGradientUsingNumberDensity o k  acc (p i) (p j)) (init i)).d_av = 0 ∧
    ∑ i, (p i).m * ((nbrs i).foldl (fun acc j => pair_WC_PressureGradientUsingNumberDensity o k  acc (p i) (p j)) (init i)).d_aw = 0 :=
  (law_WC_PressureGradientUsingNumberDensity o k).linear_momentum hk p nbrs hnd hsymm init hinit
    fun i j => ⟨hm i, hm j⟩

include hk in
theorem angular_momentum_WC_PressureGradientUsingNumberDensity {ι : Type} [Fintype ι] [DecidableEq ι] (p : ι → P K)
    (nbrs : ι → List ι) (hnd : ∀ i, (nbrs i).Nodup) (hsymm : ∀ i j, j ∈ nbrs i → i ∈ nbrs j)
    (init : ι → Out_WC_PressureGradientUsingNumberDensity K) (hinit : ∀ i, (init i).d_au = 0 ∧ (init i).d_av = 0 ∧ (init i).d_aw = 0) (hm : ∀ i, (p i).m ≠ 0) :
    (∑ i, (p i).m * ((p i).x * ((nbrs i).foldl (fun acc j => pair_WC_PressureGradientUsingNumberDensity o k  acc (p i) (p j)) (init i)).d_av - (p i).y * ((nbrs i).foldl (fun acc j => pair_WC_PressureGradientUsingNumberDensity o k  acc (p i) (p j)) (init i)).d_au) = 0) ∧
    (∑ i, (p i).m * ((p i).y * ((nbrs i).foldl (fun acc j => pair_WC_PressureGradientUsingNumberDensity o k  acc (p i) (p j)) (init i)).d_aw - (p i).z * ((nbrs i).foldl (fun acc j => pair_WC_PressureGradientUsingNumberDensity o k  acc (p i) (p j)) (init i)).d_av) = 0) ∧
    (∑ i, (p i).m * ((p i).z * ((nbrs i).foldl (fun acc j => pair_WC_PressureGradientUsingNumberDensity o k  acc (p i) (p j)) (init i)).d_au - (p i).x * ((nbrs i).foldl (fun acc j => pair_WC_PressureGradientUsingNumberDensity o k  acc (p i) (p j)) (init i)).d_aw) = 0) :=
  (law_WC_PressureGradientUsingNumberDensity o k).angular_momentum hk p nbrs hnd hsymm init hinit
    fun i j => ⟨hm i, hm j⟩

end WC_PressureGradientUsingNumberDensity

/-! ## `pysph/sph/basic_equations.py.MonaghanArtificialViscosity` (BE_MonaghanArtificialViscosity) -/
section BE_MonaghanArtificialViscosity
variable (o : Ops K) (k : Kern K) {w g : K → K → K} (hk : Radial k w g) (self_alpha : K) (self_beta : K)

theorem additive_BE_MonaghanArtificialViscosity (acc acc' : Out_BE_MonaghanArtificialViscosity K) (a b : P K) :
    ((pair_BE_MonaghanArtificialViscosity o k self_alpha self_beta acc a b).d_au - acc.d_au) = ((pair_BE_MonaghanArtificialViscosity o k self_alpha self_beta acc' a b).d_au - acc'.d_au) ∧
    ((pair_BE_MonaghanArtificialViscosity o k self_alpha self_beta acc a b).d_av - acc.d_av) = ((pair_BE_MonaghanArtificialViscosity o k self_alpha self_beta acc' a b).d_av - acc'.d_av) ∧
    ((pair_BE_MonaghanArtificialViscosity o k self_alpha self_beta acc a b).d_aw - acc.d_aw) = ((pair_BE_MonaghanArtificialViscosity o k self_alpha self_beta acc' a b).d_aw - acc'.d_aw) :=
  (law_BE_MonaghanArtificialViscosity o k self_alpha self_beta).additive a b acc acc'

include hk in
theorem pair_antisym_BE_MonaghanArtificialViscosity (acc acc' : Out_BE_MonaghanArtificialViscosity K) (a b : P K) :
    a.m * ((pair_BE_MonaghanArtificialViscosity o k self_alpha self_beta acc a b).d_au - acc.d_au) = -(b.m * ((pair_BE_MonaghanArtificialViscosity o k self_alpha self_beta acc' b a).d_au - acc'.d_au)) ∧
    a.m * ((pair_BE_MonaghanArtificialViscosity o k self_alpha self_beta acc a b).d_av - acc.d_av) = -(b.m * ((pair_BE_MonaghanArtificialViscosity o k self_alpha self_beta acc' b a).d_av - acc'.d_av)) ∧
    a.m * ((pair_BE_MonaghanArtificialViscosity o k self_alpha self_beta acc a b).d_aw - acc.d_aw) = -(b.m * ((pair_BE_MonaghanArtificialViscosity o k self_alpha self_beta acc' b a).d_aw - acc'.d_aw)) :=
  (law_BE_MonaghanArtificialViscosity o k self_alpha self_beta).antisym hk a b trivial acc acc'

include hk in
theorem central_BE_MonaghanArtificialViscosity (acc : Out_BE_MonaghanArtificialViscosity K) (a b : P K) :
    (a.x - b.x) * ((pair_BE_MonaghanArtificialViscosity o k self_alpha self_beta acc a b).d_av - acc.d_av) = (a.y - b.y) * ((pair_BE_MonaghanArtificialViscosity o k self_alpha self_beta acc a b).d_au - acc.d_au) ∧
    (a.y - b.y) * ((pair_BE_MonaghanArtificialViscosity o k self_alpha self_beta acc a b).d_aw - acc.d_aw) = (a.z - b.z) * ((pair_BE_MonaghanArtificialViscosity o k self_alpha self_beta acc a b).d_av - acc.d_av) ∧
    (a.z - b.z) * ((pair_BE_MonaghanArtificialViscosity o k self_alpha self_beta acc a b).d_au - acc.d_au) = (a.x - b.x) * ((pair_BE_MonaghanArtificialViscosity o k self_alpha self_beta acc a b).d_aw - acc.d_aw) :=
  (law_BE_MonaghanArtificialViscosity o k self_alpha self_beta).central hk a b acc

include hk in
theorem linear_momentum_BE_MonaghanArtificialViscosity {ι : Type} [Fintype ι] [DecidableEq ι] (p : ι → P K)
    (nbrs : ι → List ι) (hnd : ∀ i, (nbrs i).Nodup) (hsymm : ∀ i j, j ∈ nbrs i → i ∈ nbrs j)
    (init : ι → Out_BE_MonaghanArtificialViscosity K) (hinit : ∀ i, (init i).d_au = 0 ∧ (init i).d_av = 0 ∧ (init i).d_aw = 0) :
    ∑ i, (p i).m * ((nbrs i).foldl (fun acc j => pair_BE_MonaghanArtificialViscosity o k self_alpha self_beta acc (p i) (p j)) (init i)).d_au = 0 ∧
    ∑ i, (p i).m * ((nbrs i).foldl (fun acc j => pair_BE_MonaghanArtificialViscosity o k self_alpha self_beta acc (p i) (p j)) (init i)).d_av = 0 ∧
    ∑ i, (p i).m * ((nbrs i).foldl (fun acc j => pair_BE_MonaghanArtificialViscosity o k self_alpha self_beta acc (p i) (p j)) (init i)).d_aw = 0 :=
  (law_BE_MonaghanArtificialViscosity o k self_alpha self_beta).linear_momentum hk p nbrs hnd hsymm init hinit
    fun _ _ => trivial

include hk in
theorem angular_momentum_BE_MonaghanArtificialViscosity {ι : Type} [Fintype ι] [DecidableEq ι] (p : ι → P K)
    (nbrs : ι → List ι) (hnd : ∀ i, (nbrs i).Nodup) (hsymm : ∀ i j, j ∈ nbrs i → i ∈ nbrs j)
    (init : ι → Out_BE_MonaghanArtificialViscosity K) (hinit : ∀ i, (init i).d_au = 0 ∧ (init i).d_av = 0 ∧ (init i).d_aw = 0) :
    (∑ i, (p i).m * ((p i).x * ((nbrs i).foldl (fun acc j => pair_BE_MonaghanArtificialViscosity o k self_alpha self_beta acc (p i) (p j)) (init i)).d_av - (p i).y * ((nbrs i).foldl (fun acc j => pair_BE_MonaghanArtificialViscosity o k self_alpha self_beta acc (p i) (p j)) (init i)).d_au) = 0) ∧
    (∑ i, (p i).m * ((p i).y * ((nbrs i).foldl (fun acc j => pair_BE_MonaghanArtificialViscosity o k self_alpha self_beta acc (p i) (p j)) (init i)).d_aw - (p i).z * ((nbrs i).foldl (fun acc j => pair_BE_MonaghanArtificialViscosity o k self_alpha self_beta acc (p i) (p j)) (init i)).d_av) = 0) ∧
    (∑ i, (p i).m * ((p i).z * ((nbrs i).foldl (fun acc j => pair_BE_MonaghanArtificialViscosity o k self_alpha self_beta acc (p i) (p j)) (init i)).d_au - (p i).x * ((nbrs i).foldl (fun acc j => pair_BE_MonaghanArtificialViscosity o k self_alpha self_beta acc (p i) (p j)) (init i)).d_aw) = 0) :=
  (law_BE_MonaghanArtificialViscosity o k self_alpha self_beta).angular_momentum hk p nbrs hnd hsymm init hinit
    fun _ _ => trivial

end BE_MonaghanArtificialViscosity

/-! ## `pysph/sph/wc/transport_velocity.py.MomentumEquationPressureGradient` (TV_MomentumEquationPressureGradient) -/
section TV_MomentumEquationPressureGradient
variable (o : Ops K) (k : Kern K) {w g : K → K → K} (hk : Radial k w g) (self_pb : K)

theorem additive_TV_MomentumEquationPressureGradient (acc acc' : Out_TV_MomentumEquationPressureGradient K) (a b : P K) :
    ((pair_TV_MomentumEquationPressureGradient o k self_pb acc a b).d_au - acc.d_au) = ((pair_TV_MomentumEquationPressureGradient o k self_pb acc' a b).d_au - acc'.d_au) ∧
    ((pair_TV_MomentumEquationPressureGradient o k self_pb acc a b).d_av - acc.d_av) = ((pair_TV_MomentumEquationPressureGradient o k self_pb acc' a b).d_av - acc'.d_av) ∧
    ((pair_TV_MomentumEquationPressureGradient o k self_pb acc a b).d_aw - acc.d_aw) = ((pair_TV_MomentumEquationPressureGradient o k self_pb acc' a b).d_aw - acc'.d_aw) :=
  (law_TV_MomentumEquationPressureGradient o k self_pb).additive a b acc acc'

include hk in
theorem pair_antisym_TV_MomentumEquationPressureGradient (acc acc' : Out_TV_MomentumEquationPressureGradient K) (a b : P K) (ha : a.m ≠ 0) (hb : b.m ≠ 0) :
    a.m * ((pair_TV_MomentumEquationPressureGradient o k self_pb acc a b).d_au - acc.d_au) = -(b.m * ((pair_TV_MomentumEquationPressureGradient o k self_pb acc' b a).d_au - acc'.d_au)) ∧
    a.m * ((pair_TV_MomentumEquationPressureGradient o k self_pb acc a b).d_av - acc.d_av) = -(b.m * ((pair_TV_MomentumEquationPressureGradient o k self_pb acc' b a).d_av - acc'.d_av)) ∧
    a.m * ((pair_TV_MomentumEquationPressureGradient o k self_pb acc a b).d_aw - acc.d_aw) = -(b.m * ((pair_TV_MomentumEquationPressureGradient o k self_pb acc' b a).d_aw - acc'.d_aw)) :=
  (law_TV_MomentumEquationPressureGradient o k self_pb).antisym hk a b ⟨ha, hb⟩ acc acc'

include hk in
theorem central_TV_MomentumEquationPressureGradient (acc : Out_TV_MomentumEquationPressureGradient K) (a b : P K) :
    (a.x - b.x) * ((pair_TV_MomentumEquationPressureGradient o k self_pb acc a b).d_av - acc.d_av) = (a.y - b.y) * ((pair_TV_MomentumEquationPressureGradient o k self_pb acc a b).d_au - acc.d_au) ∧
    (a.y - b.y) * ((pair_TV_MomentumEquationPressureGradient o k self_pb acc a b).d_aw - acc.d_aw) = (a.z - b.z) * ((pair_TV_MomentumEquationPressureGradient o k self_pb acc a b).d_av - acc.d_av) ∧
    (a.z - b.z) * ((pair_TV_MomentumEquationPressureGradient o k self_pb acc a b).d_au - acc.d_au) = (a.x - b.x) * ((pair_TV_MomentumEquationPressureGradient o k self_pb acc a b).d_aw - acc.d_aw) :=
  (law_TV_MomentumEquationPressureGradient o k self_pb).central hk a b acc

include hk in
theorem linear_momentum_TV_MomentumEquationPressureGradient {ι : Type} [Fintype ι] [DecidableEq ι] (p : ι → P K)
    (nbrs : ι → List ι) (hnd : ∀ i, (nbrs i).Nodup) (hsymm : ∀ i j, j ∈ nbrs i → i ∈ nbrs j)
    (init : ι → Out_TV_MomentumEquationPressureGradient K) (hinit : ∀ i, (init i).d_au = 0 ∧ (init i).d_av = 0 ∧ (init i).d_aw = 0) (hm : ∀ i, (p i).m ≠ 0) :
    ∑ i, (p i).m * ((nbrs i).foldl (fun acc j => pair_TV_MomentumEquationPressureGradient o k self_pb acc (p i) (p j)) (init i)).d_au = 0 ∧
    ∑ i, (p i).m * ((nbrs i).foldl (fun acc j => pair_TV_MomentumEquationPressureGradient o k self_pb acc (p i) (p j)) (init i)).d_av = 0 ∧
    ∑ i, (p i).m * ((nbrs i).foldl (fun acc j => pair_TV_MomentumEquationPressureGradient o k self_pb acc (p i) (p j)) (init i)).d_aw = 0 :=
  (law_TV_MomentumEquationPressureGradient o k self_pb).linear_momentum hk p nbrs hnd hsymm init hinit
    fun i j => ⟨hm i, hm j⟩

include hk in
theorem angular_momentum_TV_MomentumEquationPressureGradient {ι : Type} [Fintype ι] [DecidableEq ι] (p : ι → P K)
    (nbrs : ι → List ι) (hnd : ∀ i, (nbrs i).Nodup) (hsymm : ∀ i j, j ∈ nbrs i → i ∈ nbrs j)
    (init : ι → Out_TV_MomentumEquationPressureGradient K) (hinit : ∀ i, (init i).d_au = 0 ∧ (init i).d_av = 0 ∧ (init i).d_aw = 0) (hm : ∀ i, (p i).m ≠ 0) :
    (∑ i, (p i).m * ((p i).x * ((nbrs i).foldl (fun acc j => pair_TV_MomentumEquationPressureGradient o k self_pb acc (p i) (p j)) (init i)).d_av - (p i).y * ((nbrs i).foldl (fun acc j => pair_TV_MomentumEquationPressureGradient o k self_pb acc (p i) (p j)) (init i)).d_au) = 0) ∧
    (∑ i, (p i).m * ((p i).y * ((nbrs i).foldl (fun acc j => pair_TV_MomentumEquationPressureGradient o k self_pb acc (p i) (p j)) (init i)).d_aw - (p i).z * ((nbrs i).foldl (fun acc j => pair_TV_MomentumEquationPressureGradient o k self_pb acc (p i) (p j)) (init i)).d_av) = 0) ∧
    (∑ i, (p i).m * ((p i).z * ((nbrs i).foldl (fun acc j => pair_TV_MomentumEquationPressureGradient o k self_pb acc (p i) (p j)) (init i)).d_au - (p i).x * ((nbrs i).foldl (fun acc j => pair_TV_MomentumEquationPressureGradient o k self_pb acc (p i) (p j)) (init i)).d_aw) = 0) :=
  (law_TV_MomentumEquationPressureGradient o k self_pb).angular_momentum hk p nbrs hnd hsymm init hinit
    fun i j => ⟨hm i, hm j⟩

end TV_MomentumEquationPressureGradient

/-! ## `pysph/sph/wc/transport_velocity.py.MomentumEquationViscosity` (TV_MomentumEquationViscosity) -/
section TV_MomentumEquationViscosity
variable (o : Ops K) (k : Kern K) {w g : K → K → K} (hk : Radial k w g) (self_nu : K)

theorem additive_TV_MomentumEquationViscosity (acc acc' : Out_TV_MomentumEquationViscosity K) (a b : P K) :
    ((pair_TV_MomentumEquationViscosity o k self_nu acc a b).d_au - acc.d_au) = ((pair_TV_MomentumEquationViscosity o k self_nu acc' a b).d_au - acc'.d_au) ∧
    ((pair_TV_MomentumEquationViscosity o k self_nu acc a b).d_av - acc.d_av) = ((pair_TV_MomentumEquationViscosity o k self_nu acc' a b).d_av - acc'.d_av) ∧
    ((pair_TV_MomentumEquationViscosity o k self_nu acc a b).d_aw - acc.d_aw) = ((pair_TV_MomentumEquationViscosity o k self_nu acc' a b).d_aw - acc'.d_aw) :=
  (law_TV_MomentumEquationViscosity o k self_nu).additive a b acc acc'

include hk in
theorem pair_antisym_TV_MomentumEquationViscosity (acc acc' : Out_TV_MomentumEquationViscosity K) (a b : P K) (ha : a.m ≠ 0) (hb : b.m ≠ 0) :
    a.m * ((pair_TV_MomentumEquationViscosity o k self_nu acc a b).d_au - acc.d_au) = -(b.m * ((pair_TV_MomentumEquationViscosity o k self_nu acc' b a).d_au - acc'.d_au)) ∧
    a.m * ((pair_TV_MomentumEquationViscosity o k self_nu acc a b).d_av - acc.d_av) = -(b.m * ((pair_TV_MomentumEquationViscosity o k self_nu acc' b a).d_av - acc'.d_av)) ∧
    a.m * ((pair_TV_MomentumEquationViscosity o k self_nu acc a b).d_aw - acc.d_aw) = -(b.m * ((pair_TV_MomentumEquationViscosity o k self_nu acc' b a).d_aw - acc'.d_aw)) :=
  (law_TV_MomentumEquationViscosity o k self_nu).antisym hk a b ⟨ha, hb⟩ acc acc'

include hk in
theorem linear_momentum_TV_MomentumEquationViscosity {ι : Type} [Fintype ι] [DecidableEq ι] (p : ι → P K)
    (nbrs : ι → List ι) (hnd : ∀ i, (nbrs i).Nodup) (hsymm : ∀ i j, j ∈ nbrs i → i ∈ nbrs j)
    (init : ι → Out_TV_MomentumEquationViscosity K) (hinit : ∀ i, (init i).d_au = 0 ∧ (init i).d_av = 0 ∧ (init i).d_aw = 0) (hm : ∀ i, (p i).m ≠ 0) :
    ∑ i, (p i).m * ((nbrs i).foldl (fun acc j => pair_TV_MomentumEquationViscosity o k self_nu acc (p i) (p j)) (init i)).d_au = 0 ∧
    ∑ i, (p i).m * ((nbrs i).foldl (fun acc j => pair_TV_MomentumEquationViscosity o k self_nu acc (p i) (p j)) (init i)).d_av = 0 ∧
    ∑ i, (p i).m * ((nbrs i).foldl (fun acc j => pair_TV_MomentumEquationViscosity o k self_nu acc (p i) (p j)) (init i)).d_aw = 0 :=
  (law_TV_MomentumEquationViscosity o k self_nu).linear_momentum hk p nbrs hnd hsymm init hinit
    fun i j => ⟨hm i, hm j⟩

end TV_MomentumEquationViscosity

/-! ## `pysph/sph/wc/transport_velocity.py.MomentumEquationArtificialViscosity` (TV_MomentumEquationArtificialViscosity) -/
section TV_MomentumEquationArtificialViscosity
variable (o : Ops K) (k : Kern K) {w g : K → K → K} (hk : Radial k w g) (self_alpha : K) (self_c0 : K)

theorem additive_TV_MomentumEquationArtificialViscosity (acc acc' : Out_TV_MomentumEquationArtificialViscosity K) (a b : P K) :
    ((pair_TV_MomentumEquationArtificialViscosity o k self_alpha self_c0 acc a b).d_au - acc.d_au) = ((pair_TV_MomentumEquationArtificialViscosity o k self_alpha self_c0 acc' a b).d_au - acc'.d_au) ∧
    ((pair_TV_MomentumEquationArtificialViscosity o k self_alpha self_c0 acc a b).d_av - acc.d_av) = ((pair_TV_MomentumEquationArtificialViscosity o k self_alpha self_c0 acc' a b).d_av - acc'.d_av) ∧
    ((pair_TV_MomentumEquationArtificialViscosity o k self_alpha self_c0 acc a b).d_aw - acc.d_aw) = ((pair_TV_MomentumEquationArtificialViscosity o k self_alpha self_c0 acc' a b).d_aw - acc'.d_aw) :=
  (law_TV_MomentumEquationArtificialViscosity o k self_alpha self_c0).additive a b acc acc'

include hk in
theorem pair_antisym_TV_MomentumEquationArtificialViscosity (acc acc' : Out_TV_MomentumEquationArtificialViscosity K) (a b : P K) :
    a.m * ((pair_TV_MomentumEquationArtificialViscosity o k self_alpha self_c0 acc a b).d_au - acc.d_au) = -(b.m * ((pair_TV_MomentumEquationArtificialViscosity o k self_alpha self_c0 acc' b a).d_au - acc'.d_au)) ∧
    a.m * ((pair_TV_MomentumEquationArtificialViscosity o k self_alpha self_c0 acc a b).d_av - acc.d_av) = -(b.m * ((pair_TV_MomentumEquationArtificialViscosity o k self_alpha self_c0 acc' b a).d_av - acc'.d_av)) ∧
    a.m * ((pair_TV_MomentumEquationArtificialViscosity o k self_alpha self_c0 acc a b).d_aw - acc.d_aw) = -(b.m * ((pair_TV_MomentumEquationArtificialViscosity o k self_alpha self_c0 acc' b a).d_aw - acc'.d_aw)) :=
  (law_TV_MomentumEquationArtificialViscosity o k self_alpha self_c0).antisym hk a b trivial acc acc'

include hk in
theorem central_TV_MomentumEquationArtificialViscosity (acc : Out_TV_MomentumEquationArtificialViscosity K) (a b : P K) :
    (a.x - b.x) * ((pair_TV_MomentumEquationArtificialViscosity o k self_alpha self_c0 acc a b).d_av - acc.d_av) = (a.y - b.y) * ((pair_TV_MomentumEquationArtificialViscosity o k self_alpha self_c0 acc a b).d_au - acc.d_au) ∧
    (a.y - b.y) * ((pair_TV_MomentumEquationArtificialViscosity o k self_alpha self_c0 acc a b).d_aw - acc.d_aw) = (a.z - b.z) * ((pair_TV_MomentumEquationArtificialViscosity o k self_alpha self_c0 acc a b).d_av - acc.d_av) ∧
    (a.z - b.z) * ((pair_TV_MomentumEquationArtificialViscosity o k self_alpha self_c0 acc a b).d_au - acc.d_au) = (a.x - b.x) * ((pair_TV_MomentumEquationArtificialViscosity o k self_alpha self_c0 acc a b).d_aw - acc.d_aw) :=
  (law_TV_MomentumEquationArtificialViscosity o k self_alpha self_c0).central hk a b acc

include hk in
theorem linear_momentum_TV_MomentumEquationArtificialViscosity {ι : Type} [Fintype ι] [DecidableEq ι] (p : ι → P K)
    (nbrs : ι → List ι) (hnd : ∀ i, (nbrs i).Nodup) (hsymm : ∀ i j, j ∈ nbrs i → i ∈ nbrs j)
    (init : ι → Out_TV_MomentumEquationArtificialViscosity K) (hinit : ∀ i, (init i).d_au = 0 ∧ (init i).d_av = 0 ∧ (init i).d_aw = 0) :
    ∑ i, (p i).m * ((nbrs i).foldl (fun acc j => pair_TV_MomentumEquationArtificialViscosity o k self_alpha self_c0 acc (p i) (p j)) (init i)).d_au = 0 ∧
    ∑ i, (p i).m * ((nbrs i).foldl (fun acc j => pair_TV_MomentumEquationArtificialViscosity o k self_alpha self_c0 acc (p i) (p j)) (init i)).d_av = 0 ∧
    ∑ i, (p i).m * ((nbrs i).foldl (fun acc j => pair_TV_MomentumEquationArtificialViscosity o k self_alpha self_c0 acc (p i) (p j)) (init i)).d_aw = 0 :=
  (law_TV_MomentumEquationArtificialViscosity o k self_alpha self_c0).linear_momentum hk p nbrs hnd hsymm init hinit
    fun _ _ => trivial

include hk in
theorem angular_momentum_TV_MomentumEquationArtificialViscosity {ι : Type} [Fintype ι] [DecidableEq ι] (p : ι → P K)
    (nbrs : ι → List ι) (hnd : ∀ i, (nbrs i).Nodup) (hsymm : ∀ i j, j ∈ nbrs i → i ∈ nbrs j)
    (init : ι → Out_TV_MomentumEquationArtificialViscosity K) (hinit : ∀ i, (init i).d_au = 0 ∧ (init i).d_av = 0 ∧ (init i).d_aw = 0) :
    (∑ i, (p i).m * ((p i).x * ((nbrs i).foldl (fun acc j => pair_TV_MomentumEquationArtificialViscosity o k self_alpha self_c0 acc (p i) (p j)) (init i)).d_av - (p i).y * ((nbrs i).foldl (fun acc j => pair_TV_MomentumEquationArtificialViscosity o k self_alpha self_c0 acc (p i) (p j)) (init i)).d_au) = 0) ∧
    (∑ i, (p i).m * ((p i).y * ((nbrs i).foldl (fun acc j => pair_TV_MomentumEquationArtificialViscosity o k self_alpha self_c0 acc (p i) (p j)) (init i)).d_aw - (p i).z * ((nbrs i).foldl (fun acc j => pair_TV_MomentumEquationArtificialViscosity o k self_alpha self_c0 acc (p i) (p j)) (init i)).d_av) = 0) ∧
    (∑ i, (p i).m * ((p i).z * ((nbrs i).foldl (fun acc j => pair_TV_MomentumEquationArtificialViscosity o k self_alpha self_c0 acc (p i) (p j)) (init i)).d_au - (p i).x * ((nbrs i).foldl (fun acc j => pair_TV_MomentumEquationArtificialViscosity o k self_alpha self_c0 acc (p i) (p j)) (init i)).d_aw) = 0) :=
  (law_TV_MomentumEquationArtificialViscosity o k self_alpha self_c0).angular_momentum hk p nbrs hnd hsymm init hinit
    fun _ _ => trivial

end TV_MomentumEquationArtificialViscosity

/-! ## `pysph/sph/wc/transport_velocity.py.MomentumEquationArtificialStress` (TV_MomentumEquationArtificialStress) -/
section TV_MomentumEquationArtificialStress
variable (o : Ops K) (k : Kern K) {w g : K → K → K} (hk : Radial k w g) 

theorem additive_TV_MomentumEquationArtificialStress (acc acc' : Out_TV_MomentumEquationArtificialStress K) (a b : P K) :
    ((pair_TV_MomentumEquationArtificialStress o k  acc a b).d_au - acc.d_au) = ((pair_TV_MomentumEquationArtificialStress o k  acc' a b).d_au - acc'.d_au) ∧
    ((pair_TV_MomentumEquationArtificialStress o k  acc a b).d_av - acc.d_av) = ((pair_TV_MomentumEquationArtificialStress o k  acc' a b).d_av - acc'.d_av) ∧
    ((pair_TV_MomentumEquationArtificialStress o k  acc a b).d_aw - acc.d_aw) = ((pair_TV_MomentumEquationArtificialStress o k  acc' a b).d_aw - acc'.d_aw) :=
  (law_TV_MomentumEquationArtificialStress o k).additive a b acc acc'

include hk in
theorem pair_antisym_TV_MomentumEquationArtificialStress (acc acc' : Out_TV_MomentumEquationArtificialStress K) (a b : P K) (ha : a.m ≠ 0) (hb : b.m ≠ 0) :
    a.m * ((pair_TV_MomentumEquationArtificialStress o k  acc a b).d_au - acc.d_au) = -(b.m * ((pair_TV_MomentumEquationArtificialStress o k  acc' b a).d_au - acc'.d_au)) ∧
    a.m * ((pair_TV_MomentumEquationArtificialStress o k  acc a b).d_av - acc.d_av) = -(b.m * ((pair_TV_MomentumEquationArtificialStress o k  acc' b a).d_av - acc'.d_av)) ∧
    a.m * ((pair_TV_MomentumEquationArtificialStress o k  acc a b).d_aw - acc.d_aw) = -(b.m * ((pair_TV_MomentumEquationArtificialStress o k  acc' b a).d_aw - acc'.d_aw)) :=
  (law_TV_MomentumEquationArtificialStress o k).antisym hk a b ⟨ha, hb⟩ acc acc'

include hk in
theorem linear_momentum_TV_MomentumEquationArtificialStress {ι : Type} [Fintype ι] [DecidableEq ι] (p : ι → P K)
    (nbrs : ι → List ι) (hnd : ∀ i, (nbrs i).Nodup) (hsymm : ∀ i j, j ∈ nbrs i → i ∈ nbrs j)
    (init : ι → Out_TV_MomentumEquationArtificialStress K) (hinit : ∀ i, (init i).d_au = 0 ∧ (init i).d_av = 0 ∧ (init i).d_aw = 0) (hm : ∀ i, (p i).m ≠ 0) :
    ∑ i, (p i).m * ((nbrs i).foldl (fun acc j => pair_TV_MomentumEquationArtificialStress o k  acc (p i) (p j)) (init i)).d_au = 0 ∧
    ∑ i, (p i).m * ((nbrs i).foldl (fun acc j => pair_TV_MomentumEquationArtificialStress o k  acc (p i) (p j)) (init i)).d_av = 0 ∧
    ∑ i, (p i).m * ((nbrs i).foldl (fun acc j => pair_TV_MomentumEquationArtificialStress o k  acc (p i) (p j)) (init i)).d_aw = 0 :=
  (law_TV_MomentumEquationArtificialStress o k).linear_momentum hk p nbrs hnd hsymm init hinit
    fun i j => ⟨hm i, hm j⟩

end TV_MomentumEquationArtificialStress

/-! ## `pysph/sph/wc/edac.py.MomentumEquation` (ED_MomentumEquation) -/
section ED_MomentumEquation
variable (o : Ops K) (k : Kern K) {w g : K → K → K} (hk : Radial k w g) 

theorem additive_ED_MomentumEquation (acc acc' : Out_ED_MomentumEquation K) (a b : P K) :
    ((pair_ED_MomentumEquation o k  acc a b).d_au - acc.d_au) = ((pair_ED_MomentumEquation o k  acc' a b).d_au - acc'.d_au) ∧
    ((pair_ED_MomentumEquation o k  acc a b).d_av - acc.d_av) = ((pair_ED_MomentumEquation o k  acc' a b).d_av - acc'.d_av) ∧
    ((pair_ED_MomentumEquation o k  acc a b).d_aw - acc.d_aw) = ((pair_ED_MomentumEquation o k  acc' a b).d_aw - acc'.d_aw) :=
  (law_ED_MomentumEquation o k).additive a b acc acc'

include hk in
theorem pair_antisym_ED_MomentumEquation (acc acc' : Out_ED_MomentumEquation K) (a b : P K) (ha : a.m ≠ 0) (hb : b.m ≠ 0) :
    a.m * ((pair_ED_MomentumEquation o k  acc a b).d_au - acc.d_au) = -(b.m * ((pair_ED_MomentumEquation o k  acc' b a).d_au - acc'.d_au)) ∧
    a.m * ((pair_ED_MomentumEquation o k  acc a b).d_av - acc.d_av) = -(b.m * ((pair_ED_MomentumEquation o k  acc' b a).d_av - acc'.d_av)) ∧
    a.m * ((pair_ED_MomentumEquation o k  acc a b).d_aw - acc.d_aw) = -(b.m * ((pair_ED_MomentumEquation o k  acc' b a).d_aw - acc'.d_aw)) :=
  (law_ED_MomentumEquation o k).antisym hk a b ⟨ha, hb⟩ acc acc'

include hk in
theorem central_ED_MomentumEquation (acc : Out_ED_MomentumEquation K) (a b : P K) :
    (a.x - b.x) * ((pair_ED_MomentumEquation o k  acc a b).d_av - acc.d_av) = (a.y - b.y) * ((pair_ED_MomentumEquation o k  acc a b).d_au - acc.d_au) ∧
    (a.y - b.y) * ((pair_ED_MomentumEquation o k  acc a b).d_aw - acc.d_aw) = (a.z - b.z) * ((pair_ED_MomentumEquation o k  acc a b).d_av - acc.d_av) ∧
    (a.z - b.z) * ((pair_ED_MomentumEquation o k  acc a b).d_au - acc.d_au) = (a.x - b.x) * ((pair_ED_MomentumEquation o k  acc a b).d_aw - acc.d_aw) :=
  (law_ED_MomentumEquation o k).central hk a b acc

include hk in
theorem linear_momentum_ED_MomentumEquation {ι : Type} [Fintype ι] [DecidableEq ι] (p : ι → P K)
    (nbrs : ι → List ι) (hnd : ∀ i, (nbrs i).Nodup) (hsymm : ∀ i j, j ∈ nbrs i → i ∈ nbrs j)
    (init : ι → Out_ED_MomentumEquation K) (hinit : ∀ i, (init i).d_au = 0 ∧ (init i).d_av = 0 ∧ (init i).d_aw = 0) (hm : ∀ i, (p i).m ≠ 0) :
    ∑ i, (p i).m * ((nbrs i).foldl (fun acc j => pair_ED_MomentumEquation o k  acc (p i) (p j)) (init i)).d_au = 0 ∧
    ∑ i, (p i).m * ((nbrs i).foldl (fun acc j => pair_ED_MomentumEquation o k  acc (p i) (p j)) (init i)).d_av = 0 ∧
    ∑ i, (p i).m * ((nbrs i).foldl (fun acc j => pair_ED_MomentumEquation o k  acc (p i) (p j)) (init i)).d_aw = 0 :=
  (law_ED_MomentumEquation o k).linear_momentum hk p nbrs hnd hsymm init hinit
    fun i j => ⟨hm i, hm j⟩

include hk in
theorem angular_momentum_ED_MomentumEquation {ι : Type} [Fintype ι] [DecidableEq ι] (p : ι → P K)
    (nbrs : ι → List ι) (hnd : ∀ i, (nbrs i).Nodup) (hsymm : ∀ i j, j ∈ nbrs i → i ∈ nbrs j)
    (init : ι → Out_ED_MomentumEquation K) (hinit : ∀ i, (init i).d_au = 0 ∧ (init i).d_av = 0 ∧ (init i).d_aw = 0) (hm : ∀ i, (p i).m ≠ 0) :
    (∑ i, (p i).m * ((p i).x * ((nbrs i).foldl (fun acc j => pair_ED_MomentumEquation o k  acc (p i) (p j)) (init i)).d_av - (p i).y * ((nbrs i).foldl (fun acc j => pair_ED_MomentumEquation o k  acc (p i) (p j)) (init i)).d_au) = 0) ∧
    (∑ i, (p i).m * ((p i).y * ((nbrs i).foldl (fun acc j => pair_ED_MomentumEquation o k  acc (p i) (p j)) (init i)).d_aw - (p i).z * ((nbrs i).foldl (fun acc j => pair_ED_MomentumEquation o k  acc (p i) (p j)) (init i)).d_av) = 0) ∧
    (∑ i, (p i).m * ((p i).z * ((nbrs i).foldl (fun acc j => pair_ED_MomentumEquation o k  acc (p i) (p j)) (init i)).d_au - (p i).x * ((nbrs i).foldl (fun acc j => pair_ED_MomentumEquation o k  acc (p i) (p j)) (init i)).d_aw) = 0) :=
  (law_ED_MomentumEquation o k).angular_momentum hk p nbrs hnd hsymm init hinit
    fun i j => ⟨hm i, hm j⟩

end ED_MomentumEquation

/-! ## `pysph/sph/wc/edac.py.MomentumEquationPressureGradient` (ED_MomentumEquationPressureGradient) -/
section ED_MomentumEquationPressureGradient
variable (o : Ops K) (k : Kern K) {w g : K → K → K} (hk : Radial k w g) (self_pb : K)

theorem additive_ED_MomentumEquationPressureGradient (acc acc' : Out_ED_MomentumEquationPressureGradient K) (a b : P K) :
    ((pair_ED_MomentumEquationPressureGradient o k self_pb acc a b).d_au - acc.d_au) = ((pair_ED_MomentumEquationPressureGradient o k self_pb acc' a b).d_au - acc'.d_au) ∧
    ((pair_ED_MomentumEquationPressureGradient o k self_pb acc a b).d_av - acc.d_av) = ((pair_ED_MomentumEquationPressureGradient o k self_pb acc' a b).d_av - acc'.d_av) ∧
    ((pair_ED_MomentumEquationPressureGradient o k self_pb acc a b).d_aw - acc.d_aw) = ((pair_ED_MomentumEquationPressureGradient o k self_pb acc' a b).d_aw - acc'.d_aw) :=
  (law_ED_MomentumEquationPressureGradient o k self_pb).additive a b acc acc'

include hk in
/-- for a uniform average pressure only -/
theorem pair_antisym_ED_MomentumEquationPressureGradient (acc acc' : Out_ED_MomentumEquationPressureGradient K) (a b : P K) (hp : a.pavg = b.pavg) (ha : a.m ≠ 0) (hb : b.m ≠ 0) :
    a.m * ((pair_ED_MomentumEquationPressureGradient o k self_pb acc a b).d_au - acc.d_au) = -(b.m * ((pair_ED_MomentumEquationPressureGradient o k self_pb acc' b a).d_au - acc'.d_au)) ∧
    a.m * ((pair_ED_MomentumEquationPressureGradient o k self_pb acc a b).d_av - acc.d_av) = -(b.m * ((pair_ED_MomentumEquationPressureGradient o k self_pb acc' b a).d_av - acc'.d_av)) ∧
    a.m * ((pair_ED_MomentumEquationPressureGradient o k self_pb acc a b).d_aw - acc.d_aw) = -(b.m * ((pair_ED_MomentumEquationPressureGradient o k self_pb acc' b a).d_aw - acc'.d_aw)) :=
  (law_ED_MomentumEquationPressureGradient o k self_pb).antisym hk a b ⟨hp, ha, hb⟩ acc acc'

include hk in
theorem central_ED_MomentumEquationPressureGradient (acc : Out_ED_MomentumEquationPressureGradient K) (a b : P K) :
    (a.x - b.x) * ((pair_ED_MomentumEquationPressureGradient o k self_pb acc a b).d_av - acc.d_av) = (a.y - b.y) * ((pair_ED_MomentumEquationPressureGradient o k self_pb acc a b).d_au - acc.d_au) ∧
    (a.y - b.y) * ((pair_ED_MomentumEquationPressureGradient o k self_pb acc a b).d_aw - acc.d_aw) = (a.z - b.z) * ((pair_ED_MomentumEquationPressureGradient o k self_pb acc a b).d_av - acc.d_av) ∧
    (a.z - b.z) * ((pair_ED_MomentumEquationPressureGradient o k self_pb acc a b).d_au - acc.d_au) = (a.x - b.x) * ((pair_ED_MomentumEquationPressureGradient o k self_pb acc a b).d_aw - acc.d_aw) :=
  (law_ED_MomentumEquationPressureGradient o k self_pb).central hk a b acc

include hk in
theorem linear_momentum_ED_MomentumEquationPressureGradient {ι : Type} [Fintype ι] [DecidableEq ι] (p : ι → P K)
    (nbrs : ι → List ι) (hnd : ∀ i, (nbrs i).Nodup) (hsymm : ∀ i j, j ∈ nbrs i → i ∈ nbrs j)
    (init : ι → Out_ED_MomentumEquationPressureGradient K) (hinit : ∀ i, (init i).d_au = 0 ∧ (init i).d_av = 0 ∧ (init i).d_aw = 0) (hp_all : ∀ i j, (p i).pavg = (p j).pavg) (hm : ∀ i, (p i).m ≠ 0) :
    ∑ i, (p i).m * ((nbrs i).foldl (fun acc j => pair_ED_MomentumEquationPressureGradient o k self_pb acc (p i) (p j)) (init i)).d_au = 0 ∧
    ∑ i, (p i).m * ((nbrs i).foldl (fun acc j => pair_ED_MomentumEquationPressureGradient o k self_pb acc (p i) (p j)) (init i)).d_av = 0 ∧
    ∑ i, (p i).m * ((nbrs i).foldl (fun acc j => pair_ED_MomentumEquationPressureGradient o k self_pb acc (p i) (p j)) (init i)).d_aw = 0 :=
  (law_ED_MomentumEquationPressureGradient o k self_pb).linear_momentum hk p nbrs hnd hsymm init hinit
    fun i j => ⟨hp_all i j, hm i, hm j⟩

include hk in
theorem angular_momentum_ED_MomentumEquationPressureGradient {ι : Type} [Fintype ι] [DecidableEq ι] (p : ι → P K)
    (nbrs : ι → List ι) (hnd : ∀ i, (nbrs i).Nodup) (hsymm : ∀ i j, j ∈ nbrs i → i ∈ nbrs j)
    (init : ι → Out_ED_MomentumEquationPressureGradient K) (hinit : ∀ i, (init i).d_au = 0 ∧ (init i).d_av = 0 ∧ (init i).d_aw = 0) (hp_all : ∀ i j, (p i).pavg = (p j).pavg) (hm : ∀ i, (p i).m ≠ 0) :
    (∑ i, (p i).m * ((p i).x * ((nbrs i).foldl (fun acc j => pair_ED_MomentumEquationPressureGradient o k self_pb acc (p i) (p j)) (init i)).d_av - (p i).y * ((nbrs i).foldl (fun acc j => pair_ED_MomentumEquationPressureGradient o k self_pb acc (p i) (p j)) (init i)).d_au) = 0) ∧
    (∑ i, (p i).m * ((p i).y * ((nbrs i).foldl (fun acc j => pair_ED_MomentumEquationPressureGradient o k self_pb acc (p i) (p j)) (init i)).d_aw - (p i).z * ((nbrs i).foldl (fun acc j => pair_ED_MomentumEquationPressureGradient o k self_pb acc (p i) (p j)) (init i)).d_av) = 0) ∧
    (∑ i, (p i).m * ((p i).z * ((nbrs i).foldl (fun acc j => pair_ED_MomentumEquationPressureGradient o k self_pb acc (p i) (p j)) (init i)).d_au - (p i).x * ((nbrs i).foldl (fun acc j => pair_ED_MomentumEquationPressureGradient o k self_pb acc (p i) (p j)) (init i)).d_aw) = 0) :=
  (law_ED_MomentumEquationPressureGradient o k self_pb).angular_momentum hk p nbrs hnd hsymm init hinit
    fun i j => ⟨hp_all i j, hm i, hm j⟩

end ED_MomentumEquationPressureGradient

/-! ## `pysph/sph/wc/viscosity.py.LaminarViscosity` (VI_LaminarViscosity) -/
section VI_LaminarViscosity
variable (o : Ops K) (k : Kern K) {w g : K → K → K} (hk : Radial k w g) (self_eta : K) (self_nu : K)

theorem additive_VI_LaminarViscosity (acc acc' : Out_VI_LaminarViscosity K) (a b : P K) :
    ((pair_VI_LaminarViscosity o k self_eta self_nu acc a b).d_au - acc.d_au) = ((pair_VI_LaminarViscosity o k self_eta self_nu acc' a b).d_au - acc'.d_au) ∧
    ((pair_VI_LaminarViscosity o k self_eta self_nu acc a b).d_av - acc.d_av) = ((pair_VI_LaminarViscosity o k self_eta self_nu acc' a b).d_av - acc'.d_av) ∧
    ((pair_VI_LaminarViscosity o k self_eta self_nu acc a b).d_aw - acc.d_aw) = ((pair_VI_LaminarViscosity o k self_eta self_nu acc' a b).d_aw - acc'.d_aw) :=
  (law_VI_LaminarViscosity o k self_eta self_nu).additive a b acc acc'

include hk in
theorem pair_antisym_VI_LaminarViscosity (acc acc' : Out_VI_LaminarViscosity K) (a b : P K) :
    a.m * ((pair_VI_LaminarViscosity o k self_eta self_nu acc a b).d_au - acc.d_au) = -(b.m * ((pair_VI_LaminarViscosity o k self_eta self_nu acc' b a).d_au - acc'.d_au)) ∧
    a.m * ((pair_VI_LaminarViscosity o k self_eta self_nu acc a b).d_av - acc.d_av) = -(b.m * ((pair_VI_LaminarViscosity o k self_eta self_nu acc' b a).d_av - acc'.d_av)) ∧
    a.m * ((pair_VI_LaminarViscosity o k self_eta self_nu acc a b).d_aw - acc.d_aw) = -(b.m * ((pair_VI_LaminarViscosity o k self_eta self_nu acc' b a).d_aw - acc'.d_aw)) :=
  (law_VI_LaminarViscosity o k self_eta self_nu).antisym hk a b trivial acc acc'

include hk in
theorem linear_momentum_VI_LaminarViscosity {ι : Type} [Fintype ι] [DecidableEq ι] (p : ι → P K)
    (nbrs : ι → List ι) (hnd : ∀ i, (nbrs i).Nodup) (hsymm : ∀ i j, j ∈ nbrs i → i ∈ nbrs j)
    (init : ι → Out_VI_LaminarViscosity K) (hinit : ∀ i, (init i).d_au = 0 ∧ (init i).d_av = 0 ∧ (init i).d_aw = 0) :
    ∑ i, (p i).m * ((nbrs i).foldl (fun acc j => pair_VI_LaminarViscosity o k self_eta self_nu acc (p i) (p j)) (init i)).d_au = 0 ∧
    ∑ i, (p i).m * ((nbrs i).foldl (fun acc j => pair_VI_LaminarViscosity o k self_eta self_nu acc (p i) (p j)) (init i)).d_av = 0 ∧
    ∑ i, (p i).m * ((nbrs i).foldl (fun acc j => pair_VI_LaminarViscosity o k self_eta self_nu acc (p i) (p j)) (init i)).d_aw = 0 :=
  (law_VI_LaminarViscosity o k self_eta self_nu).linear_momentum hk p nbrs hnd hsymm init hinit
    fun _ _ => trivial

end VI_LaminarViscosity

/-! ## `pysph/sph/wc/viscosity.py.MonaghanSignalViscosityFluids` (VI_MonaghanSignalViscosityFluids) -/
section VI_MonaghanSignalViscosityFluids
variable (o : Ops K) (k : Kern K) {w g : K → K → K} (hk : Radial k w g) (self_alpha : K)

theorem additive_VI_MonaghanSignalViscosityFluids (acc acc' : Out_VI_MonaghanSignalViscosityFluids K) (a b : P K) :
    ((pair_VI_MonaghanSignalViscosityFluids o k self_alpha acc a b).d_au - acc.d_au) = ((pair_VI_MonaghanSignalViscosityFluids o k self_alpha acc' a b).d_au - acc'.d_au) ∧
    ((pair_VI_MonaghanSignalViscosityFluids o k self_alpha acc a b).d_av - acc.d_av) = ((pair_VI_MonaghanSignalViscosityFluids o k self_alpha acc' a b).d_av - acc'.d_av) ∧
    ((pair_VI_MonaghanSignalViscosityFluids o k self_alpha acc a b).d_aw - acc.d_aw) = ((pair_VI_MonaghanSignalViscosityFluids o k self_alpha acc' a b).d_aw - acc'.d_aw) :=
  (law_VI_MonaghanSignalViscosityFluids o k self_alpha).additive a b acc acc'

include hk in
theorem pair_antisym_VI_MonaghanSignalViscosityFluids (acc acc' : Out_VI_MonaghanSignalViscosityFluids K) (a b : P K) :
    a.m * ((pair_VI_MonaghanSignalViscosityFluids o k self_alpha acc a b).d_au - acc.d_au) = -(b.m * ((pair_VI_MonaghanSignalViscosityFluids o k self_alpha acc' b a).d_au - acc'.d_au)) ∧
    a.m * ((pair_VI_MonaghanSignalViscosityFluids o k self_alpha acc a b).d_av - acc.d_av) = -(b.m * ((pair_VI_MonaghanSignalViscosityFluids o k self_alpha acc' b a).d_av - acc'.d_av)) ∧
    a.m * ((pair_VI_MonaghanSignalViscosityFluids o k self_alpha acc a b).d_aw - acc.d_aw) = -(b.m * ((pair_VI_MonaghanSignalViscosityFluids o k self_alpha acc' b a).d_aw - acc'.d_aw)) :=
  (law_VI_MonaghanSignalViscosityFluids o k self_alpha).antisym hk a b trivial acc acc'

include hk in
theorem central_VI_MonaghanSignalViscosityFluids (acc : Out_VI_MonaghanSignalViscosityFluids K) (a b : P K) :
    (a.x - b.x) * ((pair_VI_MonaghanSignalViscosityFluids o k self_alpha acc a b).d_av - acc.d_av) = (a.y - b.y) * ((pair_VI_MonaghanSignalViscosityFluids o k self_alpha acc a b).d_au - acc.d_au) ∧
    (a.y - b.y) * ((pair_VI_MonaghanSignalViscosityFluids o k self_alpha acc a b).d_aw - acc.d_aw) = (a.z - b.z) * ((pair_VI_MonaghanSignalViscosityFluids o k self_alpha acc a b).d_av - acc.d_av) ∧
    (a.z - b.z) * ((pair_VI_MonaghanSignalViscosityFluids o k self_alpha acc a b).d_au - acc.d_au) = (a.x - b.x) * ((pair_VI_MonaghanSignalViscosityFluids o k self_alpha acc a b).d_aw - acc.d_aw) :=
  (law_VI_MonaghanSignalViscosityFluids o k self_alpha).central hk a b acc

include hk in
theorem linear_momentum_VI_MonaghanSignalViscosityFluids {ι : Type} [Fintype ι] [DecidableEq ι] (p : ι → P K)
    (nbrs : ι → List ι) (hnd : ∀ i, (nbrs i).Nodup) (hsymm : ∀ i j, j ∈ nbrs i → i ∈ nbrs j)
    (init : ι → Out_VI_MonaghanSignalViscosityFluids K) (hinit : ∀ i, (init i).d_au = 0 ∧ (init i).d_av = 0 ∧ (init i).d_aw = 0) :
    ∑ i, (p i).m * ((nbrs i).foldl (fun acc j => pair_VI_MonaghanSignalViscosityFluids o k self_alpha acc (p i) (p j)) (init i)).d_au = 0 ∧
    ∑ i, (p i).m * ((nbrs i).foldl (fun acc j => pair_VI_MonaghanSignalViscosityFluids o k self_alpha acc (p i) (p j)) (init i)).d_av = 0 ∧
    ∑ i, (p i).m * ((nbrs i).foldl (fun acc j => pair_VI_MonaghanSignalViscosityFluids o k self_alpha acc (p i) (p j)) (init i)).d_aw = 0 :=
  (law_VI_MonaghanSignalViscosityFluids o k self_alpha).linear_momentum hk p nbrs hnd hsymm init hinit
    fun _ _ => trivial

include hk in
theorem angular_momentum_VI_MonaghanSignalViscosityFluids {ι : Type} [Fintype ι] [DecidableEq ι] (p : ι → P K)
    (nbrs : ι → List ι) (hnd : ∀ i, (nbrs i).Nodup) (hsymm : ∀ i j, j ∈ nbrs i → i ∈ nbrs j)
    (init : ι → Out_VI_MonaghanSignalViscosityFluids K) (hinit : ∀ i, (init i).d_au = 0 ∧ (init i).d_av = 0 ∧ (init i).d_aw = 0) :
    (∑ i, (p i).m * ((p i).x * ((nbrs i).foldl (fun acc j => pair_VI_MonaghanSignalViscosityFluids o k self_alpha acc (p i) (p j)) (init i)).d_av - (p i).y * ((nbrs i).foldl (fun acc j => pair_VI_MonaghanSignalViscosityFluids o k self_alpha acc (p i) (p j)) (init i)).d_au) = 0) ∧
    (∑ i, (p i).m * ((p i).y * ((nbrs i).foldl (fun acc j => pair_VI_MonaghanSignalViscosityFluids o k self_alpha acc (p i) (p j)) (init i)).d_aw - (p i).z * ((nbrs i).foldl (fun acc j => pair_VI_MonaghanSignalViscosityFluids o k self_alpha acc (p i) (p j)) (init i)).d_av) = 0) ∧
    (∑ i, (p i).m * ((p i).z * ((nbrs i).foldl (fun acc j => pair_VI_MonaghanSignalViscosityFluids o k self_alpha acc (p i) (p j)) (init i)).d_au - (p i).x * ((nbrs i).foldl (fun acc j => pair_VI_MonaghanSignalViscosityFluids o k self_alpha acc (p i) (p j)) (init i)).d_aw) = 0) :=
  (law_VI_MonaghanSignalViscosityFluids o k self_alpha).angular_momentum hk p nbrs hnd hsymm init hinit
    fun _ _ => trivial

end VI_MonaghanSignalViscosityFluids

/-! ## `pysph/sph/wc/viscosity.py.ClearyArtificialViscosity` (VI_ClearyArtificialViscosity) -/
section VI_ClearyArtificialViscosity
variable (o : Ops K) (k : Kern K) {w g : K → K → K} (hk : Radial k w g) (self_alpha : K) (self_factor : K)

theorem additive_VI_ClearyArtificialViscosity (acc acc' : Out_VI_ClearyArtificialViscosity K) (a b : P K) :
    ((pair_VI_ClearyArtificialViscosity o k self_alpha self_factor acc a b).d_au - acc.d_au) = ((pair_VI_ClearyArtificialViscosity o k self_alpha self_factor acc' a b).d_au - acc'.d_au) ∧
    ((pair_VI_ClearyArtificialViscosity o k self_alpha self_factor acc a b).d_av - acc.d_av) = ((pair_VI_ClearyArtificialViscosity o k self_alpha self_factor acc' a b).d_av - acc'.d_av) ∧
    ((pair_VI_ClearyArtificialViscosity o k self_alpha self_factor acc a b).d_aw - acc.d_aw) = ((pair_VI_ClearyArtificialViscosity o k self_alpha self_factor acc' a b).d_aw - acc'.d_aw) :=
  (law_VI_ClearyArtificialViscosity o k self_alpha self_factor).additive a b acc acc'

include hk in
/-- (the mass hypotheses are not used) -/
theorem pair_antisym_VI_ClearyArtificialViscosity (acc acc' : Out_VI_ClearyArtificialViscosity K) (a b : P K) (ha : a.m ≠ 0) (hb : b.m ≠ 0) :
    a.m * ((pair_VI_ClearyArtificialViscosity o k self_alpha self_factor acc a b).d_au - acc.d_au) = -(b.m * ((pair_VI_ClearyArtificialViscosity o k self_alpha self_factor acc' b a).d_au - acc'.d_au)) ∧
    a.m * ((pair_VI_ClearyArtificialViscosity o k self_alpha self_factor acc a b).d_av - acc.d_av) = -(b.m * ((pair_VI_ClearyArtificialViscosity o k self_alpha self_factor acc' b a).d_av - acc'.d_av)) ∧
    a.m * ((pair_VI_ClearyArtificialViscosity o k self_alpha self_factor acc a b).d_aw - acc.d_aw) = -(b.m * ((pair_VI_ClearyArtificialViscosity o k self_alpha self_factor acc' b a).d_aw - acc'.d_aw)) :=
  (law_VI_ClearyArtificialViscosity o k self_alpha self_factor).antisym hk a b trivial acc acc'

include hk in
theorem central_VI_ClearyArtificialViscosity (acc : Out_VI_ClearyArtificialViscosity K) (a b : P K) :
    (a.x - b.x) * ((pair_VI_ClearyArtificialViscosity o k self_alpha self_factor acc a b).d_av - acc.d_av) = (a.y - b.y) * ((pair_VI_ClearyArtificialViscosity o k self_alpha self_factor acc a b).d_au - acc.d_au) ∧
    (a.y - b.y) * ((pair_VI_ClearyArtificialViscosity o k self_alpha self_factor acc a b).d_aw - acc.d_aw) = (a.z - b.z) * ((pair_VI_ClearyArtificialViscosity o k self_alpha self_factor acc a b).d_av - acc.d_av) ∧
    (a.z - b.z) * ((pair_VI_ClearyArtificialViscosity o k self_alpha self_factor acc a b).d_au - acc.d_au) = (a.x - b.x) * ((pair_VI_ClearyArtificialViscosity o k self_alpha self_factor acc a b).d_aw - acc.d_aw) :=
  (law_VI_ClearyArtificialViscosity o k self_alpha self_factor).central hk a b acc

include hk in
theorem linear_momentum_VI_ClearyArtificialViscosity {ι : Type} [Fintype ι] [DecidableEq ι] (p : ι → P K)
    (nbrs : ι → List ι) (hnd : ∀ i, (nbrs i).Nodup) (hsymm : ∀ i j, j ∈ nbrs i → i ∈ nbrs j)
    (init : ι → Out_VI_ClearyArtificialViscosity K) (hinit : ∀ i, (init i).d_au = 0 ∧ (init i).d_av = 0 ∧ (init i).d_aw = 0) (hm : ∀ i, (p i).m ≠ 0) :
    ∑ i, (p i).m * ((nbrs i).foldl (fun acc j => pair_VI_ClearyArtificialViscosity o k self_alpha self_factor acc (p i) (p j)) (init i)).d_au = 0 ∧
    ∑ i, (p i).m * ((nbrs i).foldl (fun acc j => pair_VI_ClearyArtificialViscosity o k self_alpha self_factor acc (p i) (p j)) (init i)).d_av = 0 ∧
    ∑ i, (p i).m * ((nbrs i).foldl (fun acc j => pair_VI_ClearyArtificialViscosity o k self_alpha self_factor acc (p i) (p j)) (init i)).d_aw = 0 :=
  (law_VI_ClearyArtificialViscosity o k self_alpha self_factor).linear_momentum hk p nbrs hnd hsymm init hinit
    fun _ _ => trivial

include hk in
theorem angular_momentum_VI_ClearyArtificialViscosity {ι : Type} [Fintype ι] [DecidableEq ι] (p : ι → P K)
    (nbrs : ι → List ι) (hnd : ∀ i, (nbrs i).Nodup) (hsymm : ∀ i j, j ∈ nbrs i → i ∈ nbrs j)
    (init : ι → Out_VI_ClearyArtificialViscosity K) (hinit : ∀ i, (init i).d_au = 0 ∧ (init i).d_av = 0 ∧ (init i).d_aw = 0) (hm : ∀ i, (p i).m ≠ 0) :
    (∑ i, (p i).m * ((p i).x * ((nbrs i).foldl (fun acc j => pair_VI_ClearyArtificialViscosity o k self_alpha self_factor acc (p i) (p j)) (init i)).d_av - (p i).y * ((nbrs i).foldl (fun acc j => pair_VI_ClearyArtificialViscosity o k self_alpha self_factor acc (p i) (p j)) (init i)).d_au) = 0) ∧
    (∑ i, (p i).m * ((p i).y * ((nbrs i).foldl (fun acc j => pair_VI_ClearyArtificialViscosity o k self_alpha self_factor acc (p i) (p j)) (init i)).d_aw - (p i).z * ((nbrs i).foldl (fun acc j => pair_VI_ClearyArtificialViscosity o k self_alpha self_factor acc (p i) (p j)) (init i)).d_av) = 0) ∧
    (∑ i, (p i).m * ((p i).z * ((nbrs i).foldl (fun acc j => pair_VI_ClearyArtificialViscosity o k self_alpha self_factor acc (p i) (p j)) (init i)).d_au - (p i).x * ((nbrs i).foldl (fun acc j => pair_VI_ClearyArtificialViscosity o k self_alpha self_factor acc (p i) (p j)) (init i)).d_aw) = 0) :=
  (law_VI_ClearyArtificialViscosity o k self_alpha self_factor).angular_momentum hk p nbrs hnd hsymm init hinit
    fun _ _ => trivial

end VI_ClearyArtificialViscosity

/-! ## `pysph/sph/wc/viscosity.py.LaminarViscosityDeltaSPH` (VI_LaminarViscosityDeltaSPH) -/
section VI_LaminarViscosityDeltaSPH
variable (o : Ops K) (k : Kern K) {w g : K → K → K} (hk : Radial k w g) (self_dim : K) (self_nu : K) (self_rho0 : K)

theorem additive_VI_LaminarViscosityDeltaSPH (acc acc' : Out_VI_LaminarViscosityDeltaSPH K) (a b : P K) :
    ((pair_VI_LaminarViscosityDeltaSPH o k self_dim self_nu self_rho0 acc a b).d_au - acc.d_au) = ((pair_VI_LaminarViscosityDeltaSPH o k self_dim self_nu self_rho0 acc' a b).d_au - acc'.d_au) ∧
    ((pair_VI_LaminarViscosityDeltaSPH o k self_dim self_nu self_rho0 acc a b).d_av - acc.d_av) = ((pair_VI_LaminarViscosityDeltaSPH o k self_dim self_nu self_rho0 acc' a b).d_av - acc'.d_av) ∧
    ((pair_VI_LaminarViscosityDeltaSPH o k self_dim self_nu self_rho0 acc a b).d_aw - acc.d_aw) = ((pair_VI_LaminarViscosityDeltaSPH o k self_dim self_nu self_rho0 acc' a b).d_aw - acc'.d_aw) :=
  (law_VI_LaminarViscosityDeltaSPH o k self_dim self_nu self_rho0).additive a b acc acc'

include hk in
theorem pair_antisym_VI_LaminarViscosityDeltaSPH (acc acc' : Out_VI_LaminarViscosityDeltaSPH K) (a b : P K) :
    a.m * ((pair_VI_LaminarViscosityDeltaSPH o k self_dim self_nu self_rho0 acc a b).d_au - acc.d_au) = -(b.m * ((pair_VI_LaminarViscosityDeltaSPH o k self_dim self_nu self_rho0 acc' b a).d_au - acc'.d_au)) ∧
    a.m * ((pair_VI_LaminarViscosityDeltaSPH o k self_dim self_nu self_rho0 acc a b).d_av - acc.d_av) = -(b.m * ((pair_VI_LaminarViscosityDeltaSPH o k self_dim self_nu self_rho0 acc' b a).d_av - acc'.d_av)) ∧
    a.m * ((pair_VI_LaminarViscosityDeltaSPH o k self_dim self_nu self_rho0 acc a b).d_aw - acc.d_aw) = -(b.m * ((pair_VI_LaminarViscosityDeltaSPH o k self_dim self_nu self_rho0 acc' b a).d_aw - acc'.d_aw)) :=
  (law_VI_LaminarViscosityDeltaSPH o k self_dim self_nu self_rho0).antisym hk a b trivial acc acc'

include hk in
theorem central_VI_LaminarViscosityDeltaSPH (acc : Out_VI_LaminarViscosityDeltaSPH K) (a b : P K) :
    (a.x - b.x) * ((pair_VI_LaminarViscosityDeltaSPH o k self_dim self_nu self_rho0 acc a b).d_av - acc.d_av) = (a.y - b.y) * ((pair_VI_LaminarViscosityDeltaSPH o k self_dim self_nu self_rho0 acc a b).d_au - acc.d_au) ∧
    (a.y - b.y) * ((pair_VI_LaminarViscosityDeltaSPH o k self_dim self_nu self_rho0 acc a b).d_aw - acc.d_aw) = (a.z - b.z) * ((pair_VI_LaminarViscosityDeltaSPH o k self_dim self_nu self_rho0 acc a b).d_av - acc.d_av) ∧
    (a.z - b.z) * ((pair_VI_LaminarViscosityDeltaSPH o k self_dim self_nu self_rho0 acc a b).d_au - acc.d_au) = (a.x - b.x) * ((pair_VI_LaminarViscosityDeltaSPH o k self_dim self_nu self_rho0 acc a b).d_aw - acc.d_aw) :=
  (law_VI_LaminarViscosityDeltaSPH o k self_dim self_nu self_rho0).central hk a b acc

include hk in
theorem linear_momentum_VI_LaminarViscosityDeltaSPH {ι : Type} [Fintype ι] [DecidableEq ι] (p : ι → P K)
    (nbrs : ι → List ι) (hnd : ∀ i, (nbrs i).Nodup) (hsymm : ∀ i j, j ∈ nbrs i → i ∈ nbrs j)
    (init : ι → Out_VI_LaminarViscosityDeltaSPH K) (hinit : ∀ i, (init i).d_au = 0 ∧ (init i).d_av = 0 ∧ (init i).d_aw = 0) :
    ∑ i, (p i).m * ((nbrs i).foldl (fun acc j => pair_VI_LaminarViscosityDeltaSPH o k self_dim self_nu self_rho0 acc (p i) (p j)) (init i)).d_au = 0 ∧
    ∑ i, (p i).m * ((nbrs i).foldl (fun acc j => pair_VI_LaminarViscosityDeltaSPH o k self_dim self_nu self_rho0 acc (p i) (p j)) (init i)).d_av = 0 ∧
    ∑ i, (p i).m * ((nbrs i).foldl (fun acc j => pair_VI_LaminarViscosityDeltaSPH o k self_dim self_nu self_rho0 acc (p i) (p j)) (init i)).d_aw = 0 :=
  (law_VI_LaminarViscosityDeltaSPH o k self_dim self_nu self_rho0).linear_momentum hk p nbrs hnd hsymm init hinit
    fun _ _ => trivial

include hk in
theorem angular_momentum_VI_LaminarViscosityDeltaSPH {ι : Type} [Fintype ι] [DecidableEq ι] (p : ι → P K)
    (nbrs : ι → List ι) (hnd : ∀ i, (nbrs i).Nodup) (hsymm : ∀ i j, j ∈ nbrs i → i ∈ nbrs j)
    (init : ι → Out_VI_LaminarViscosityDeltaSPH K) (hinit : ∀ i, (init i).d_au = 0 ∧ (init i).d_av = 0 ∧ (init i).d_aw = 0) :
    (∑ i, (p i).m * ((p i).x * ((nbrs i).foldl (fun acc j => pair_VI_LaminarViscosityDeltaSPH o k self_dim self_nu self_rho0 acc (p i) (p j)) (init i)).d_av - (p i).y * ((nbrs i).foldl (fun acc j => pair_VI_LaminarViscosityDeltaSPH o k self_dim self_nu self_rho0 acc (p i) (p j)) (init i)).d_au) = 0) ∧
    (∑ i, (p i).m * ((p i).y * ((nbrs i).foldl (fun acc j => pair_VI_LaminarViscosityDeltaSPH o k self_dim self_nu self_rho0 acc (p i) (p j)) (init i)).d_aw - (p i).z * ((nbrs i).foldl (fun acc j => pair_VI_LaminarViscosityDeltaSPH o k self_dim self_nu self_rho0 acc (p i) (p j)) (init i)).d_av) = 0) ∧
    (∑ i, (p i).m * ((p i).z * ((nbrs i).foldl (fun acc j => pair_VI_LaminarViscosityDeltaSPH o k self_dim self_nu self_rho0 acc (p i) (p j)) (init i)).d_au - (p i).x * ((nbrs i).foldl (fun acc j => pair_VI_LaminarViscosityDeltaSPH o k self_dim self_nu self_rho0 acc (p i) (p j)) (init i)).d_aw) = 0) :=
  (law_VI_LaminarViscosityDeltaSPH o k self_dim self_nu self_rho0).angular_momentum hk p nbrs hnd hsymm init hinit
    fun _ _ => trivial

end VI_LaminarViscosityDeltaSPH

/-! ## `pysph/sph/gas_dynamics/basic.py.Monaghan92Accelerations` (GD_Monaghan92Accelerations) -/
section GD_Monaghan92Accelerations
variable (o : Ops K) (k : Kern K) {w g : K → K → K} (hk : Radial k w g) (self_alpha : K) (self_beta : K)

theorem additive_GD_Monaghan92Accelerations (acc acc' : Out_GD_Monaghan92Accelerations K) (a b : P K) :
    ((pair_GD_Monaghan92Accelerations o k self_alpha self_beta acc a b).d_au - acc.d_au) = ((pair_GD_Monaghan92Accelerations o k self_alpha self_beta acc' a b).d_au - acc'.d_au) ∧
    ((pair_GD_Monaghan92Accelerations o k self_alpha self_beta acc a b).d_av - acc.d_av) = ((pair_GD_Monaghan92Accelerations o k self_alpha self_beta acc' a b).d_av - acc'.d_av) ∧
    ((pair_GD_Monaghan92Accelerations o k self_alpha self_beta acc a b).d_aw - acc.d_aw) = ((pair_GD_Monaghan92Accelerations o k self_alpha self_beta acc' a b).d_aw - acc'.d_aw) :=
  (law_GD_Monaghan92Accelerations o k self_alpha self_beta).additive a b acc acc'

include hk in
theorem pair_antisym_GD_Monaghan92Accelerations (acc acc' : Out_GD_Monaghan92Accelerations K) (a b : P K) :
    a.m * ((pair_GD_Monaghan92Accelerations o k self_alpha self_beta acc a b).d_au - acc.d_au) = -(b.m * ((pair_GD_Monaghan92Accelerations o k self_alpha self_beta acc' b a).d_au - acc'.d_au)) ∧
    a.m * ((pair_GD_Monaghan92Accelerations o k self_alpha self_beta acc a b).d_av - acc.d_av) = -(b.m * ((pair_GD_Monaghan92Accelerations o k self_alpha self_beta acc' b a).d_av - acc'.d_av)) ∧
    a.m * ((pair_GD_Monaghan92Accelerations o k self_alpha self_beta acc a b).d_aw - acc.d_aw) = -(b.m * ((pair_GD_Monaghan92Accelerations o k self_alpha self_beta acc' b a).d_aw - acc'.d_aw)) :=
  (law_GD_Monaghan92Accelerations o k self_alpha self_beta).antisym hk a b trivial acc acc'

include hk in
theorem central_GD_Monaghan92Accelerations (acc : Out_GD_Monaghan92Accelerations K) (a b : P K) :
    (a.x - b.x) * ((pair_GD_Monaghan92Accelerations o k self_alpha self_beta acc a b).d_av - acc.d_av) = (a.y - b.y) * ((pair_GD_Monaghan92Accelerations o k self_alpha self_beta acc a b).d_au - acc.d_au) ∧
    (a.y - b.y) * ((pair_GD_Monaghan92Accelerations o k self_alpha self_beta acc a b).d_aw - acc.d_aw) = (a.z - b.z) * ((pair_GD_Monaghan92Accelerations o k self_alpha self_beta acc a b).d_av - acc.d_av) ∧
    (a.z - b.z) * ((pair_GD_Monaghan92Accelerations o k self_alpha self_beta acc a b).d_au - acc.d_au) = (a.x - b.x) * ((pair_GD_Monaghan92Accelerations o k self_alpha self_beta acc a b).d_aw - acc.d_aw) :=
  (law_GD_Monaghan92Accelerations o k self_alpha self_beta).central hk a b acc

include hk in
theorem linear_momentum_GD_Monaghan92Accelerations {ι : Type} [Fintype ι] [DecidableEq ι] (p : ι → P K)
    (nbrs : ι → List ι) (hnd : ∀ i, (nbrs i).Nodup) (hsymm : ∀ i j, j ∈ nbrs i → i ∈ nbrs j)
    (init : ι → Out_GD_Monaghan92Accelerations K) (hinit : ∀ i, (init i).d_au = 0 ∧ (init i).d_av = 0 ∧ (init i).d_aw = 0) :
    ∑ i, (p i).m * ((nbrs i).foldl (fun acc j => pair_GD_Monaghan92Accelerations o k self_alpha self_beta acc (p i) (p j)) (init i)).d_au = 0 ∧
    ∑ i, (p i).m * ((nbrs i).foldl (fun acc j => pair_GD_Monaghan92Accelerations o k self_alpha self_beta acc (p i) (p j)) (init i)).d_av = 0 ∧
    ∑ i, (p i).m * ((nbrs i).foldl (fun acc j => pair_GD_Monaghan92Accelerations o k self_alpha self_beta acc (p i) (p j)) (init i)).d_aw = 0 :=
  (law_GD_Monaghan92Accelerations o k self_alpha self_beta).linear_momentum hk p nbrs hnd hsymm init hinit
    fun _ _ => trivial

include hk in
theorem angular_momentum_GD_Monaghan92Accelerations {ι : Type} [Fintype ι] [DecidableEq ι] (p : ι → P K)
    (nbrs : ι → List ι) (hnd : ∀ i, (nbrs i).Nodup) (hsymm : ∀ i j, j ∈ nbrs i → i ∈ nbrs j)
    (init : ι → Out_GD_Monaghan92Accelerations K) (hinit : ∀ i, (init i).d_au = 0 ∧ (init i).d_av = 0 ∧ (init i).d_aw = 0) :
    (∑ i, (p i).m * ((p i).x * ((nbrs i).foldl (fun acc j => pair_GD_Monaghan92Accelerations o k self_alpha self_beta acc (p i) (p j)) (init i)).d_av - (p i).y * ((nbrs i).foldl (fun acc j => pair_GD_Monaghan92Accelerations o k self_alpha self_beta acc (p i) (p j)) (init i)).d_au) = 0) ∧
    (∑ i, (p i).m * ((p i).y * ((nbrs i).foldl (fun acc j => pair_GD_Monaghan92Accelerations o k self_alpha self_beta acc (p i) (p j)) (init i)).d_aw - (p i).z * ((nbrs i).foldl (fun acc j => pair_GD_Monaghan92Accelerations o k self_alpha self_beta acc (p i) (p j)) (init i)).d_av) = 0) ∧
    (∑ i, (p i).m * ((p i).z * ((nbrs i).foldl (fun acc j => pair_GD_Monaghan92Accelerations o k self_alpha self_beta acc (p i) (p j)) (init i)).d_au - (p i).x * ((nbrs i).foldl (fun acc j => pair_GD_Monaghan92Accelerations o k self_alpha self_beta acc (p i) (p j)) (init i)).d_aw) = 0) :=
  (law_GD_Monaghan92Accelerations o k self_alpha self_beta).angular_momentum hk p nbrs hnd hsymm init hinit
    fun _ _ => trivial

end GD_Monaghan92Accelerations

/-! ## `pysph/sph/gas_dynamics/basic.py.ADKEAccelerations` (GD_ADKEAccelerations) -/
section GD_ADKEAccelerations
variable (o : Ops K) (k : Kern K) {w g : K → K → K} (hk : Radial k w g) (self_alpha : K) (self_beta : K) (self_g1 : K) (self_g2 : K)

theorem additive_GD_ADKEAccelerations (acc acc' : Out_GD_ADKEAccelerations K) (a b : P K) :
    ((pair_GD_ADKEAccelerations o k self_alpha self_beta self_g1 self_g2 acc a b).d_au - acc.d_au) = ((pair_GD_ADKEAccelerations o k self_alpha self_beta self_g1 self_g2 acc' a b).d_au - acc'.d_au) ∧
    ((pair_GD_ADKEAccelerations o k self_alpha self_beta self_g1 self_g2 acc a b).d_av - acc.d_av) = ((pair_GD_ADKEAccelerations o k self_alpha self_beta self_g1 self_g2 acc' a b).d_av - acc'.d_av) ∧
    ((pair_GD_ADKEAccelerations o k self_alpha self_beta self_g1 self_g2 acc a b).d_aw - acc.d_aw) = ((pair_GD_ADKEAccelerations o k self_alpha self_beta self_g1 self_g2 acc' a b).d_aw - acc'.d_aw) :=
  (law_GD_ADKEAccelerations o k self_alpha self_beta self_g1 self_g2).additive a b acc acc'

include hk in
/-- (the mass hypotheses are not used) -/
theorem pair_antisym_GD_ADKEAccelerations (acc acc' : Out_GD_ADKEAccelerations K) (a b : P K) (ha : a.m ≠ 0) (hb : b.m ≠ 0) :
    a.m * ((pair_GD_ADKEAccelerations o k self_alpha self_beta self_g1 self_g2 acc a b).d_au - acc.d_au) = -(b.m * ((pair_GD_ADKEAccelerations o k self_alpha self_beta self_g1 self_g2 acc' b a).d_au - acc'.d_au)) ∧
    a.m * ((pair_GD_ADKEAccelerations o k self_alpha self_beta self_g1 self_g2 acc a b).d_av - acc.d_av) = -(b.m * ((pair_GD_ADKEAccelerations o k self_alpha self_beta self_g1 self_g2 acc' b a).d_av - acc'.d_av)) ∧
    a.m * ((pair_GD_ADKEAccelerations o k self_alpha self_beta self_g1 self_g2 acc a b).d_aw - acc.d_aw) = -(b.m * ((pair_GD_ADKEAccelerations o k self_alpha self_beta self_g1 self_g2 acc' b a).d_aw - acc'.d_aw)) :=
  (law_GD_ADKEAccelerations o k self_alpha self_beta self_g1 self_g2).antisym hk a b trivial acc acc'

include hk in
theorem central_GD_ADKEAccelerations (acc : Out_GD_ADKEAccelerations K) (a b : P K) :
    (a.x - b.x) * ((pair_GD_ADKEAccelerations o k self_alpha self_beta self_g1 self_g2 acc a b).d_av - acc.d_av) = (a.y - b.y) * ((pair_GD_ADKEAccelerations o k self_alpha self_beta self_g1 self_g2 acc a b).d_au - acc.d_au) ∧
    (a.y - b.y) * ((pair_GD_ADKEAccelerations o k self_alpha self_beta self_g1 self_g2 acc a b).d_aw - acc.d_aw) = (a.z - b.z) * ((pair_GD_ADKEAccelerations o k self_alpha self_beta self_g1 self_g2 acc a b).d_av - acc.d_av) ∧
    (a.z - b.z) * ((pair_GD_ADKEAccelerations o k self_alpha self_beta self_g1 self_g2 acc a b).d_au - acc.d_au) = (a.x - b.x) * ((pair_GD_ADKEAccelerations o k self_alpha self_beta self_g1 self_g2 acc a b).d_aw - acc.d_aw) :=
  (law_GD_ADKEAccelerations o k self_alpha self_beta self_g1 self_g2).central hk a b acc

include hk in
theorem linear_momentum_GD_ADKEAccelerations {ι : Type} [Fintype ι] [DecidableEq ι] (p : ι → P K)
    (nbrs : ι → List ι) (hnd : ∀ i, (nbrs i).Nodup) (hsymm : ∀ i j, j ∈ nbrs i → i ∈ nbrs j)
    (init : ι → Out_GD_ADKEAccelerations K) (hinit : ∀ i, (init i).d_au = 0 ∧ (init i).d_av = 0 ∧ (init i).d_aw = 0) (hm : ∀ i, (p i).m ≠ 0) :
    ∑ i, (p i).m * ((nbrs i).foldl (fun acc j => pair_GD_ADKEAccelerations o k self_alpha self_beta self_g1 self_g2 acc (p i) (p j)) (init i)).d_au = 0 ∧
    ∑ i, (p i).m * ((nbrs i).foldl (fun acc j => pair_GD_ADKEAccelerations o k self_alpha self_beta self_g1 self_g2 acc (p i) (p j)) (init i)).d_av = 0 ∧
    ∑ i, (p i).m * ((nbrs i).foldl (fun acc j => pair_GD_ADKEAccelerations o k self_alpha self_beta self_g1 self_g2 acc (p i) (p j)) (init i)).d_aw = 0 :=
  (law_GD_ADKEAccelerations o k self_alpha self_beta self_g1 self_g2).linear_momentum hk p nbrs hnd hsymm init hinit
    fun _ _ => trivial

include hk in
theorem angular_momentum_GD_ADKEAccelerations {ι : Type} [Fintype ι] [DecidableEq ι] (p : ι → P K)
    (nbrs : ι → List ι) (hnd : ∀ i, (nbrs i).Nodup) (hsymm : ∀ i j, j ∈ nbrs i → i ∈ nbrs j)
    (init : ι → Out_GD_ADKEAccelerations K) (hinit : ∀ i, (init i).d_au = 0 ∧ (init i).d_av = 0 ∧ (init i).d_aw = 0) (hm : ∀ i, (p i).m ≠ 0) :
    (∑ i, (p i).m * ((p i).x * ((nbrs i).foldl (fun acc j => pair_GD_ADKEAccelerations o k self_alpha self_beta self_g1 self_g2 acc (p i) (p j)) (init i)).d_av - (p i).y * ((nbrs i).foldl (fun acc j => pair_GD_ADKEAccelerations o k self_alpha self_beta self_g1 self_g2 acc (p i) (p j)) (init i)).d_au) = 0) ∧
    (∑ i, (p i).m * ((p i).y * ((nbrs i).foldl (fun acc j => pair_GD_ADKEAccelerations o k self_alpha self_beta self_g1 self_g2 acc (p i) (p j)) (init i)).d_aw - (p i).z * ((nbrs i).foldl (fun acc j => pair_GD_ADKEAccelerations o k self_alpha self_beta self_g1 self_g2 acc (p i) (p j)) (init i)).d_av) = 0) ∧
    (∑ i, (p i).m * ((p i).z * ((nbrs i).foldl (fun acc j => pair_GD_ADKEAccelerations o k self_alpha self_beta self_g1 self_g2 acc (p i) (p j)) (init i)).d_au - (p i).x * ((nbrs i).foldl (fun acc j => pair_GD_ADKEAccelerations o k self_alpha self_beta self_g1 self_g2 acc (p i) (p j)) (init i)).d_aw) = 0) :=
  (law_GD_ADKEAccelerations o k self_alpha self_beta self_g1 self_g2).angular_momentum hk p nbrs hnd hsymm init hinit
    fun _ _ => trivial

end GD_ADKEAccelerations

/-! ## `pysph/sph/gas_dynamics/basic.py.MPMAccelerations` (GD_MPMAccelerations) -/
section GD_MPMAccelerations
variable (o : Ops K) (k : Kern K) {w g : K → K → K} (hk : Radial k w g) (self_beta : K)

theorem additive_GD_MPMAccelerations (acc acc' : Out_GD_MPMAccelerations K) (a b : P K) :
    ((pair_GD_MPMAccelerations o k self_beta acc a b).d_au - acc.d_au) = ((pair_GD_MPMAccelerations o k self_beta acc' a b).d_au - acc'.d_au) ∧
    ((pair_GD_MPMAccelerations o k self_beta acc a b).d_av - acc.d_av) = ((pair_GD_MPMAccelerations o k self_beta acc' a b).d_av - acc'.d_av) ∧
    ((pair_GD_MPMAccelerations o k self_beta acc a b).d_aw - acc.d_aw) = ((pair_GD_MPMAccelerations o k self_beta acc' a b).d_aw - acc'.d_aw) :=
  (law_GD_MPMAccelerations o k self_beta).additive a b acc acc'

include hk in
/-- (the mass hypotheses are not used) -/
theorem pair_antisym_GD_MPMAccelerations (acc acc' : Out_GD_MPMAccelerations K) (a b : P K) (ha : a.m ≠ 0) (hb : b.m ≠ 0) :
    a.m * ((pair_GD_MPMAccelerations o k self_beta acc a b).d_au - acc.d_au) = -(b.m * ((pair_GD_MPMAccelerations o k self_beta acc' b a).d_au - acc'.d_au)) ∧
    a.m * ((pair_GD_MPMAccelerations o k self_beta acc a b).d_av - acc.d_av) = -(b.m * ((pair_GD_MPMAccelerations o k self_beta acc' b a).d_av - acc'.d_av)) ∧
    a.m * ((pair_GD_MPMAccelerations o k self_beta acc a b).d_aw - acc.d_aw) = -(b.m * ((pair_GD_MPMAccelerations o k self_beta acc' b a).d_aw - acc'.d_aw)) :=
  (law_GD_MPMAccelerations o k self_beta).antisym hk a b trivial acc acc'

include hk in
theorem central_GD_MPMAccelerations (acc : Out_GD_MPMAccelerations K) (a b : P K) :
    (a.x - b.x) * ((pair_GD_MPMAccelerations o k self_beta acc a b).d_av - acc.d_av) = (a.y - b.y) * ((pair_GD_MPMAccelerations o k self_beta acc a b).d_au - acc.d_au) ∧
    (a.y - b.y) * ((pair_GD_MPMAccelerations o k self_beta acc a b).d_aw - acc.d_aw) = (a.z - b.z) * ((pair_GD_MPMAccelerations o k self_beta acc a b).d_av - acc.d_av) ∧
    (a.z - b.z) * ((pair_GD_MPMAccelerations o k self_beta acc a b).d_au - acc.d_au) = (a.x - b.x) * ((pair_GD_MPMAccelerations o k self_beta acc a b).d_aw - acc.d_aw) :=
  (law_GD_MPMAccelerations o k self_beta).central hk a b acc

include hk in
theorem linear_momentum_GD_MPMAccelerations {ι : Type} [Fintype ι] [DecidableEq ι] (p : ι → P K)
    (nbrs : ι → List ι) (hnd : ∀ i, (nbrs i).Nodup) (hsymm : ∀ i j, j ∈ nbrs i → i ∈ nbrs j)
    (init : ι → Out_GD_MPMAccelerations K) (hinit : ∀ i, (init i).d_au = 0 ∧ (init i).d_av = 0 ∧ (init i).d_aw = 0) (hm : ∀ i, (p i).m ≠ 0) :
    ∑ i, (p i).m * ((nbrs i).foldl (fun acc j => pair_GD_MPMAccelerations o k self_beta acc (p i) (p j)) (init i)).d_au = 0 ∧
    ∑ i, (p i).m * ((nbrs i).foldl (fun acc j => pair_GD_MPMAccelerations o k self_beta acc (p i) (p j)) (init i)).d_av = 0 ∧
    ∑ i, (p i).m * ((nbrs i).foldl (fun acc j => pair_GD_MPMAccelerations o k self_beta acc (p i) (p j)) (init i)).d_aw = 0 :=
  (law_GD_MPMAccelerations o k self_beta).linear_momentum hk p nbrs hnd hsymm init hinit
    fun _ _ => trivial

include hk in
theorem angular_momentum_GD_MPMAccelerations {ι : Type} [Fintype ι] [DecidableEq ι] (p : ι → P K)
    (nbrs : ι → List ι) (hnd : ∀ i, (nbrs i).Nodup) (hsymm : ∀ i j, j ∈ nbrs i → i ∈ nbrs j)
    (init : ι → Out_GD_MPMAccelerations K) (hinit : ∀ i, (init i).d_au = 0 ∧ (init i).d_av = 0 ∧ (init i).d_aw = 0) (hm : ∀ i, (p i).m ≠ 0) :
    (∑ i, (p i).m * ((p i).x * ((nbrs i).foldl (fun acc j => pair_GD_MPMAccelerations o k self_beta acc (p i) (p j)) (init i)).d_av - (p i).y * ((nbrs i).foldl (fun acc j => pair_GD_MPMAccelerations o k self_beta acc (p i) (p j)) (init i)).d_au) = 0) ∧
    (∑ i, (p i).m * ((p i).y * ((nbrs i).foldl (fun acc j => pair_GD_MPMAccelerations o k self_beta acc (p i) (p j)) (init i)).d_aw - (p i).z * ((nbrs i).foldl (fun acc j => pair_GD_MPMAccelerations o k self_beta acc (p i) (p j)) (init i)).d_av) = 0) ∧
    (∑ i, (p i).m * ((p i).z * ((nbrs i).foldl (fun acc j => pair_GD_MPMAccelerations o k self_beta acc (p i) (p j)) (init i)).d_au - (p i).x * ((nbrs i).foldl (fun acc j => pair_GD_MPMAccelerations o k self_beta acc (p i) (p j)) (init i)).d_aw) = 0) :=
  (law_GD_MPMAccelerations o k self_beta).angular_momentum hk p nbrs hnd hsymm init hinit
    fun _ _ => trivial

end GD_MPMAccelerations

/-! ## `pysph/sph/solid_mech/basic.py.MomentumEquationWithStress` (SM_MomentumEquationWithStress) -/
section SM_MomentumEquationWithStress
variable (o : Ops K) (k : Kern K) {w g : K → K → K} (hk : Radial k w g) 

theorem additive_SM_MomentumEquationWithStress (acc acc' : Out_SM_MomentumEquationWithStress K) (a b : P K) :
    ((pair_SM_MomentumEquationWithStress o k  acc a b).d_au - acc.d_au) = ((pair_SM_MomentumEquationWithStress o k  acc' a b).d_au - acc'.d_au) ∧
    ((pair_SM_MomentumEquationWithStress o k  acc a b).d_av - acc.d_av) = ((pair_SM_MomentumEquationWithStress o k  acc' a b).d_av - acc'.d_av) ∧
    ((pair_SM_MomentumEquationWithStress o k  acc a b).d_aw - acc.d_aw) = ((pair_SM_MomentumEquationWithStress o k  acc' a b).d_aw - acc'.d_aw) :=
  (law_SM_MomentumEquationWithStress o k).additive a b acc acc'

include hk in
theorem pair_antisym_SM_MomentumEquationWithStress (acc acc' : Out_SM_MomentumEquationWithStress K) (a b : P K) (hw : a.c_wdeltap = b.c_wdeltap) (hn : a.c_n = b.c_n) :
    a.m * ((pair_SM_MomentumEquationWithStress o k  acc a b).d_au - acc.d_au) = -(b.m * ((pair_SM_MomentumEquationWithStress o k  acc' b a).d_au - acc'.d_au)) ∧
    a.m * ((pair_SM_MomentumEquationWithStress o k  acc a b).d_av - acc.d_av) = -(b.m * ((pair_SM_MomentumEquationWithStress o k  acc' b a).d_av - acc'.d_av)) ∧
    a.m * ((pair_SM_MomentumEquationWithStress o k  acc a b).d_aw - acc.d_aw) = -(b.m * ((pair_SM_MomentumEquationWithStress o k  acc' b a).d_aw - acc'.d_aw)) :=
  (law_SM_MomentumEquationWithStress o k).antisym hk a b ⟨hw, hn⟩ acc acc'

include hk in
theorem linear_momentum_SM_MomentumEquationWithStress {ι : Type} [Fintype ι] [DecidableEq ι] (p : ι → P K)
    (nbrs : ι → List ι) (hnd : ∀ i, (nbrs i).Nodup) (hsymm : ∀ i j, j ∈ nbrs i → i ∈ nbrs j)
    (init : ι → Out_SM_MomentumEquationWithStress K) (hinit : ∀ i, (init i).d_au = 0 ∧ (init i).d_av = 0 ∧ (init i).d_aw = 0) (hw_all : ∀ i j, (p i).c_wdeltap = (p j).c_wdeltap) (hn_all : ∀ i j, (p i).c_n = (p j).c_n) :
    ∑ i, (p i).m * ((nbrs i).foldl (fun acc j => pair_SM_MomentumEquationWithStress o k  acc (p i) (p j)) (init i)).d_au = 0 ∧
    ∑ i, (p i).m * ((nbrs i).foldl (fun acc j => pair_SM_MomentumEquationWithStress o k  acc (p i) (p j)) (init i)).d_av = 0 ∧
    ∑ i, (p i).m * ((nbrs i).foldl (fun acc j => pair_SM_MomentumEquationWithStress o k  acc (p i) (p j)) (init i)).d_aw = 0 :=
  (law_SM_MomentumEquationWithStress o k).linear_momentum hk p nbrs hnd hsymm init hinit
    fun i j => ⟨hw_all i j, hn_all i j⟩

end SM_MomentumEquationWithStress

section density
variable (o : Ops K) (k : Kern K) {w g : K → K → K} (hk : Radial k w g)

theorem R2IJ_self (a : P K) : pre_R2IJ o k a a = 0 := by
  simp only [pre_R2IJ, pre_XIJ_0, pre_XIJ_1, pre_XIJ_2]; ring
theorem HIJ_self (a : P K) : pre_HIJ o k a a = a.h := by
  simp only [pre_HIJ, Nat.cast_one, Nat.cast_ofNat]; ring

include hk in
theorem step_BE_SummationDensity (acc : Out_BE_SummationDensity K) (a b : P K) :
    (pair_BE_SummationDensity o k acc a b).d_rho
      = acc.d_rho + b.m * w (pre_RIJ o k a b) (pre_HIJ o k a b) := by
  simp only [pair_BE_SummationDensity, loop_BE_SummationDensity, pre_WIJ, hk.kernel_eq]

include hk in
/-- Summation density is at least `m_i W(0, h_i)`, hence strictly positive,
wherever a particle sees itself. -/
theorem summation_density_pos_BE {ι : Type} (p : ι → P K) (nbrs : List ι) (i : ι) (hi : i ∈ nbrs)
    (hm : ∀ j ∈ nbrs, 0 ≤ (p j).m) (hmi : 0 < (p i).m)
    (hw : ∀ r h, 0 ≤ w r h) (hw0 : 0 < w (o.sqrt 0) (p i).h)
    (init : Out_BE_SummationDensity K) (hinit : init.d_rho = 0) :
    (p i).m * w (o.sqrt 0) (p i).h
        ≤ (nbrs.foldl (fun acc j => pair_BE_SummationDensity o k acc (p i) (p j)) init).d_rho ∧
    0 < (nbrs.foldl (fun acc j => pair_BE_SummationDensity o k acc (p i) (p j)) init).d_rho := by
  have key := foldl_ge_single (fun s : Out_BE_SummationDensity K => s.d_rho)
    (fun acc j => pair_BE_SummationDensity o k acc (p i) (p j))
    (fun j => (p j).m * w (pre_RIJ o k (p i) (p j)) (pre_HIJ o k (p i) (p j)))
    (fun acc j => step_BE_SummationDensity o k hk acc (p i) (p j)) nbrs init hinit
    (fun j hj => mul_nonneg (hm j hj) (hw _ _)) i hi
  simp only [pre_RIJ, R2IJ_self, HIJ_self] at key
  exact ⟨key, lt_of_lt_of_le (mul_pos hmi hw0) key⟩

include hk in
theorem step_TV_SummationDensity (acc : Out_TV_SummationDensity K) (a b : P K) :
    (pair_TV_SummationDensity o k acc a b).d_rho
      = acc.d_rho + a.m * w (pre_RIJ o k a b) (pre_HIJ o k a b) ∧
    (pair_TV_SummationDensity o k acc a b).d_V
      = acc.d_V + w (pre_RIJ o k a b) (pre_HIJ o k a b) := by
  simp only [pair_TV_SummationDensity, loop_TV_SummationDensity, pre_WIJ, hk.kernel_eq, and_self]

include hk in
/-- `transport_velocity.SummationDensity` accumulates `rho = m_i Σ W` and the number density
`V = Σ W`: both are strictly positive wherever the particle sees itself. -/
theorem summation_density_pos_TV {ι : Type} (p : ι → P K) (nbrs : List ι) (i : ι) (hi : i ∈ nbrs)
    (hmi : 0 < (p i).m)
    (hw : ∀ r h, 0 ≤ w r h) (hw0 : 0 < w (o.sqrt 0) (p i).h)
    (init : Out_TV_SummationDensity K) (hinit : init.d_rho = 0 ∧ init.d_V = 0) :
    0 < (nbrs.foldl (fun acc j => pair_TV_SummationDensity o k acc (p i) (p j)) init).d_rho ∧
    0 < (nbrs.foldl (fun acc j => pair_TV_SummationDensity o k acc (p i) (p j)) init).d_V := by
  have k1 := foldl_ge_single (fun s : Out_TV_SummationDensity K => s.d_rho)
    (fun acc j => pair_TV_SummationDensity o k acc (p i) (p j))
    (fun j => (p i).m * w (pre_RIJ o k (p i) (p j)) (pre_HIJ o k (p i) (p j)))
    (fun acc j => (step_TV_SummationDensity o k hk acc (p i) (p j)).1) nbrs init hinit.1
    (fun j hj => mul_nonneg hmi.le (hw _ _)) i hi
  have k2 := foldl_ge_single (fun s : Out_TV_SummationDensity K => s.d_V)
    (fun acc j => pair_TV_SummationDensity o k acc (p i) (p j))
    (fun j => w (pre_RIJ o k (p i) (p j)) (pre_HIJ o k (p i) (p j)))
    (fun acc j => (step_TV_SummationDensity o k hk acc (p i) (p j)).2) nbrs init hinit.2
    (fun j hj => hw _ _) i hi
  simp only [pre_RIJ, R2IJ_self, HIJ_self] at k1 k2
  exact ⟨lt_of_lt_of_le (mul_pos hmi hw0) k1, lt_of_lt_of_le hw0 k2⟩

end density

/-! ## non-vacuity and a counterexample (concrete rationals; these are examples, not the claim) -/
section concrete

/-- a concrete radial kernel over ℚ: `W = 1`, `∇W = x` -/
def kq : Kern ℚ := ⟨fun _ _ _ _ _ => 1, fun x _ _ _ _ => x, fun _ y _ _ _ => y, fun _ _ z _ _ => z,
  fun _ _ => 0, fun _ _ _ _ _ => 0, 1⟩
def oq : Ops ℚ := ⟨fun x => x, fun x => |x|, fun x _ => x⟩
theorem kq_radial : Radial kq (fun _ _ => 1) (fun _ _ => 1) :=
  ⟨fun _ _ _ _ _ => rfl, fun _ _ _ _ _ => (one_mul _).symm, fun _ _ _ _ _ => (one_mul _).symm,
   fun _ _ _ _ _ => (one_mul _).symm⟩

def qa : P ℚ := { V := 1, alpha1 := 1, alpha2 := 1, c_n := 1, c_wdeltap := 1, cs := 1, div := 1, e := 1, h := 1, m := 1, omega := 1, p := 2, pavg := 0, r00 := 1, r01 := 1, r02 := 1, r11 := 1, r12 := 1, r22 := 1, rho := 1, s00 := 1, s01 := 1, s02 := 1, s11 := 1, s12 := 1, s22 := 1, u := 1, uhat := 1, v := 0, vhat := 1, w := 0, what := 1, x := 0, y := 0, z := 0 }
def qb : P ℚ := { V := 1, alpha1 := 1, alpha2 := 1, c_n := 1, c_wdeltap := 1, cs := 1, div := 1, e := 1, h := 1, m := 2, omega := 1, p := 3, pavg := 5, r00 := 1, r01 := 1, r02 := 1, r11 := 1, r12 := 1, r22 := 1, rho := 2, s00 := 1, s01 := 1, s02 := 1, s11 := 1, s12 := 1, s22 := 1, u := 0, uhat := 1, v := 0, vhat := 1, w := 0, what := 1, x := 1, y := 1/2, z := 0 }

/-- a two-particle closed system meeting the hypotheses of the system-level theorems, except the
uniform `pavg` of `edac.MomentumEquationPressureGradient`: `qa` and `qb` differ there for the
counterexample below -/
def qsys : Fin 2 → P ℚ := fun i => if i = 0 then qa else qb
def qnbrs : Fin 2 → List (Fin 2) := fun _ => [0, 1]
example : (∀ i, (qnbrs i).Nodup) ∧ (∀ i j, j ∈ qnbrs i → i ∈ qnbrs j) ∧ (∀ i, (qsys i).m ≠ 0) := by
  decide +kernel

/-- the pair contributions are not trivially zero (approaching pair: the viscous branch is taken) -/
example : (pair_WC_MomentumEquation oq kq 1 1 1 false ⟨0, 0, 0, 0⟩ qa qb).d_au ≠ 0 ∧
    (pair_TV_MomentumEquationViscosity oq kq 1 ⟨0, 0, 0⟩ qa qb).d_au ≠ 0 ∧
    (pair_GD_MPMAccelerations oq kq 2 ⟨0, 0, 0, 0, 0, 0⟩ qa qb).d_au ≠ 0 ∧
    (pair_SM_MomentumEquationWithStress oq kq ⟨0, 0, 0⟩ qa qb).d_au ≠ 0 := by
  decide +kernel

/-- and they are antisymmetric on this instance, as `pair_antisym_WC_MomentumEquation` says -/
example : qa.m * (pair_WC_MomentumEquation oq kq 1 1 1 false ⟨0, 0, 0, 0⟩ qa qb).d_au
    = -(qb.m * (pair_WC_MomentumEquation oq kq 1 1 1 false ⟨0, 0, 0, 0⟩ qb qa).d_au) := by
  decide +kernel

/-- The EDAC pressure-gradient form `edac.MomentumEquationPressureGradient`
subtracts the *destination's* average pressure: with different `pavg` on the two
particles the pair contributions are NOT antisymmetric — it is not written in
pair-symmetric form, and `pair_antisym_ED_MomentumEquationPressureGradient`
needs its hypothesis. -/
theorem ED_MomentumEquationPressureGradient_not_pair_symmetric :
    ¬ (qa.m * (pair_ED_MomentumEquationPressureGradient oq kq 0 ⟨0, 0, 0, 0, 0, 0⟩ qa qb).d_au
      = -(qb.m * (pair_ED_MomentumEquationPressureGradient oq kq 0 ⟨0, 0, 0, 0, 0, 0⟩ qb qa).d_au)) := by
  decide +kernel

end concrete

/-! ## The neighbour lists as they reach the equations

The system-level theorems above take a duplicate-free symmetric neighbour
relation as a hypothesis.  Two layers of `pysph/base` (a third, the periodic images, has the
next section) sit between the search's
criterion (`nbr_criterion_symm`) and the lists `AccelerationEval.compute`
iterates over; both are exercised by the executed-conservation oracle of the
harness (every NNPS class × its options × cache on/off × histories with
particles removed and added between evaluations on the same objects).

* the neighbour cache (`Model/NbrCacheHist.lean`): one `NeighborCache` object
  serves all evaluations of a run, its flag/offset arrays are resized and
  re-used when the population changes;
* the cell masks whose width depends on an option (`Lemmas/NbrMask.lean`). -/
section NeighbourLayer
open PysphVerif.NbrCacheHist PysphVerif.NbrMask

/-- `NeighborCache.update()` leaves no current particle flagged as cached —
for every earlier state of the object (any history of sizes and queries) and
whatever freshly allocated memory contains. -/
theorem cache_update_clears_every_current_flag (junk : ℕ → ℕ) (s : St) (np d : ℕ) (hd : d < np) :
    (update junk s np).cached.get d = 0 :=
  update_clears junk s np d hd

/-- One round (NNPS update, then any sequence of `get_neighbors` of current
particles and `find_all_neighbors`) on a cache object in ANY earlier state
hands out exactly the lists of the search. -/
theorem cache_round_serves_search (junk : ℕ → ℕ) (s : St) (r : Round)
    (hr : opsInRange r.np r.ops) :
    (runRound junk s r).2 = specOps r.find r.ops :=
  (runOps_spec r.find r.np r.ops _ hr (inv_update junk r.find s r.np)).2

/-- Whole histories: population sizes going up and down in any order, any
search per round, any queries — the cache never hands out anything but the
current search's list. -/
theorem cache_history_serves_search (junk : ℕ → ℕ) (h : List Round) (s : St)
    (hr : ∀ r ∈ h, opsInRange r.np r.ops) :
    runHist junk s h = specHist h := by
  induction h generalizing s with
  | nil => rfl
  | cons r rest ih =>
    simp only [runHist, specHist, List.map_cons]
    rw [cache_round_serves_search junk s r (hr r (List.mem_cons_self ..))]
    congr 1
    exact ih _ (fun r' hr' => hr r' (List.mem_cons_of_mem _ hr'))

/-- every state a round can be in satisfies the invariant of the cache -/
theorem cache_state_inv (junk : ℕ → ℕ) (s : St) (np : ℕ) (find : ℕ → List ℕ) (ops : List Op)
    (hr : opsInRange np ops) :
    Inv find np (runOps find np (update junk s np) ops).1 :=
  (runOps_spec find np ops _ hr (inv_update junk find s np)).1

/-- Symmetry and duplicate-freeness of the search survive the cache: in any
state of a round, what particle `d` is handed contains `e` only if what `e` is
handed (later, from the then-current state) contains `d`. -/
theorem cache_lists_symmetric (find : ℕ → List ℕ) (np : ℕ) (s : St) (hs : Inv find np s)
    (hsymm : ∀ d e, d < np → e < np → e ∈ find d → d ∈ find e) (hnd : ∀ d, (find d).Nodup)
    (d e : ℕ) (hd : d < np) (he : e < np) :
    ((getNeighbors find s d).2).Nodup ∧
    (e ∈ (getNeighbors find s d).2 → d ∈ (getNeighbors find (getNeighbors find s d).1 e).2) := by
  obtain ⟨hi, hv⟩ := getNeighbors_spec find np s d hd hs
  obtain ⟨_, hv'⟩ := getNeighbors_spec find np _ e he hi
  rw [hv, hv']
  exact ⟨hnd d, hsymm d e hd he⟩

variable (o : Ops K) (k : Kern K) {w g : K → K → K} (hk : Radial k w g)

include hk in
/-- Conservation through the cache: `n` particles, the search's relation
duplicate-free and symmetric; every particle takes its list from the cache in
whatever state the cache is at that moment of the round (`st i`, any state
with the invariant — `cache_state_inv`: after any history).  The WCSPH momentum
equation evaluated over the lists handed out gives `Σ m a = 0`. -/
theorem linear_momentum_WC_MomentumEquation_through_cache
    (self_alpha self_beta self_c0 : K) (self_tensile_correction : Bool) {n : ℕ}
    (pn : ℕ → P K) (nbrs : Fin n → List (Fin n)) (hnd : ∀ i, (nbrs i).Nodup)
    (hsymm : ∀ i j, j ∈ nbrs i → i ∈ nbrs j)
    (find : ℕ → List ℕ) (hfind : ∀ i : Fin n, find i = (nbrs i).map Fin.val)
    (st : Fin n → St) (hst : ∀ i, Inv find n (st i))
    (init : Fin n → Out_WC_MomentumEquation K)
    (hinit : ∀ i, (init i).d_au = 0 ∧ (init i).d_av = 0 ∧ (init i).d_aw = 0) :
    ∑ i : Fin n, (pn i).m * (((getNeighbors find (st i) i).2).foldl (fun acc j => pair_WC_MomentumEquation o k self_alpha self_beta self_c0 self_tensile_correction acc (pn i) (pn j)) (init i)).d_au = 0 ∧
    ∑ i : Fin n, (pn i).m * (((getNeighbors find (st i) i).2).foldl (fun acc j => pair_WC_MomentumEquation o k self_alpha self_beta self_c0 self_tensile_correction acc (pn i) (pn j)) (init i)).d_av = 0 ∧
    ∑ i : Fin n, (pn i).m * (((getNeighbors find (st i) i).2).foldl (fun acc j => pair_WC_MomentumEquation o k self_alpha self_beta self_c0 self_tensile_correction acc (pn i) (pn j)) (init i)).d_aw = 0 := by
  have hserved : ∀ i : Fin n, (getNeighbors find (st i) i).2 = (nbrs i).map Fin.val := fun i => by
    rw [(getNeighbors_spec find n (st i) i i.isLt (hst i)).2, hfind i]
  simp only [hserved, List.foldl_map]
  exact linear_momentum_WC_MomentumEquation o k hk self_alpha self_beta self_c0
    self_tensile_correction (fun i : Fin n => pn i) nbrs hnd hsymm init hinit

/-- The statement about histories rests on the FULL clear in `update`: a cache
that clears only the flags of the previous round's slots (and never shrinks
the flag array) hands particle 1 an empty list after the history
2 particles → 1 particle → 2 particles, although the search finds `[0, 1]`. -/
theorem cache_keeping_flags_goes_stale :
    ∃ h : List Round, (∀ r ∈ h, opsInRange r.np r.ops) ∧
      runHistKeepFlags (fun _ => 0) (init (fun _ => 0) 2) h ≠ specHist h := by
  refine ⟨[⟨2, fun _ => [0, 1], [.get 0, .get 1]⟩, ⟨1, fun _ => [0], [.get 0]⟩,
           ⟨2, fun _ => [0, 1], [.get 0, .get 1]⟩], ?_, by decide⟩
  intro r hr
  simp only [List.mem_cons, List.mem_nil_iff, or_false] at hr
  rcases hr with rfl | rfl | rfl <;> simp [opsInRange]

/-- the same history on the code as it is: served = searched (an instance of
`cache_history_serves_search`, evaluated) -/
example :
    runHist (fun _ => 7) (init (fun _ => 7) 2)
      [⟨2, fun _ => [0, 1], [.get 0, .get 1]⟩, ⟨1, fun _ => [0], [.all, .get 0]⟩,
       ⟨2, fun _ => [0, 1], [.get 1, .get 0, .get 1]⟩]
      = [[[0, 1], [0, 1]], [[0]], [[0, 1], [0, 1], [0, 1]]] := by
  decide

/-- A cell-mask search reaches, along every axis, the cell of every particle
that meets the neighbour criterion (`dx² + dy² + dz² < R²`, `R` the larger of
the two cut-offs, each at most the reach `r` the mask was sized for) when its
half-width is `ceil(r / cell_size)`. -/
theorem cell_mask_covers_criterion [FloorRing K] (c r R : K) (hc : 0 < c) (hR : R ≤ r) (hR0 : 0 ≤ R)
    (xq yq zq xj yj zj : K)
    (hcrit : (xq - xj) * (xq - xj) + (yq - yj) * (yq - yj) + (zq - zj) * (zq - zj) < R * R) :
    |cellId xj c - cellId xq c| ≤ ⌈r / c⌉ ∧ |cellId yj c - cellId yq c| ≤ ⌈r / c⌉ ∧
    |cellId zj c - cellId zq c| ≤ ⌈r / c⌉ := by
  obtain ⟨hx, hy, hz⟩ :=
    Nnps.lt_cell_of_dist2_lt (p := ⟨xq, yq, zq, 0⟩) (q := ⟨xj, yj, zj, 0⟩) hR0 hcrit
  refine ⟨cell_mask_covers c r xj xq hc ?_, cell_mask_covers c r yj yq hc ?_,
          cell_mask_covers c r zj zq hc ?_⟩ <;> rw [abs_sub_comm]
  exacts [hx.trans_le hR, hy.trans_le hR, hz.trans_le hR]

/-- `StratifiedHashNNPS`: with the mask half-width of the source,
`ceil(max(radius_scale·h_q, hmax_level)·H / hmax_level)` on cells of size
`hmax_level / H`, BOTH partners of a pair that meets the criterion reach each
other's cell on the grid of the other's level — for every sub-division `H ≥ 1`
and any two levels.  (Per axis; `cell_mask_covers_criterion` reduces the
Euclidean criterion to the axes.) -/
theorem strat_hash_mask_reaches_both_ways [FloorRing K] (xa xb ra rb hla hlb : K) (Hopt : ℕ)
    (hH : 0 < Hopt) (hla0 : 0 < hla) (hlb0 : 0 < hlb) (ha : ra ≤ hla) (hb : rb ≤ hlb)
    (hcrit : |xa - xb| < max ra rb) :
    |cellId xb (hlb / Hopt) - cellId xa (hlb / Hopt)| ≤ stratMaskWidth ra hlb Hopt ∧
    |cellId xa (hla / Hopt) - cellId xb (hla / Hopt)| ≤ stratMaskWidth rb hla Hopt :=
  ⟨strat_mask_covers xa xb ra rb hlb Hopt hH hlb0 hb hcrit,
   strat_mask_covers xb xa rb ra hla Hopt hH hla0 ha (by rw [abs_sub_comm, max_comm]; exact hcrit)⟩

/-- … and the option cannot be dropped from the width: level with `hmax_level = 3`,
`H = 3` (cells of size 1); the query at `x = 0` with cut-off 3 and a level particle at
`x = 5/2` (cut-off 3) meet the criterion, the particle sits 2 cells away, the width without
`H` is 1. -/
theorem strat_hash_mask_needs_H :
    |(0 : ℚ) - 5 / 2| < max 3 3 ∧
    ¬ (|cellId (5 / 2 : ℚ) (3 / (3 : ℕ)) - cellId (0 : ℚ) (3 / (3 : ℕ))| ≤ stratMaskWidthNoH (3 : ℚ) 3) ∧
    |cellId (5 / 2 : ℚ) (3 / (3 : ℕ)) - cellId (0 : ℚ) (3 / (3 : ℕ))| ≤ stratMaskWidth (3 : ℚ) 3 3 := by
  decide +kernel

end NeighbourLayer

/-! ## Periodic images

A third layer, in front of the search: with a periodic `DomainManager` the neighbours of a real
particle near a face include images of particles near the opposite face
(`Model/PeriodicGhosts.lean`, `Lemmas/PeriodicGhosts.lean`).  The relation over real particles and
images is symmetric when every image a pair force needs exists on both sides, which is a matter
of the depth of the image layer. -/
section PeriodicLayer
open PysphVerif.PeriodicGhosts

/-- Periodic box, any number of arrays of any resolutions: with the image layer
of `_create_ghosts_periodic` — the SAME depth `n_layers * cell_size` for every
array, `cell_size = radius_scale * hmax` over all arrays (or the fallback
`1.0`), `n_layers ≥ 1` — real particle `i` has `j` or an image of `j` in its
neighbour list exactly as often as `j` has `i` or an image of `i`, whatever
arrays the two belong to (`h_i, h_j ≤ hmax`).  Per periodic axis; the sums of
the conservation theorems then pair every force on a real particle with its
reaction on a real particle. -/
theorem periodic_pair_seen_equally (nLayers k tiny hmax cell lo hi xi h_i xj h_j : K)
    (hn : 1 ≤ nLayers) (hk : 0 ≤ k) (htiny : tiny ≤ 1)
    (hcell : cell = if k * hmax < tiny then 1 else k * hmax)
    (hxi : lo ≤ xi ∧ xi ≤ hi) (hxj : lo ≤ xj ∧ xj ≤ hi)
    (hi0 : 0 ≤ h_i) (hj0 : 0 ≤ h_j) (hih : h_i ≤ hmax) (hjh : h_j ≤ hmax) :
    seen k lo hi (depth nLayers cell) xi h_i xj h_j =
    seen k lo hi (depth nLayers cell) xj h_j xi h_i :=
  seen_symm k lo hi _ xi h_i xj h_j hxi hxj (mul_nonneg hk hi0) (mul_nonneg hk hj0)
    (depth_covers nLayers k tiny h_i hmax cell hn hk hih (le_trans hi0 hih) htiny hcell)
    (depth_covers nLayers k tiny h_j hmax cell hn hk hjh (le_trans hj0 hjh) htiny hcell)

/-- the mechanism: whenever `i` meets the criterion with the image of `j`
beyond the high face, that image has been made and so has the image of `i`
beyond the low face (which `j` then meets the criterion with) -/
theorem periodic_image_reaction_exists (k lo hi d xi h_i xj h_j : K) (hxi : xi ≤ hi) (hxj : lo ≤ xj)
    (hi0 : 0 ≤ k * h_i) (hj0 : 0 ≤ k * h_j) (hid : k * h_i ≤ d) (hjd : k * h_j ≤ d)
    (h : crit k h_i h_j ((xi - (xj + (hi - lo))) * (xi - (xj + (hi - lo)))) = true) :
    lowSel lo d xj = true ∧ highSel hi d xi = true ∧
    crit k h_j h_i ((xj - (xi + -(hi - lo))) * (xj - (xi + -(hi - lo)))) = true := by
  obtain ⟨h1, h2⟩ := crit_image_pair k lo hi d xi h_i xj h_j hxi hxj hi0 hj0 hid hjd h
  exact ⟨h1, h2, by rw [crit_image_swap]; exact h⟩

/-- … and the depth must not be sized from the array's own largest `h`
(counterexample): unit box, `radius_scale = 2`, `n_layers = 2`; a fine
particle `a` (`h = 1/100`) at `9/10` and a coarse particle `b` (`h = 1/10`) of
another array at `1/20`.  `a` has the image of `b` (at `21/20`, `3/20` away,
criterion `< 2/10`) as neighbour; with a layer of depth `2*2*(1/100)` for the
fine array no image of `a` exists and `b` has no neighbour: the pair force has
no reaction.  With the common depth of the code both see each other once. -/
theorem own_h_image_depth_loses_reaction :
    seen (2 : ℚ) 0 1 (ownDepth 2 2 (1 / 10)) (9 / 10) (1 / 100) (1 / 20) (1 / 10) = 1 ∧
    seen (2 : ℚ) 0 1 (ownDepth 2 2 (1 / 100)) (1 / 20) (1 / 10) (9 / 10) (1 / 100) = 0 ∧
    seen (2 : ℚ) 0 1 (depth 2 (2 * (1 / 10))) (9 / 10) (1 / 100) (1 / 20) (1 / 10) = 1 ∧
    seen (2 : ℚ) 0 1 (depth 2 (2 * (1 / 10))) (1 / 20) (1 / 10) (9 / 10) (1 / 100) = 1 := by
  decide +kernel

/-- non-vacuity of `periodic_pair_seen_equally`: the same two particles, the
hypotheses hold and the count is 1 (not 0) -/
example : seen (2 : ℚ) 0 1 (depth 2 (if (2 : ℚ) * (1 / 10) < 1 / 1000000 then 1 else 2 * (1 / 10)))
    (9 / 10) (1 / 100) (1 / 20) (1 / 10) = 1 := by
  decide +kernel

end PeriodicLayer

end PysphVerif.C09
