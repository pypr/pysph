import PysphVerif.Lemmas.Needs
import PysphVerif.Lemmas.NeedsCodegen
import PysphVerif.Lemmas.NeedsObjects
/-!
# C20 — incomplete problems are rejected at set-up, never compiled and run

Property theorems about `Model/Needs.lean`, which transcribes the set-up time checks
(`check_equation_array_properties` as repaired by the `fix:` commit,
`AccelerationEval.__init__`, `_check_integrator_steppers`,
`_check_arrays_for_properties`) *and* the pointer set-up of the generated code
(`get_dest_array_setup`, `get_src_array_setup`, `get_array_setup`), about `Model/NeedsCodegen.lean` (check, declaration and binding site of the integrator
code generator, from `stepper_source_style_args_checked` on) and about `Model/NeedsObjects.lean` (stepper
objects given to keywords, from `shared_stepper_checked_per_array` on); all three are tied
to the code by differential execution on every run.

All statements hold for every precomputed-symbol table, every list of particle
arrays, every program (any number of groups, sub-groups, empty groups, repeated
equations), every set of steppers.  What an equation *needs* is specified
independently of the code's closure loop, by the inductive reachability
relation `Reach` (`NeedsDst`, `NeedsSrc` in `Lemmas/Needs.lean`).
-/
namespace PysphVerif.C20
open PysphVerif.Needs

/-- The problem is complete for equation `e`: destination and sources exist,
and every property or constant `e` needs — explicitly through a `d_*`/`s_*`
argument of one of its five methods, or implicitly through a precomputed
symbol reachable from the arguments of its `loop` — is present in the
destination, respectively in **every** source. -/
def Complete (t : Table) (arrs : List PArr) (e : Eqn) : Prop :=
  ∃ d, findArr arrs e.dest = some d ∧ (∀ n, NeedsDst t e n → strip n ∈ d.props) ∧
    ∀ s ∈ e.sources.getD [], ∃ a, findArr arrs s = some a ∧
      ∀ n, NeedsSrc t e n → strip n ∈ a.props

/-- The set of precomputed symbols `Group._setup_precomputed` arrives at is
exactly the set reachable from the loop arguments (the `while not done` loop
neither stops early nor adds anything else). -/
theorem precomputed_is_reachable_set (t : Table) (args : List Name) (s : Name) :
    s ∈ closure t args ↔ Reach t args s :=
  mem_closure_iff t args s

/-- **check_complete.**  If building the evaluator raises nothing, every
equation of the program (in whatever group or sub-group) is complete: nothing
it needs explicitly or implicitly is missing from any array it is applied to,
and every array name it uses exists. -/
theorem check_complete (t : Table) (arrs : List PArr) (gs : List GroupT)
    (h : checkProgram t arrs gs = Verdict.ok) :
    ∀ e ∈ allEquations gs, Complete t arrs e :=
  fun e he => checkEquation_ok ((firstError_ok _ _).mp h e he)

/-- Contrapositive form, as the property is worded: an equation that lacks
something makes the build raise. -/
theorem incomplete_is_rejected (t : Table) (arrs : List PArr) (gs : List GroupT)
    (e : Eqn) (he : e ∈ allEquations gs) (hinc : ¬ Complete t arrs e) :
    checkProgram t arrs gs ≠ Verdict.ok :=
  fun h => hinc (check_complete t arrs gs h e he)

private theorem leaf_sub (gs : List GroupT) (leaf : List Eqn)
    (hl : leaf ∈ gs.flatMap GroupT.leaves) (e : Eqn) (he : e ∈ leaf) : e ∈ allEquations gs := by
  obtain ⟨g, hg, hlg⟩ := List.mem_flatMap.mp hl
  refine List.mem_flatMap.mpr ⟨g, hg, ?_⟩
  cases g with
  | flat es =>
    cases List.mem_singleton.mp hlg
    exact he
  | sub sgs => exact List.mem_flatMap.mpr ⟨leaf, hlg, he⟩

/-- every pointer the generated `compute` takes for a (sub-)group belongs to a
need of one of its equations -/
theorem groupAccesses_are_needs (t : Table) (eqs : List Eqn) (a p : Name)
    (h : (a, p) ∈ groupAccesses t eqs) :
    (∃ e ∈ eqs, e.dest = a ∧ ∃ n, NeedsDst t e n ∧ p = strip n) ∨
    (∃ e ∈ eqs, a ∈ e.sources.getD [] ∧ ∃ n, NeedsSrc t e n ∧ p = strip n) :=
  ((mem_groupAccesses t eqs a p).mp h).imp_left fun ⟨e, he, hd, _, hn⟩ => ⟨e, he, hd, hn⟩

/-- **generated_reads_exist.**  If building the evaluator raises nothing, every
`x = dst.<p>.data` / `x = src.<p>.data` pointer the generated `compute` takes —
for every group, sub-group, destination and source — is of a property or
constant that array has: a missing property can neither crash the interpreter
nor read unrelated memory. -/
theorem generated_reads_exist (t : Table) (arrs : List PArr) (gs : List GroupT)
    (h : checkProgram t arrs gs = Verdict.ok) :
    ∀ ap ∈ programAccesses t gs, ∃ arr, findArr arrs ap.1 = some arr ∧ ap.2 ∈ arr.props := by
  rintro ⟨a, p⟩ hap
  obtain ⟨leaf, hleaf, hacc⟩ := List.mem_flatMap.mp hap
  rcases groupAccesses_are_needs t leaf a p hacc with
    ⟨e, he, hd, n, hn, rfl⟩ | ⟨e, he, hs, n, hn, rfl⟩
  · obtain ⟨d, hfd, hdn, _⟩ := check_complete t arrs gs h e (leaf_sub gs leaf hleaf e he)
    exact ⟨d, by rw [← hd]; exact hfd, hdn n hn⟩
  · obtain ⟨_, _, _, hsn⟩ := check_complete t arrs gs h e (leaf_sub gs leaf hleaf e he)
    obtain ⟨arr, hfa, han⟩ := hsn a hs
    exact ⟨arr, hfa, han n hn⟩

/-- **error_names_equation_and_missing.**  A raised error is the verdict of the
first equation (in program order) that fails, it carries that equation's name,
and
* `invalid dest` names its destination, which is not a particle array;
* `invalid source` names one of its sources, which is not a particle array;
* `missing properties` lists, per array, exactly the needed names (explicit and
  implicit) that array lacks, for the destination and every source, leaving
  none out. -/
theorem error_names_equation_and_missing (t : Table) (arrs : List PArr) (gs : List GroupT)
    (v : Verdict) (h : checkProgram t arrs gs = v) (hv : v ≠ Verdict.ok) :
    ∃ pre e post, allEquations gs = pre ++ e :: post ∧
      (∀ x ∈ pre, Complete t arrs x) ∧
      match v with
      | Verdict.ok => False
      | Verdict.invalidDest n d => n = e.name ∧ d = e.dest ∧ findArr arrs e.dest = none
      | Verdict.invalidSource n s =>
          n = e.name ∧ s ∈ e.sources.getD [] ∧ findArr arrs s = none
      | Verdict.missing n errs =>
          n = e.name ∧ errs ≠ [] ∧ ∃ d, findArr arrs e.dest = some d ∧
          (∀ err ∈ errs,
            (err.1 = e.dest ∧ ∀ x, x ∈ err.2 ↔ (∃ m, NeedsDst t e m ∧ x = strip m) ∧ x ∉ d.props) ∨
            (∃ s ∈ e.sources.getD [], ∃ a, findArr arrs s = some a ∧ err.1 = s ∧
              ∀ x, x ∈ err.2 ↔ (∃ m, NeedsSrc t e m ∧ x = strip m) ∧ x ∉ a.props)) ∧
          (∀ m, NeedsDst t e m → strip m ∉ d.props →
            ∃ err ∈ errs, err.1 = e.dest ∧ strip m ∈ err.2) ∧
          (∀ s ∈ e.sources.getD [], ∀ a, findArr arrs s = some a →
            ∀ m, NeedsSrc t e m → strip m ∉ a.props →
              ∃ err ∈ errs, err.1 = s ∧ strip m ∈ err.2) := by
  obtain ⟨pre, e, post, hsplit, hpre, hfe⟩ := firstError_err _ _ v h hv
  refine ⟨pre, e, post, hsplit, fun x hx => checkEquation_ok (hpre x hx), ?_⟩
  cases Checked.of_eq hfe with
  | ok => exact hv rfl
  | invalidDest hn => exact ⟨rfl, rfl, hn⟩
  | invalidSource _ hs hn => exact ⟨rfl, hs, hn⟩
  | missing hd _ hne =>
    refine ⟨rfl, hne, _, hd, fun err herr => ?_, fun m hm hmd => ?_, fun s hs a ha m hm hma => ?_⟩
    · rcases mem_errsOf.mp herr with hc | ⟨s, hs, a, ha, hc⟩
      · obtain ⟨c1, c2, _⟩ := checkArray_some hc
        exact Or.inl ⟨c1.trans (findArr_name hd).1, fun x => by rw [c2 x, mem_groupNeeds_dst_strip]⟩
      · obtain ⟨c1, c2, _⟩ := checkArray_some hc
        exact Or.inr ⟨s, hs, a, ha, c1.trans (findArr_name ha).1,
          fun x => by rw [c2 x, mem_groupNeeds_src_strip]⟩
    · obtain ⟨err, hc, c1, hxe⟩ :=
        checkArray_lacks ((mem_groupNeeds_dst_strip ..).mpr ⟨m, hm, rfl⟩) hmd
      exact ⟨err, mem_errsOf.mpr (Or.inl hc), c1.trans (findArr_name hd).1, hxe⟩
    · obtain ⟨err, hc, c1, hxe⟩ :=
        checkArray_lacks ((mem_groupNeeds_src_strip ..).mpr ⟨m, hm, rfl⟩) hma
      exact ⟨err, mem_errsOf.mpr (Or.inr ⟨s, hs, a, ha, hc⟩), c1.trans (findArr_name ha).1, hxe⟩

/-- **rejection_is_justified.**  The check raises only when the problem really
is incomplete — with one exception that the code has and the model keeps: the
test is `eq_props < props` (a *strict* subset), so an array that holds nothing
but names the equation needs is reported too (with an empty "missing" set).
Every `ParticleArray` carries `tag`, `pid`, `gid`, so this needs an equation
that uses all three. -/
theorem rejection_is_justified (t : Table) (arrs : List PArr) (gs : List GroupT)
    (v : Verdict) (h : checkProgram t arrs gs = v) (hv : v ≠ Verdict.ok) :
    ∃ e ∈ allEquations gs,
      ¬ Complete t arrs e ∨
      (∃ d, findArr arrs e.dest = some d ∧ ∀ x ∈ d.props, ∃ m, NeedsDst t e m ∧ x = strip m) ∨
      (∃ s ∈ e.sources.getD [], ∃ a, findArr arrs s = some a ∧
        ∀ x ∈ a.props, ∃ m, NeedsSrc t e m ∧ x = strip m) := by
  obtain ⟨pre, e, post, hsplit, _, hfe⟩ := firstError_err _ _ v h hv
  refine ⟨e, by rw [hsplit]; simp, ?_⟩
  cases Checked.of_eq hfe with
  | ok => exact absurd rfl hv
  | invalidDest hn =>
    left
    rintro ⟨d', hd', _⟩
    rw [hn] at hd'; cases hd'
  | invalidSource _ hs hn =>
    left
    rintro ⟨_, _, _, hsn⟩
    obtain ⟨a, ha, _⟩ := hsn _ hs
    rw [hn] at ha; cases ha
  | missing hd _ hne =>
    obtain ⟨err, herr⟩ := List.exists_mem_of_ne_nil _ hne
    rcases mem_errsOf.mp herr with hc | ⟨s, hs, a, ha, hc⟩
    · rcases (checkArray_some hc).2.2 with ⟨x, hx, hxd⟩ | hall
      · left
        rintro ⟨d', hd', hdn, _⟩
        rw [hd] at hd'; cases hd'
        obtain ⟨m, hm, rfl⟩ := (mem_groupNeeds_dst_strip ..).mp hx
        exact hxd (hdn m hm)
      · right; left
        exact ⟨_, hd, fun x hx => (mem_groupNeeds_dst_strip ..).mp (hall x hx)⟩
    · rcases (checkArray_some hc).2.2 with ⟨x, hx, hxa⟩ | hall
      · left
        rintro ⟨_, _, _, hsn⟩
        obtain ⟨a', ha', han⟩ := hsn s hs
        rw [ha] at ha'; cases ha'
        obtain ⟨m, hm, rfl⟩ := (mem_groupNeeds_src_strip ..).mp hx
        exact hxa (han m hm)
      · right; right
        exact ⟨s, hs, a, ha, fun x hx => (mem_groupNeeds_src_strip ..).mp (hall x hx)⟩

/-- **needs_are_read.**  Conversely to `groupAccesses_are_needs`, everything an
equation of a (sub-)group needs is a pointer the generated code takes: the
check demands nothing the generated code does not use.  (`sources = some []`
does not occur: `Equation.__init__` turns an empty list into `None`.) -/
theorem needs_are_read (t : Table) (eqs : List Eqn) (e : Eqn) (he : e ∈ eqs)
    (hsrc : e.sources ≠ some []) :
    (∀ n, NeedsDst t e n → (e.dest, strip n) ∈ groupAccesses t eqs) ∧
    (∀ s ∈ e.sources.getD [], ∀ n, NeedsSrc t e n → (s, strip n) ∈ groupAccesses t eqs) :=
  ⟨fun n hn => (mem_groupAccesses ..).mpr (Or.inl ⟨e, he, rfl, hsrc, n, hn, rfl⟩),
   fun _ hs n hn => (mem_groupAccesses ..).mpr (Or.inr ⟨e, he, hs, n, hn, rfl⟩)⟩

theorem mem_wrapperNames (sts : List Stepper) (m : Name) :
    m ∈ wrapperNames sts ↔ ∃ st ∈ sts, m ∈ st.pyStages ∨ m ∈ st.methods.map (·.1) := by
  unfold wrapperNames
  rw [mem_sortNames]
  simp only [List.mem_eraseDups, List.mem_flatMap, List.mem_append]

/-- **stepper_check_complete.**  If `SPHCompiler(...)` generates the integrator
code without raising, every stepper keyword is a particle array and every
`d_*`/`s_*` argument of every stepper method that is wrapped
(`initialize`, `stage1`, …) is a property or constant of that array. -/
theorem stepper_check_complete (arrs : List PArr) (sts : List Stepper)
    (h : checkSteppers arrs sts = SVerdict.ok) :
    ∀ st ∈ sts, ∃ pa, findArr arrs st.dest = some pa ∧
      ∀ m, (m ∈ st.methods.map (·.1) ∨ m ∈ wrapperNames sts) →
        ∀ x ∈ st.args m, (isSrcArr x || isDstArr x) = true → strip x ∈ pa.props := by
  intro st hst
  cases SChecked.of_eq h with
  | ok hok =>
    obtain ⟨pa, hpa, hall⟩ := hok st hst
    refine ⟨pa, hpa, fun m hm x hx hxa => hall m ?_ _ (mem_stepperProps.mpr ⟨x, hx, hxa, rfl⟩)⟩
    exact hm.elim (fun hm => (mem_wrapperNames sts m).mpr ⟨st, hst, Or.inr hm⟩) id

/-- the generated integrator takes only pointers that exist -/
theorem stepper_reads_exist (arrs : List PArr) (sts : List Stepper)
    (h : checkSteppers arrs sts = SVerdict.ok) :
    ∀ ap ∈ stepperAccesses sts, ∃ pa, findArr arrs ap.1 = some pa ∧ ap.2 ∈ pa.props := by
  rintro ⟨a, p⟩ hap
  simp only [stepperAccesses, List.mem_flatMap, List.mem_map, Prod.mk.injEq] at hap
  obtain ⟨st, hst, m, hm, q, hq, rfl, rfl⟩ := hap
  cases SChecked.of_eq h with
  | ok hok =>
    obtain ⟨pa, hpa, hall⟩ := hok st hst
    exact ⟨pa, hpa, hall m hm q hq⟩

/-- **stepper_error_names.**  A stepper error names a keyword that is not a
particle array, or the class of a stepper, the array it is applied to and a
non-empty list of exactly the names one of its methods needs and that array
lacks. -/
theorem stepper_error_names (arrs : List PArr) (sts : List Stepper) (v : SVerdict)
    (h : checkSteppers arrs sts = v) :
    match v with
    | SVerdict.ok => True
    | SVerdict.invalidStepper n => ∃ st ∈ sts, st.dest = n ∧ findArr arrs n = none
    | SVerdict.missing c d ns =>
        ∃ st ∈ sts, st.cls = c ∧ st.dest = d ∧ ∃ pa, findArr arrs d = some pa ∧
          ∃ m ∈ wrapperNames sts, ns ≠ [] ∧
            ∀ x, x ∈ ns ↔ x ∈ stepperProps (st.args m) ∧ x ∉ pa.props := by
  cases SChecked.of_eq h with
  | ok => trivial
  | invalidStepper hst hnone => exact ⟨_, hst, rfl, hnone⟩
  | missing hst hpa hm hx hxp =>
    exact ⟨_, hst, rfl, rfl, _, hpa, _, hm,
      List.ne_nil_of_mem ((mem_lacking ..).mpr ⟨hx, hxp⟩), mem_lacking _ _ _⟩

/-! ## the three sites of the integrator code generator: check, declaration, binding

`get_array_declarations` checks `s | d`, declares `s | d`; `get_array_setup`
binds `s | d` — three separate statements (`Model/NeedsCodegen.lean`).  A
source-style argument `s_p` of a stepper method is bound to the array being
stepped (`s_p = dst.p.data`), so it is a need on that array exactly like `d_p`. -/

/-- **stepper_source_style_args_checked.**  If the integrator code is generated
without an error, then for every stepper and every wrapped method, every
*source-style* argument `s_p` names a property or constant `p` of the array the
stepper is applied to (it is not enough that some other array has `p`). -/
theorem stepper_source_style_args_checked (arrs : List PArr) (sts : List Stepper)
    (h : checkSteppers arrs sts = SVerdict.ok) :
    ∀ st ∈ sts, ∃ pa, findArr arrs st.dest = some pa ∧
      ∀ m ∈ wrapperNames sts, ∀ x ∈ st.args m, isSrcArr x = true → strip x ∈ pa.props := by
  intro st hst
  obtain ⟨pa, hpa, hall⟩ := stepper_check_complete arrs sts h st hst
  exact ⟨pa, hpa, fun m hm x hx hs => hall m (Or.inr hm) x hx (by simp [hs])⟩

/-- **stepper_bound_names_are_checked.**  Every pointer variable the generated
integrator binds (`n = dst.<n[2:]>.data`, the lines of `get_array_setup`) is a
`s_*`/`d_*` argument whose property exists in the array `dst` stands for: the
binding site binds nothing the check site has not checked. -/
theorem stepper_bound_names_are_checked (arrs : List PArr) (sts : List Stepper)
    (h : checkSteppers arrs sts = SVerdict.ok) :
    ∀ b ∈ stepperBindings sts, ∃ pa, findArr arrs b.1 = some pa ∧ b.2.2 ∈ pa.props ∧
      (b.2.1 = "s_" ++ b.2.2 ∨ b.2.1 = "d_" ++ b.2.2) := by
  rintro ⟨a, n, p⟩ hb
  simp only [stepperBindings, List.mem_flatMap, List.mem_map, Prod.mk.injEq] at hb
  obtain ⟨st, hst, m, hm, n', hn', rfl, rfl, rfl⟩ := hb
  obtain ⟨hargs, hsd⟩ := (mem_stepperSetupNames st m n').mp hn'
  obtain ⟨pa, hpa, hall⟩ := stepper_check_complete arrs sts h st hst
  refine ⟨pa, hpa, hall m (Or.inr hm) n' hargs hsd, ?_⟩
  rcases Bool.or_eq_true_iff.mp hsd with hs | hd
  · exact Or.inl (src_strip n' hs).symm
  · exact Or.inr (dst_strip n' hd).symm

/-- **stepper_decl_types_known.**  When the check of a method passes for every
stepper, every name `get_array_declarations(method)` declares is a key of
`known_types`: the declaration site cannot raise the bare `KeyError`. -/
theorem stepper_decl_types_known (arrs : List PArr) (sts : List Stepper) (m : Name)
    (h : checkStepperDecl arrs sts m = SVerdict.ok) :
    ∀ n ∈ stepperDeclNames sts m, n ∈ knownTypes arrs := by
  intro n hn
  obtain ⟨st, hst, hn⟩ := (mem_stepperDeclNames sts m n).mp hn
  obtain ⟨hargs, hsd⟩ := (mem_stepperArrNames _ n).mp hn
  cases MChecked.of_eq ((firstSError_ok _ _).mp h st hst) with
  | ok hpa hall =>
    exact mem_knownTypes (findArr_name hpa).2 hsd (hall _ (mem_stepperProps.mpr ⟨n, hargs, hsd, rfl⟩))

/-- **stepper_decl_total.**  `get_array_declarations(method)` either raises the
RuntimeError of the check or returns declarations; it never fails with a
`KeyError` (an error that names neither stepper nor array). -/
theorem stepper_decl_total (arrs : List PArr) (sts : List Stepper) (m n : Name) :
    stepperDecl arrs sts m ≠ DeclOutcome.keyError n := by
  unfold stepperDecl
  cases hc : checkStepperDecl arrs sts m with
  | ok =>
    rw [List.find?_eq_none.mpr fun k hk => by simp [stepper_decl_types_known arrs sts m hc k hk]]
    simp
  | invalidStepper a => simp
  | missing a b c => simp

/-- **stepper_missing_arg_is_rejected.**  The converse direction, stated for a
single argument: if all stepper keywords are particle arrays and some method of
some stepper has a `s_*` or `d_*` argument whose property the stepped array
lacks — whatever the other arrays hold — then code generation raises the
"requires the following properties" error (whose content is described by
`stepper_error_names`). -/
theorem stepper_missing_arg_is_rejected (arrs : List PArr) (sts : List Stepper)
    (hnames : checkStepperNames arrs sts = SVerdict.ok)
    (st : Stepper) (hst : st ∈ sts) (m : Name) (hm : m ∈ st.methods.map (·.1))
    (x : Name) (hx : x ∈ st.args m) (hsd : (isSrcArr x || isDstArr x) = true)
    (pa : PArr) (hpa : findArr arrs st.dest = some pa) (hmiss : strip x ∉ pa.props) :
    ∃ c d ns, checkSteppers arrs sts = SVerdict.missing c d ns := by
  generalize hv : checkSteppers arrs sts = v
  cases SChecked.of_eq hv with
  | ok =>
    obtain ⟨pa', hpa', hall⟩ := stepper_check_complete arrs sts hv st hst
    rw [hpa] at hpa'
    cases hpa'
    exact absurd (hall m (Or.inl hm) x hx hsd) hmiss
  | invalidStepper hst' hnone =>
    obtain ⟨pa', hpa'⟩ := (checkStepperNames_ok_iff arrs sts).mp hnames _ hst'
    rw [hnone] at hpa'
    cases hpa'
  | missing => exact ⟨_, _, _, rfl⟩

/-! ## object identity: one stepper object given to several arrays

`Integrator(fluid=step, solid=step)` hands ONE stepper object to two keywords
(`Model/NeedsObjects.lean`).  The code generator ranges over keywords, so the
check is per (array, stepper) pair.  A check per stepper OBJECT would be
incomplete, and it can differ from the code only when an object is shared. -/

/-- **shared_stepper_checked_per_array.**  If the integrator code is generated
without an error then for EVERY keyword — also one that was given a stepper
object some earlier keyword already carries — every `d_*`/`s_*` argument of every
wrapped method of its stepper is a property or constant of THAT keyword's array. -/
theorem shared_stepper_checked_per_array (arrs : List PArr) (s : StepperSetup)
    (h : checkSetup arrs s = SVerdict.ok) :
    ∀ k ∈ s.kw, ∀ o, s.objs[k.2]? = some o → ∃ pa, findArr arrs k.1 = some pa ∧
      ∀ m, (m ∈ o.methods.map (·.1) ∨ m ∈ wrapperNames s.pairs) →
        ∀ x ∈ (o.on k.1).args m, (isSrcArr x || isDstArr x) = true → strip x ∈ pa.props := by
  intro k hk o ho
  have hmem : o.on k.1 ∈ s.pairs := (mem_pairsOf _ _ _).mpr ⟨k, hk, o, ho, rfl⟩
  exact stepper_check_complete arrs s.pairs h (o.on k.1) hmem

/-- **shared_stepper_bindings_exist.**  Every pointer the generated integrator
binds — one set-up per keyword, whether or not its stepper object is shared —
exists in the array of that keyword. -/
theorem shared_stepper_bindings_exist (arrs : List PArr) (s : StepperSetup)
    (h : checkSetup arrs s = SVerdict.ok) :
    ∀ b ∈ setupBindings s, ∃ pa, findArr arrs b.1 = some pa ∧ b.2.2 ∈ pa.props := by
  intro b hb
  obtain ⟨pa, hpa, hp, _⟩ := stepper_bound_names_are_checked arrs s.pairs h b hb
  exact ⟨pa, hpa, hp⟩

/-- **shared_stepper_incomplete_is_rejected.**  If all keywords are particle
arrays and the array of SOME keyword — first or later among those that carry
the same object — lacks a property that a method of its stepper names through
`d_*` or `s_*`, code generation raises the "requires the following properties"
error. -/
theorem shared_stepper_incomplete_is_rejected (arrs : List PArr) (s : StepperSetup)
    (hnames : checkStepperNames arrs s.pairs = SVerdict.ok)
    (k : Name × Nat) (hk : k ∈ s.kw) (o : StepObj) (ho : s.objs[k.2]? = some o)
    (m : Name) (hm : m ∈ o.methods.map (·.1))
    (x : Name) (hx : x ∈ (o.on k.1).args m) (hsd : (isSrcArr x || isDstArr x) = true)
    (pa : PArr) (hpa : findArr arrs k.1 = some pa) (hmiss : strip x ∉ pa.props) :
    ∃ c d ns, checkSetup arrs s = SVerdict.missing c d ns := by
  have hmem : o.on k.1 ∈ s.pairs := (mem_pairsOf _ _ _).mpr ⟨k, hk, o, ho, rfl⟩
  exact stepper_missing_arg_is_rejected arrs s.pairs hnames (o.on k.1) hmem m hm x hx hsd pa
    hpa hmiss

/-- **per_object_check_agrees_when_unshared.**  When every keyword was given
its own stepper object (also objects of one class), checking once per object is
the same as what the code does; the two can differ only on a shared object. -/
theorem per_object_check_agrees_when_unshared (arrs : List PArr) (s : StepperSetup)
    (h : (s.kw.map (·.2)).Nodup) : checkSetupPerObject arrs s = checkSetup arrs s := by
  unfold checkSetupPerObject checkSetup checkSteppers StepperSetup.pairs
  rw [firstPerObject_eq_self [] s.kw h (fun _ _ hm => by cases hm)]
  cases checkStepperNames arrs (pairsOf s.objs s.kw) <;> rfl

def rk2Obj : StepObj :=
  { cls := "RK2Step",
    methods := [("initialize", ["self", "d_idx", "d_x0", "d_x"]),
                ("stage1", ["self", "d_idx", "d_x0", "d_x", "d_u", "dt"])],
    pyStages := [] }
def rk2Arrs : List PArr :=
  [{ name := "fluid", props := ["tag", "pid", "gid", "x", "u", "x0"] },
   { name := "solid", props := ["tag", "pid", "gid", "x", "u"] }]
/-- `step = RK2Step(); Integrator(fluid=step, solid=step)` -/
def rk2Shared : StepperSetup := { objs := [rk2Obj], kw := [("fluid", 0), ("solid", 0)] }

/-- **per_object_check_incomplete (counterexample).**  A property check that is
run once per stepper object accepts `Integrator(fluid=step, solid=step)` with a
`solid` that has no `x0`, although the generated integrator binds
`d_x0 = dst.x0.data` for `solid`; the check of the code (per keyword) rejects it
naming the class, `solid` and `x0`. -/
theorem per_object_check_incomplete :
    rk2Shared.wf = true ∧
    checkSetupPerObject rk2Arrs rk2Shared = SVerdict.ok ∧
    ("solid", "d_x0", "x0") ∈ setupBindings rk2Shared ∧
    (∀ pa, findArr rk2Arrs "solid" = some pa → "x0" ∉ pa.props) ∧
    checkSetup rk2Arrs rk2Shared = SVerdict.missing "RK2Step" "solid" ["x0"] := by
  show _ ∧ _ ∧ _ ∧ (∀ pa ∈ findArr rk2Arrs "solid", "x0" ∉ pa.props) ∧ _
  decide +kernel

/-- **no_incomplete_problem_reaches_execution.**  If `AccelerationEval(...)`
followed by `SPHCompiler(...)` code generation raises nothing, then every
equation and every stepper is complete and every array pointer taken by the
generated evaluator and integrator exists. -/
theorem no_incomplete_problem_reaches_execution (t : Table) (arrs : List PArr)
    (gs : List GroupT) (sts : List Stepper) (h : buildAll t arrs gs sts = Outcome.ok) :
    (∀ e ∈ allEquations gs, Complete t arrs e) ∧
    (∀ ap ∈ programAccesses t gs, ∃ arr, findArr arrs ap.1 = some arr ∧ ap.2 ∈ arr.props) ∧
    (∀ ap ∈ stepperAccesses sts, ∃ pa, findArr arrs ap.1 = some pa ∧ ap.2 ∈ pa.props) := by
  obtain ⟨hc, hs⟩ := (buildAll_ok_iff t arrs gs sts).mp h
  exact ⟨check_complete t arrs gs hc, generated_reads_exist t arrs gs hc,
    stepper_reads_exist arrs sts hs⟩

/-- What the shipped checker establishes: the explicit needs only. -/
theorem orig_check_complete_partial (arrs : List PArr) (gs : List GroupT)
    (h : checkProgramOrig arrs gs = Verdict.ok) :
    ∀ e ∈ allEquations gs, ∃ d, findArr arrs e.dest = some d ∧
      (∀ n ∈ e.allArgs, isDstArr n = true → strip n ∈ d.props) ∧
      ∀ s ∈ e.sources.getD [], ∃ a, findArr arrs s = some a ∧
        ∀ n ∈ e.allArgs, isSrcArr n = true → strip n ∈ a.props :=
  fun e he => (checkEquationWith_ok ((firstError_ok _ _).mp h e he)).mono
    (fun _ hd n hn hnd => hd n (by simp [explicitNeeds, hn, hnd]))
    (fun _ ha n hn hns => ha n (by simp [explicitNeeds, hn, hns]))

def vijTable : Table := [("VIJ", ["VIJ", "d_idx", "d_u", "d_v", "d_w", "s_idx", "s_u", "s_v", "s_w"])]
def vijEqn : Eqn :=
  { name := "UsesVIJ", dest := "f", sources := some ["f"], mInit := none, mInitPair := none
    mLoop := some ["self", "d_idx", "d_au", "VIJ"], mLoopAll := none, mPostLoop := none }
def vijArrs : List PArr := [{ name := "f", props := ["tag", "pid", "gid", "au", "v", "w"] }]

/-- **F10 (counterexample).**  The shipped checker accepts an
equation using `VIJ` on an array without `u`, although the generated code takes
the pointer `dst.u.data`. -/
theorem orig_check_incomplete :
    checkProgramOrig vijArrs [GroupT.flat [vijEqn]] = Verdict.ok ∧
    ("f", "u") ∈ programAccesses vijTable [GroupT.flat [vijEqn]] ∧
    ∀ arr, findArr vijArrs "f" = some arr → "u" ∉ arr.props := by
  show _ ∧ _ ∧ ∀ arr ∈ findArr vijArrs "f", "u" ∉ arr.props
  decide +kernel

/-- the repaired checker rejects it, naming the equation, the array and `u` -/
theorem repaired_check_rejects_F10 :
    checkProgram vijTable vijArrs [GroupT.flat [vijEqn]] =
      Verdict.missing "UsesVIJ" [("f", ["u"]), ("f", ["u"])] := by
  decide +kernel

/-- The repair only adds rejections: whatever the repaired checker accepts the
shipped one accepts too. -/
theorem repair_is_conservative (t : Table) (arrs : List PArr) (gs : List GroupT)
    (h : checkProgram t arrs gs = Verdict.ok) : checkProgramOrig arrs gs = Verdict.ok := by
  apply (firstError_ok _ _).mpr
  intro e he
  -- the names the repaired checker asks for begin with those the shipped one asks for
  have hsub : (explicitNeeds e).1 ⊆ (groupNeeds t e).1 ∧ (explicitNeeds e).2 ⊆ (groupNeeds t e).2 := by
    simp [groupNeeds, groupSrcNames, groupDstNames, explicitNeeds]
  exact checkEquationWith_ok_iff.mpr <| Found.mono
    (checkEquationWith_ok_iff.mp ((firstError_ok _ _).mp h e he))
    (fun _ => checkArray_none_mono (List.map_subset strip hsub.2))
    (fun _ => checkArray_none_mono (List.map_subset strip hsub.1))

/-! ## non-vacuity: concrete problems meeting the hypotheses -/

def wijTable : Table :=
  [("HIJ", ["HIJ", "d_h", "d_idx", "s_h", "s_idx"]),
   ("XIJ", ["XIJ", "d_idx", "d_x", "d_y", "d_z", "s_idx", "s_x", "s_y", "s_z"]),
   ("R2IJ", ["R2IJ", "XIJ"]), ("RIJ", ["R2IJ", "RIJ", "sqrt"]),
   ("WIJ", ["HIJ", "KERNEL", "RIJ", "WIJ", "XIJ"])]
def sdEqn : Eqn :=
  { name := "SummationDensity", dest := "fluid", sources := some ["fluid", "solid"]
    mInit := some ["self", "d_idx", "d_rho"], mInitPair := none
    mLoop := some ["self", "d_idx", "d_rho", "s_idx", "s_m", "WIJ"], mLoopAll := none
    mPostLoop := none }
def sdArrs : List PArr :=
  [{ name := "fluid", props := ["tag", "pid", "gid", "x", "y", "z", "h", "m", "rho"] },
   { name := "solid", props := ["tag", "pid", "gid", "x", "y", "z", "h", "m"] }]

/-- a complete two-array problem inside a sub-group is accepted, the closure of
`WIJ` is all five symbols, and the generated code reads `h` of the solid -/
example :
    checkProgram wijTable sdArrs [GroupT.sub [[sdEqn], []]] = Verdict.ok ∧
    closure wijTable sdEqn.loopArgs = ["WIJ", "HIJ", "RIJ", "XIJ", "R2IJ"] ∧
    ("solid", "h") ∈ programAccesses wijTable [GroupT.sub [[sdEqn], []]] := by
  decide +kernel

/-- removing the implicitly needed `h` from the second source is rejected -/
example :
    checkProgram wijTable
      [{ name := "fluid", props := ["tag", "pid", "gid", "x", "y", "z", "h", "m", "rho"] },
       { name := "solid", props := ["tag", "pid", "gid", "x", "y", "z", "m"] }]
      [GroupT.sub [[sdEqn], []]] =
    Verdict.missing "SummationDensity" [("solid", ["h"])] := by
  decide +kernel

/-- a stepper whose `stage1` needs `x0` on an array without it -/
example :
    checkSteppers sdArrs
      [{ dest := "fluid", cls := "RK2Step",
         methods := [("initialize", ["self", "d_idx", "d_x"]),
                     ("stage1", ["self", "d_idx", "d_x", "d_x0", "dt"])],
         pyStages := [] }] =
    SVerdict.missing "RK2Step" "fluid" ["x0"] := by
  decide +kernel

/-- a damped stepper that names the damping coefficient through a source-style
argument: complete on `fluid`, incomplete on `solid` although `fluid` has it -/
def dampStepper (dest : Name) : Stepper :=
  { dest := dest, cls := "DampedEulerStep",
    methods := [("stage1", ["self", "d_idx", "d_x", "d_rho", "s_damp", "dt"])], pyStages := [] }
def dampArrs : List PArr :=
  [{ name := "fluid", props := ["tag", "pid", "gid", "x", "rho", "damp"] },
   { name := "solid", props := ["tag", "pid", "gid", "x", "rho"] }]

example :
    checkSteppers dampArrs [dampStepper "fluid"] = SVerdict.ok ∧
    checkSteppers dampArrs [dampStepper "fluid", dampStepper "solid"] =
      SVerdict.missing "DampedEulerStep" "solid" ["damp"] ∧
    "s_damp" ∈ knownTypes dampArrs ∧
    ("fluid", "s_damp", "damp") ∈ stepperBindings [dampStepper "fluid"] ∧
    stepperDeclNames [dampStepper "fluid"] "stage1" = ["d_rho", "d_x", "s_damp"] := by
  decide +kernel

/-- two objects of one class are checked one by one by either reading; the shared
object with the incomplete array named first is rejected by both -/
example :
    checkSetup rk2Arrs { objs := [rk2Obj, rk2Obj], kw := [("fluid", 0), ("solid", 1)] } =
      SVerdict.missing "RK2Step" "solid" ["x0"] ∧
    checkSetupPerObject rk2Arrs { objs := [rk2Obj, rk2Obj], kw := [("fluid", 0), ("solid", 1)] } =
      SVerdict.missing "RK2Step" "solid" ["x0"] ∧
    checkSetupPerObject rk2Arrs { objs := [rk2Obj], kw := [("solid", 0), ("fluid", 0)] } =
      SVerdict.missing "RK2Step" "solid" ["x0"] ∧
    checkSetup [{ name := "fluid", props := ["tag", "pid", "gid", "x", "u", "x0"] },
                { name := "solid", props := ["tag", "pid", "gid", "x", "u", "x0", "m"] }]
      rk2Shared = SVerdict.ok := by
  decide +kernel

end PysphVerif.C20
