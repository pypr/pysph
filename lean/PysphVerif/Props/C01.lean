import PysphVerif.Lemmas.Nnps
import PysphVerif.Lemmas.NnpsTree
import PysphVerif.Lemmas.NnpsHash
import PysphVerif.Lemmas.NnpsCellIdx
import PysphVerif.Lemmas.NnpsMorton
import PysphVerif.Lemmas.NnpsZOrder
import PysphVerif.Lemmas.NnpsZOrderSym
import PysphVerif.Lemmas.NnpsStrat
import PysphVerif.Lemmas.NnpsSfc
import PysphVerif.Lemmas.NnpsBounds
import PysphVerif.Lemmas.NnpsAlias
import Mathlib.Data.Rat.Floor
/-!
# C01 — every neighbour-search algorithm returns exactly the true neighbour set

The theorems are about `Model/Nnps.lean` (the shared front end of `nnps_base.pyx`, the Grid
family's 3×3×3 stencil, the linked list, the neighbour cache, the pruning test of the octree
query), `Model/NnpsStore.lean` (the per-class storage), `Model/NnpsZOrder.lean` (ZOrderNNPS,
ExtendedZOrderNNPS), `Model/NnpsStrat.lean` (StratifiedHashNNPS, StratifiedSFCNNPS),
`Model/NnpsBounds.lean` (`NNPS._compute_bounds`, `_get_number_of_cells`) and `Model/NnpsAlias.lean`
(who owns the memory a query writes to).  The model is tied to the 12 compiled classes by
differential execution on dyadic-grid inputs (`harness/c01.py`), which also dumps the real octrees
and has the driver check the hypotheses of `tree_query_exact` on them.

All geometric statements hold over every linearly ordered field with a floor function, every point
cloud with smoothing lengths `h ≥ 0`, every radius scale `rs ≥ 0` (`rs > 0` for the stratified
classes, whose cell sizes are stored divided by it), every origin of the cell grid; storage
statements hold for every insertion sequence / schedule.
-/
set_option linter.unusedSectionVars false
namespace PysphVerif.C01
open PysphVerif.Nnps

section
variable {α : Type} [Field α] [LinearOrder α] [IsStrictOrderedRing α] [FloorRing α]

/-- Points closer than one cell size land in the same or adjacent cells. -/
theorem floor_adj (x y c : α) (hc : 0 < c) (h : |x - y| < c) : |⌊x / c⌋ - ⌊y / c⌋| ≤ 1 := by
  rw [Int.abs_eq_natAbs]
  exact floor_adj_le x y c c 1 hc (by rw [div_self hc.ne', Int.cast_one]) h

end

section
open scoped PysphVerif.OrderChain

section geometry
variable {α : Type} [Field α] [LinearOrder α] [IsStrictOrderedRing α]

/-- The acceptance test is symmetric in source and destination: `j` is
returned for `i` exactly when `i` is returned for `j`. -/
theorem isNbr_symm (rs : α) (p q : Pt α) : isNbr rs q p = isNbr rs p q := by
  simp only [isNbr, gather, scatter, dist2_comm q p]
  exact Bool.or_comm _ _

/-- `d² < r²` forces every axis difference below `r`. -/
theorem sq_lt_imp_axis_lt (p q : Pt α) (r : α) (hr : 0 ≤ r) (h : dist2 p q < r * r) :
    |p.x - q.x| < r ∧ |p.y - q.y| < r ∧ |p.z - q.z| < r :=
  lt_cell_of_dist2_lt hr h

/-- What the acceptance test means, in squared form; for non-negative `rs`, `h` it says that the
distance is below `rs·max(h_i, h_j)`. -/
theorem isNbr_iff (rs : α) (q p : Pt α) :
    isNbr rs q p = true ↔
      dist2 p q < (rs * q.h) * (rs * q.h) ∨ dist2 p q < (rs * p.h) * (rs * p.h) :=
  isNbr_eq_true_iff rs q p

end geometry

section floor
variable {α : Type} [Field α] [LinearOrder α] [IsStrictOrderedRing α] [FloorRing α]

/-- When neither cut-off exceeds the cell size, a neighbour (in the sense of the acceptance test)
lies in the 3×3×3 stencil of the destination's cell, whatever the origin of the grid. -/
theorem grid_cover (rs c : α) (o q p : Pt α) (hc : 0 < c) (hrs : 0 ≤ rs)
    (hq : 0 ≤ q.h) (hp : 0 ≤ p.h) (hqc : rs * q.h ≤ c) (hpc : rs * p.h ≤ c)
    (h : isNbr rs q p = true) :
    inStencil (cell3 Int.floor c o q) (cell3 Int.floor c o p) = true := by
  have h1 : ∀ x : α, rs * x ≤ c → rs * x / c ≤ ((1 : ℤ) : α) := fun x hx => by
    rw [Int.cast_one]; exact (div_le_one hc).mpr hx
  obtain ⟨a1, a2, a3⟩ := nbr_cells_within rs c 1 o q p hc hrs hq hp (h1 _ hqc) (h1 _ hpc) h
  rw [inStencil_iff]
  omega

end floor

section master
variable {α : Type} [Field α] [LinearOrder α] [IsStrictOrderedRing α]

theorem accepts_lt (rs : α) (src : List (Pt α)) (q : Pt α) (j : Nat)
    (h : accepts rs src q j = true) : j < src.length :=
  ((accepts_iff rs src q j).mp h).1

/-- **Master theorem.**  Whatever produces the candidate indices: if every
accepted source index is among the candidates and no candidate is repeated,
the filtered candidates are exactly the brute-force neighbour list up to order,
without duplicates, and all indices are valid. -/
theorem exact_of_cover_nodup (rs : α) (src : List (Pt α)) (q : Pt α) (cands : List Nat)
    (hcover : ∀ j, j < src.length → accepts rs src q j = true → j ∈ cands)
    (hnd : cands.Nodup) :
    (nbrsOf rs src q cands).Perm (bruteForce rs src q) ∧ (nbrsOf rs src q cands).Nodup ∧
      ∀ j ∈ nbrsOf rs src q cands, j < src.length :=
  exactNbrs_of_cover_nodup rs src q cands
    (fun j hj hn => hcover j hj ((accepts_iff rs src q j).mpr ⟨hj, hn⟩)) hnd

/-- The brute-force list itself: no duplicates, valid indices, and `j` is in it
exactly when the acceptance test holds for source particle `j`. -/
theorem bruteForce_spec (rs : α) (src : List (Pt α)) (q : Pt α) :
    (bruteForce rs src q).Nodup ∧
      ∀ j, j ∈ bruteForce rs src q ↔ ∃ p, src[j]? = some p ∧ isNbr rs q p = true := by
  refine ⟨List.nodup_range.filter _, fun j => ?_⟩
  simp only [bruteForce, nbrsOf, List.mem_filter, List.mem_range, accepts_iff]
  constructor
  · rintro ⟨_, hj, hn⟩; exact ⟨src[j], List.getElem?_eq_getElem hj, hn⟩
  · rintro ⟨p, hp, hn⟩
    obtain ⟨hj, rfl⟩ := List.getElem?_eq_some_iff.mp hp
    exact ⟨hj, hj, hn⟩

end master

/-! ## Grid family (LinkedList, BoxSort, DictBoxSort, SpatialHash, CellIndexing) -/
section grid
variable {α : Type} [Field α] [LinearOrder α] [IsStrictOrderedRing α] [FloorRing α]

/-- The Grid family returns exactly the brute-force list (same order even, as
both enumerate source indices increasingly) when the cell size is at least
every particle's cut-off `rs·h`. -/
theorem nbrs_exact_grid (rs c : α) (o : Pt α) (src : List (Pt α)) (q : Pt α)
    (hc : 0 < c) (hrs : 0 ≤ rs) (hq : 0 ≤ q.h) (hqc : rs * q.h ≤ c)
    (hsrc : ∀ p ∈ src, 0 ≤ p.h ∧ rs * p.h ≤ c) :
    gridNbrs Int.floor rs c o src q = bruteForce rs src q := by
  simp only [gridNbrs, gridCands, nbrsOf, bruteForce, List.filter_filter]
  apply List.filter_congr
  intro j _
  rw [Bool.and_eq_left_iff_imp]
  intro ha
  obtain ⟨hj, hn⟩ := (accepts_iff rs src q j).mp ha
  have hp := hsrc _ (List.getElem_mem hj)
  simp only [List.getElem?_eq_getElem hj]
  exact grid_cover rs c o q src[j] hc hrs hq hp.1 hqc hp.2 hn

/-- Any candidate list that is a permutation of the stencil's particles, in
whatever order a storage visits them, returns the brute-force set, without
duplicates, with valid indices (`nbrs_exact_grid` up to order). -/
theorem nbrs_exact_of_cands_perm_grid (rs c : α) (o : Pt α) (src : List (Pt α)) (q : Pt α)
    (cands : List Nat) (hperm : cands.Perm (gridCands Int.floor c o src q))
    (hc : 0 < c) (hrs : 0 ≤ rs) (hq : 0 ≤ q.h) (hqc : rs * q.h ≤ c)
    (hsrc : ∀ p ∈ src, 0 ≤ p.h ∧ rs * p.h ≤ c) :
    (nbrsOf rs src q cands).Perm (bruteForce rs src q) ∧ (nbrsOf rs src q cands).Nodup ∧
      ∀ j ∈ nbrsOf rs src q cands, j < src.length := by
  exact exactNbrs_of_perm rs src q cands
    ((hperm.filter _).trans (.of_eq (nbrs_exact_grid rs c o src q hc hrs hq hqc hsrc)))

/-- The cell size chosen by `_compute_cell_size_for_binning` is positive and at
least the cut-off `rs·h` of every particle of every array. -/
theorem cellSize_covers (rs tiny : α) (hss : List (List α)) (hrs : 0 ≤ rs)
    (ht0 : 0 < tiny) (ht1 : tiny ≤ 1) :
    0 < cellSize rs tiny hss ∧
      ∀ hs ∈ hss, ∀ h ∈ hs, rs * h ≤ cellSize rs tiny hss := by
  have hle : ∀ hs ∈ hss, ∀ h ∈ hs, rs * h ≤ rs * hmaxAll hss := fun hs hh h hx =>
    mul_le_mul_of_nonneg_left (hmaxAll_ge hss hs hh h hx) hrs
  unfold cellSize
  split
  · next hlt => exact ⟨one_pos, fun hs hh h hx => (hle hs hh h hx).trans (hlt.le.trans ht1)⟩
  · next hge => exact ⟨lt_of_lt_of_le ht0 (not_lt.mp hge), hle⟩

/-- Grid family with the cell size the code computes: exact for every
destination particle of every array against every source array. -/
theorem nbrs_exact_grid_cellSize (rs tiny : α) (o : Pt α) (arrs : List (List (Pt α)))
    (src dst : List (Pt α)) (q : Pt α) (hs : src ∈ arrs) (hd : dst ∈ arrs) (hq : q ∈ dst)
    (hrs : 0 ≤ rs) (ht0 : 0 < tiny) (ht1 : tiny ≤ 1)
    (hpos : ∀ a ∈ arrs, ∀ p ∈ a, 0 ≤ p.h) :
    gridNbrs Int.floor rs (cellSize rs tiny (arrs.map (fun a => a.map (·.h)))) o src q =
      bruteForce rs src q := by
  obtain ⟨hc, hcov⟩ := cellSize_covers rs tiny (arrs.map (fun a => a.map (·.h))) hrs ht0 ht1
  apply nbrs_exact_grid rs _ o src q hc hrs (hpos dst hd q hq)
  · exact hcov _ (List.mem_map_of_mem hd) _ (List.mem_map_of_mem hq)
  · intro p hp
    exact ⟨hpos src hs p hp, hcov _ (List.mem_map_of_mem hs) _ (List.mem_map_of_mem hp)⟩

/-- `flatten_raw` is injective on the cells that pass the `is_valid` test. -/
theorem flatten_inj (nc : Nat × Nat × Nat) (a b : Cell) (ha : isValidCell nc a = true)
    (hb : isValidCell nc b = true) (h : flattenCell nc a = flattenCell nc b) : a = b :=
  flattenCell_inj nc a b ha hb h

/-- The 27-cell loop with the `is_valid` test visits exactly the in-range cells adjacent to the
destination's cell (±1 per axis), none twice; and their flattened indices are distinct and lie
in `[0, ncx·ncy·ncz)`. -/
theorem stencil_enumerates_valid (nc : Nat × Nat × Nat) (cq : Cell) :
    ((stencilCells cq).filter (isValidCell nc)).Nodup ∧
    (∀ c, c ∈ (stencilCells cq).filter (isValidCell nc) ↔
      (inStencil cq c = true ∧ isValidCell nc c = true)) ∧
    (((stencilCells cq).filter (isValidCell nc)).map (flattenCell nc)).Nodup ∧
    ∀ c ∈ (stencilCells cq).filter (isValidCell nc),
      0 ≤ flattenCell nc c ∧ flattenCell nc c < ((nc.1 * nc.2.1 * nc.2.2 : Nat) : Int) := by
  have nd := (stencilCells_nodup cq).filter (isValidCell nc)
  refine ⟨nd, ?_, ?_, ?_⟩
  · intro c
    rw [List.mem_filter, mem_stencilCells]
  · refine nd.map_on ?_
    intro a ha b hb hab
    exact flattenCell_inj nc a b (List.mem_filter.mp ha).2 (List.mem_filter.mp hb).2 hab
  · intro c hc
    exact flattenCell_range nc c (List.mem_filter.mp hc).2

/-- For every hash function (so for every table size ≥ 1 and whatever
cells collide in a bucket), after any sequence of `add` calls the chain lookup `get(i,j,k)`
returns exactly the particle indices that were added with the integer cell `(i,j,k)`, in
insertion order (nothing when there is none): the chain compares the cell coordinates, not the
key. -/
theorem hash_get_eq_cell (hash : Cell → Nat) (items : List (Cell × Nat × α)) (c : Cell) :
    HTable.indices hash (HTable.build hash items) c =
      (items.filter (fun it => it.1 = c)).map (·.2.1) :=
  indices_build hash items c

theorem cell_nonneg (c : α) (o p : Pt α) (hc : 0 < c)
    (hlo : o.x ≤ p.x ∧ o.y ≤ p.y ∧ o.z ≤ p.z) : nonnegCell (cell3 Int.floor c o p) = true :=
  (nonnegCell_iff _).mpr
    ⟨cellOf_nonneg hc hlo.1, cellOf_nonneg hc hlo.2.1, cellOf_nonneg hc hlo.2.2⟩

/-- A coordinate inside the bounds `[xmin, xmax)` (or sitting on `xmin`, as on an axis without
extent, `xmin = x = xmax`) gets a cell index in `[0, ncx)` with `ncx = max 1 ⌈(xmax − xmin)/c⌉` as
`_get_number_of_cells` computes it. -/
theorem cell_in_range (x xmin xmax c : α) (hc : 0 < c) (h1 : xmin ≤ x)
    (h2 : x < xmax ∨ x = xmin) :
    0 ≤ ⌊(x - xmin) / c⌋ ∧ ⌊(x - xmin) / c⌋ < max 1 ⌈(xmax - xmin) / c⌉ := by
  refine ⟨cellOf_nonneg hc h1, ?_⟩
  rcases h2 with h2 | h2
  · exact lt_of_lt_of_le (Int.floor_lt_ceil_of_lt
      (div_lt_div_of_pos_right (sub_lt_sub_right h2 xmin) hc)) (le_max_right _ _)
  · refine lt_of_lt_of_le ?_ (le_max_left _ _)
    rw [h2, sub_self, zero_div, Int.floor_zero]
    exact Int.zero_lt_one

/-- The hypothesis `hvalid` of the LinkedList / BoxSort theorems follows from the bounds: with the
grid origin `lo` and the box `(ncx, ncy, ncz) = max 1 ⌈(hi − lo)/c⌉` per axis (what
`_get_number_of_cells` computes), every particle with `lo ≤ p < hi` per axis (or on a degenerate
axis `lo = p`) is binned into a valid cell. -/
theorem valid_of_bounds (c : α) (lo hi p : Pt α) (hc : 0 < c)
    (hx : lo.x ≤ p.x ∧ (p.x < hi.x ∨ p.x = lo.x)) (hy : lo.y ≤ p.y ∧ (p.y < hi.y ∨ p.y = lo.y))
    (hz : lo.z ≤ p.z ∧ (p.z < hi.z ∨ p.z = lo.z)) :
    isValidCell ((max 1 ⌈(hi.x - lo.x) / c⌉).toNat, (max 1 ⌈(hi.y - lo.y) / c⌉).toNat,
      (max 1 ⌈(hi.z - lo.z) / c⌉).toNat) (cell3 Int.floor c lo p) = true := by
  rw [isValidCell_iff]
  simp only [cell3, cellOf]
  obtain ⟨x0, x1⟩ := cell_in_range p.x lo.x hi.x c hc hx.1 hx.2
  obtain ⟨y0, y1⟩ := cell_in_range p.y lo.y hi.y c hc hy.1 hy.2
  obtain ⟨z0, z1⟩ := cell_in_range p.z lo.z hi.z c hc hz.1 hz.2
  have e : ∀ n : Int, ((max 1 n).toNat : Int) = max 1 n := fun n =>
    Int.toNat_of_nonneg (le_trans Int.one_nonneg (le_max_left _ _))
  rw [e, e, e]
  exact ⟨x0, x1, y0, y1, z0, z1⟩

private theorem stencil_cover (rs c : α) (o : Pt α) (src : List (Pt α)) (q : Pt α)
    (hc : 0 < c) (hrs : 0 ≤ rs) (hq : 0 ≤ q.h) (hqc : rs * q.h ≤ c)
    (hsrc : ∀ p ∈ src, 0 ≤ p.h ∧ rs * p.h ≤ c) (j : Nat) (hj : j < src.length)
    (hn : isNbr rs q src[j] = true) :
    inStencil (cell3 Int.floor c o q) (cellAtOf Int.floor c o src j) = true := by
  have hp := hsrc _ (List.getElem_mem hj)
  rw [cellAtOf_of_lt _ _ _ _ hj]
  exact grid_cover rs c o q src[j] hc hrs hq hp.1 hqc hp.2 hn

/-- **LinkedListNNPS**: binning by head insertion into `head[flatten(cell)]`, then walking the
chains of the valid cells among the 27 stencil cells, returns exactly the brute-force set
(no duplicates, valid indices) — for every cloud whose particles lie in valid cells (see
`cell_in_range`), every box `(ncx, ncy, ncz)` with `n_cells = ncx·ncy·ncz`, every cell size at
least the cut-offs. -/
theorem nbrs_exact_LinkedListNNPS (rs c : α) (o : Pt α) (nc : Nat × Nat × Nat)
    (src : List (Pt α)) (q : Pt α)
    (hc : 0 < c) (hrs : 0 ≤ rs) (hq : 0 ≤ q.h) (hqc : rs * q.h ≤ c)
    (hsrc : ∀ p ∈ src, 0 ≤ p.h ∧ rs * p.h ≤ c)
    (hvalid : ∀ p ∈ src, isValidCell nc (cell3 Int.floor c o p) = true) :
    let cands := llCands nc (nc.1 * nc.2.1 * nc.2.2) src.length (cellAtOf Int.floor c o src)
      (cell3 Int.floor c o q)
    (nbrsOf rs src q cands).Perm (bruteForce rs src q) ∧ (nbrsOf rs src q cands).Nodup ∧
      ∀ j ∈ nbrsOf rs src q cands, j < src.length :=
  exactNbrs_of_lookup rs src q (stencilCells_nodup _)
    (fun b _ => ll_lookup_spec nc src.length _
      (forall_cellAtOf Int.floor c o src (isValidCell nc · = true) hvalid) b)
    fun j hj hn => (mem_stencilCells _ _).mpr (stencil_cover rs c o src q hc hrs hq hqc hsrc j hj hn)

/-- **BoxSortNNPS**: the same walk with the dense index `cell_to_index[flatten(cell)]` of the
`std::map` built by `_count_occupied_cells` over the flattened ids `ids` of all particles of all
arrays (only `ids ⊇` this array's ids is used). -/
theorem nbrs_exact_BoxSortNNPS (rs c : α) (o : Pt α) (nc : Nat × Nat × Nat) (ids : List Int)
    (src : List (Pt α)) (q : Pt α)
    (hc : 0 < c) (hrs : 0 ≤ rs) (hq : 0 ≤ q.h) (hqc : rs * q.h ≤ c)
    (hsrc : ∀ p ∈ src, 0 ≤ p.h ∧ rs * p.h ≤ c)
    (hvalid : ∀ p ∈ src, isValidCell nc (cell3 Int.floor c o p) = true)
    (hids : ∀ p ∈ src, flattenCell nc (cell3 Int.floor c o p) ∈ ids) :
    let cands := boxCands nc (occupied ids) src.length (cellAtOf Int.floor c o src)
      (cell3 Int.floor c o q)
    (nbrsOf rs src q cands).Perm (bruteForce rs src q) ∧ (nbrsOf rs src q cands).Nodup ∧
      ∀ j ∈ nbrsOf rs src q cands, j < src.length :=
  exactNbrs_of_lookup rs src q (stencilCells_nodup _)
    (fun b _ => box_lookup_spec nc _ src.length _
      (forall_cellAtOf Int.floor c o src (isValidCell nc · = true) hvalid)
      (forall_cellAtOf Int.floor c o src (flattenCell nc · ∈ occupied ids)
        fun p hp => (mem_occupied ids _).mpr (hids p hp)) b)
    fun j hj hn => (mem_stencilCells _ _).mpr (stencil_cover rs c o src q hc hrs hq hqc hsrc j hj hn)

/-- **SpatialHashNNPS**: exact for every table size ≥ 1 (every bucket index is then inside
the table), whatever cells collide, for every cell size at least the cut-offs and every cloud with
no particle below the grid origin `o` (`hlo`; the code bins relative to `xmin`, and
`_neighbor_boxes` drops the boxes with a negative coordinate). -/
theorem nbrs_exact_SpatialHashNNPS (rs c : α) (o : Pt α) (size : Nat) (hsize : 1 ≤ size)
    (src : List (Pt α)) (q : Pt α)
    (hc : 0 < c) (hrs : 0 ≤ rs) (hq : 0 ≤ q.h) (hqc : rs * q.h ≤ c)
    (hsrc : ∀ p ∈ src, 0 ≤ p.h ∧ rs * p.h ≤ c)
    (hlo : ∀ p ∈ src, o.x ≤ p.x ∧ o.y ≤ p.y ∧ o.z ≤ p.z) :
    let cands := shCands (spatialHash size) src.length (cellAtOf Int.floor c o src) (hAtOf src)
      (cell3 Int.floor c o q)
    ((nbrsOf rs src q cands).Perm (bruteForce rs src q) ∧ (nbrsOf rs src q cands).Nodup ∧
      ∀ j ∈ nbrsOf rs src q cands, j < src.length) ∧ ∀ cell, spatialHash size cell < size := by
  intro cands
  refine ⟨?_, spatialHash_lt size hsize⟩
  exact exactNbrs_of_lookup rs src q ((stencilCells_nodup _).filter _)
    (fun b _ => hash_lookup_spec _ _ _ _ b) fun j hj hn => List.mem_filter.mpr
      ⟨(mem_stencilCells _ _).mpr (stencil_cover rs c o src q hc hrs hq hqc hsrc j hj hn),
        forall_cellAtOf Int.floor c o src (nonnegCell · = true)
          (fun p hp => cell_nonneg c o p hc (hlo p hp)) j hj⟩

/-- **DictBoxSortNNPS**: `items` is whatever `_bin` inserted for all arrays, in any order; the
items of the source array `s` are its particles with their cells in index order. -/
theorem nbrs_exact_DictBoxSortNNPS (rs c : α) (o : Pt α) (items : List (Nat × Nat × Cell))
    (s : Nat) (src : List (Pt α)) (q : Pt α)
    (hc : 0 < c) (hrs : 0 ≤ rs) (hq : 0 ≤ q.h) (hqc : rs * q.h ≤ c)
    (hsrc : ∀ p ∈ src, 0 ≤ p.h ∧ rs * p.h ≤ c)
    (hitems : items.filter (fun t => t.1 = s) =
      dictItems s src.length (cellAtOf Int.floor c o src)) :
    let cands := dictCands (dictBuild items) s (cell3 Int.floor c o q)
    (nbrsOf rs src q cands).Perm (bruteForce rs src q) ∧ (nbrsOf rs src q cands).Nodup ∧
      ∀ j ∈ nbrsOf rs src q cands, j < src.length :=
  exactNbrs_of_lookup rs src q (stencilCells_nodup _)
    (fun b _ => dict_lookup_spec items s src.length _ hitems b)
    fun j hj hn => (mem_stencilCells _ _).mpr (stencil_cover rs c o src q hc hrs hq hqc hsrc j hj hn)

/-- Under the explicit no-overflow guard `ciFits` (index below `2^I`, x cell
below `2^J`, y cell below `2^K`, whole sum below `2^32`), `_get_id`, `_get_x`, `_get_y`,
`_get_z` recover exactly what `_get_key` packed. -/
theorem pack_unpack (I J K n : Nat) (c : Nat × Nat × Nat) (h : ciFits I J K n c = true) :
    ciId I (ciKey I J K n c) = n ∧ ciCell I J K (ciKey I J K n c) = c :=
  ⟨(ci_unpack I J K n c h).1, (ci_unpack I J K n c h).2.1⟩

/-- Under the guard two keys coincide only for the same particle index and the
same cell. -/
theorem pack_inj (I J K n n' : Nat) (c c' : Nat × Nat × Nat) (h : ciFits I J K n c = true)
    (h' : ciFits I J K n' c' = true) (e : ciKey I J K n c = ciKey I J K n' c') :
    n = n' ∧ c = c' :=
  ci_pack_inj I J K n n' c c' h h' e

/-- **CellIndexingNNPS** under the guard: every particle's key and the key of every visited
stencil box fit (for whatever bit widths `I, J, K` the `log2` expressions produced).  Sorting the
keys, detecting the runs of equal decoded cells, `std::map` lookup of the box key and the walk
over the run return exactly the brute-force set, for every cell size at least the cut-offs and
every cloud with no particle below the grid origin (`hlo`). -/
theorem nbrs_exact_CellIndexingNNPS (rs c : α) (o : Pt α) (I J K : Nat)
    (src : List (Pt α)) (q : Pt α)
    (hc : 0 < c) (hrs : 0 ≤ rs) (hq : 0 ≤ q.h) (hqc : rs * q.h ≤ c)
    (hsrc : ∀ p ∈ src, 0 ≤ p.h ∧ rs * p.h ≤ c)
    (hlo : ∀ p ∈ src, o.x ≤ p.x ∧ o.y ≤ p.y ∧ o.z ≤ p.z)
    (hfit : ∀ j, j < src.length → ciFits I J K j (cellAtOf Int.floor c o src j).toNat3 = true)
    (hbox : ∀ b ∈ neighborBoxesZ (cell3 Int.floor c o q), ciFits I J K 0 b.toNat3 = true) :
    let cands := ciCands I J K src.length (cellAtOf Int.floor c o src) (cell3 Int.floor c o q)
    (nbrsOf rs src q cands).Perm (bruteForce rs src q) ∧ (nbrsOf rs src q cands).Nodup ∧
      ∀ j ∈ nbrsOf rs src q cands, j < src.length := by
  have hnn := forall_cellAtOf Int.floor c o src (nonnegCell · = true)
    fun p hp => cell_nonneg c o p hc (hlo p hp)
  exact exactNbrs_of_lookup rs src q ((stencilCellsZ_nodup _).filter _)
    (fun b hb => ci_lookup_spec I J K _ _ hnn hfit b (List.mem_filter.mp hb).2 (hbox b hb))
    fun j hj hn => List.mem_filter.mpr
      ⟨(mem_stencilCellsZ _ _).mpr (stencil_cover rs c o src q hc hrs hq hqc hsrc j hj hn), hnn j hj⟩

end grid

/-- The guard is necessary: with `J = 0` bits for the x cell (what
`<u_int>(1 + log2(ceil(0/cell_size)))`, the code's expression without its `fmax(1, ·)`, yields
for a cloud without extent in x) the boxes
`(1, 0, 0)` and `(0, 1, 0)` of the stencil get the same key, and the particle of cell `(0,1,0)`
is visited twice (three particles with cells `(0,0,0), (0,0,0), (0,1,0)`, `I = 2`, `K = 2`;
this is the input of `proposed_fixes/C01-cellindexing-zero-extent-bits.diff`). -/
theorem ci_guard_necessary :
    ¬ (ciCands 2 0 2 3 (fun j => if j = 2 then (0, 1, 0) else (0, 0, 0)) (0, 0, 0)).Nodup := by
  decide +kernel

/-- NOT proved: CellIndexing without the guard ("aliased boxes only add candidates that fail
the acceptance test and two stencil boxes never alias").  `ci_guard_necessary` shows how it fails
for the bit widths computed without the `fmax(1, ·)` on clouds without x (or y) extent: two stencil
boxes alias and a particle is visited twice, so it is returned twice when it is a neighbour. -/
def nbrs_exact_CellIndexingNNPS_unguarded : Prop :=
  ∀ (rs c : ℚ) (o : Pt ℚ) (I J K : Nat) (src : List (Pt ℚ)) (q : Pt ℚ),
    0 < c → 0 ≤ rs → 0 ≤ q.h → rs * q.h ≤ c → (∀ p ∈ src, 0 ≤ p.h ∧ rs * p.h ≤ c) →
    (∀ p ∈ src, o.x ≤ p.x ∧ o.y ≤ p.y ∧ o.z ≤ p.z) →
    (nbrsOf rs src q (ciCands I J K src.length (cellAtOf Int.floor c o src)
      (cell3 Int.floor c o q))).Perm (bruteForce rs src q)

section subgrid
variable {α : Type} [Field α] [LinearOrder α] [IsStrictOrderedRing α] [FloorRing α]

/-- With sub-cells of size `c/H` (`H ≥ 1`), a neighbour `p` of `q`, neither
cut-off exceeding the cell size `c`, lies in a sub-cell whose offset `m` from the query's
sub-cell satisfies, on every axis, `|m| ≤ H` (inside the mask `±H`) and
`|m| ≤ ⌈rs·max(hm, h_q)/(c/H)⌉` for every `hm ≥ h_p` (the per-box cut with the box's `h_max`). -/
theorem subgrid_cover (rs c : α) (H : Nat) (o q p : Pt α) (hm : α) (hc : 0 < c) (hH : 1 ≤ H)
    (hrs : 0 ≤ rs) (hq : 0 ≤ q.h) (hp : 0 ≤ p.h) (hqc : rs * q.h ≤ c) (hpc : rs * p.h ≤ c)
    (hhm : p.h ≤ hm) (h : isNbr rs q p = true) :
    let a := cell3 Int.floor (c / (H : α)) o p
    let b := cell3 Int.floor (c / (H : α)) o q
    let K := ⌈rs * fmaxA hm q.h / (c / (H : α))⌉
    ((a.1 - b.1).natAbs ≤ H ∧ (a.2.1 - b.2.1).natAbs ≤ H ∧ (a.2.2 - b.2.2).natAbs ≤ H) ∧
    (((a.1 - b.1).natAbs : Int) ≤ K ∧ ((a.2.1 - b.2.1).natAbs : Int) ≤ K ∧
      ((a.2.2 - b.2.2).natAbs : Int) ≤ K) := by
  intro a b K
  have hHpos : (0 : α) < (H : α) := by exact_mod_cast hH
  have hs : 0 < c / (H : α) := div_pos hc hHpos
  -- `H` sub-cells make a cell, which is at least as long as either cut-off …
  have hH' : ∀ x : α, rs * x ≤ c → rs * x / (c / (H : α)) ≤ ((H : ℤ) : α) := fun x hx => by
    rw [div_le_iff₀ hs, Int.cast_natCast, mul_div_cancel₀ _ hHpos.ne']; exact hx
  -- … and so are `K` sub-cells, `hm` being at least `h_p`
  exact ⟨(nbr_cells_within rs _ H o q p hs hrs hq hp (hH' _ hqc) (hH' _ hpc) h).natAbs_le,
    nbr_cells_within_ceil rs _ _ o q p hs hrs hq hp
      (mul_le_mul_of_nonneg_left (fmaxA_ge_right _ _) hrs)
      (mul_le_mul_of_nonneg_left (le_trans hhm (fmaxA_ge_left _ _)) hrs) h⟩

/-- **ExtendedSpatialHashNNPS (exact mode)**: particles hashed by sub-cell of size `c/H`, the
full `±H` mask, the per-box cut with the box's `h_max`; exact for every `H ≥ 1`, every hash
function / table size, every cloud with cut-offs at most `c` and no particle below the grid origin
`o` (`hlo`; `_neighbor_boxes` drops the boxes with a negative coordinate). -/
theorem nbrs_exact_ExtendedSpatialHashNNPS (rs c : α) (H : Nat) (o : Pt α) (hash : Cell → Nat)
    (src : List (Pt α)) (q : Pt α)
    (hc : 0 < c) (hH : 1 ≤ H) (hrs : 0 ≤ rs) (hq : 0 ≤ q.h) (hqc : rs * q.h ≤ c)
    (hsrc : ∀ p ∈ src, 0 ≤ p.h ∧ rs * p.h ≤ c)
    (hlo : ∀ p ∈ src, o.x ≤ p.x ∧ o.y ≤ p.y ∧ o.z ≤ p.z) :
    let cands := eshCands Int.ceil hash H rs (c / (H : α)) src.length
      (cellAtOf Int.floor (c / (H : α)) o src) (hAtOf src) q.h (cell3 Int.floor (c / (H : α)) o q)
    (nbrsOf rs src q cands).Perm (bruteForce rs src q) ∧ (nbrsOf rs src q cands).Nodup ∧
      ∀ j ∈ nbrsOf rs src q cands, j < src.length := by
  intro cands
  have hs : 0 < c / (H : α) := div_pos hc (by exact_mod_cast hH)
  refine exactNbrs_of_lookup rs src q (((hMaskExact_nodup H).filter _).map (Cell.add_injective _))
    (fun c _ => hash_lookup_spec hash _ _ _ c) fun j hj hn => ?_
  have hmem : src[j] ∈ src := List.getElem_mem hj
  -- the entry of the neighbour's sub-cell exists and its `h_max` bounds the neighbour's `h`
  obtain ⟨e, hget, hmax⟩ := hmax_hashItems hash src.length
    (cellAtOf Int.floor (c / (H : α)) o src) (hAtOf src) j hj
  rw [hAtOf_of_lt src hj] at hmax
  obtain ⟨⟨m1, m2, m3⟩, ⟨k1, k2, k3⟩⟩ := subgrid_cover rs c H o q src[j] e.hmax hc hH hrs hq
    (hsrc _ hmem).1 hqc (hsrc _ hmem).2 hmax hn
  have hnn := cell_nonneg _ o _ hs (hlo _ hmem)
  rw [cellAtOf_of_lt _ _ _ _ hj] at hget ⊢
  -- its offset from the query's sub-cell is a mask entry that passes the test of `_neighbor_boxes`
  refine (mem_map_add_iff _ _ _).mpr
    (List.mem_filter.mpr ⟨(mem_hMaskExact H _).mpr ⟨m1, m2, m3⟩, ?_⟩)
  unfold eshBoxOk
  rw [Cell.add_sub, hget]
  simp only [Bool.and_eq_true, decide_eq_true_eq]
  exact ⟨hnn, ⟨k1, k2⟩, k3⟩

end subgrid

/-- After any insertion sequence with distinct particle ids, walking `head[c]`
(with at least as much fuel as there are particles) lists exactly the inserted
particles of flattened cell `c`, most recently inserted first — in particular
each exactly once. -/
theorem ll_traverse_eq_bucket (items : List (Nat × Nat))
    (hnd : (items.map (·.1)).Nodup) (c : Nat) :
    ∀ n, items.length ≤ n →
      (LL.build items).traverse n c =
        ((items.filter (fun ic => ic.2 = c)).map (·.1)).reverse :=
  traverse_eq_bucket items hnd c

/-- For every assignment of destinations to threads and every order in which
the fills happen (`sched`), a later `get_neighbors` for any destination `d`
returns exactly what `find_nearest_neighbors` produces for `d` — whether `d`
was filled by some thread before or is filled on demand now. -/
theorem cache_get_eq_find (find : Nat → List Nat) (sched : List (Nat × Nat)) (d : Nat) :
    (Cache.get find (Cache.run find Cache.reset sched) d).2 = find d :=
  Cache.get_of_inv find _ (Cache.inv_run find sched Cache.reset (Cache.inv_reset find)) d

/-- … and successive gets keep answering correctly (the cache never goes stale
between updates). -/
theorem cache_get_preserves (find : Nat → List Nat) (s : Cache) (d e : Nat)
    (h : Cache.Inv find s) :
    Cache.Inv find (Cache.get find s d).1 ∧
      (Cache.get find (Cache.get find s d).1 e).2 = find e := by
  have h1 := Cache.inv_fillGuarded find s (0, d) h
  exact ⟨h1, Cache.get_of_inv find _ h1 e⟩

/-- `update()` forgets everything. -/
theorem cache_update_resets (d : Nat) : Cache.reset.cached d = false := rfl

/-! ## who owns the memory a query writes to (`Model/NnpsAlias.lean`)

A cached query does not copy: it turns the caller's output array into a VIEW of the cache's
per-thread buffer.  The statements below are about every history of calls of the query API on any
number of NNPS objects / (dst, src) pairs (caches `c`) with any number of output arrays `a`, shared
or not, in any mix. -/

/-- **A query never writes the cache storage**: an un-cached query that detaches the output array
first (`c_reset()`, what `get_nearest_particles_no_cache(…, prealloc=False)` and
`get_nearest_particles` with the cache off do) leaves every cache of every object exactly as it
was, whatever the array was a view of. -/
theorem direct_query_never_writes_cache (find : Nat → Nat → List Nat) (s : AState) (c d a : Nat) :
    (s.step find (AOp.direct true c d a)).1.caches = s.caches :=
  stepDirect_caches find s true c d a (emptied_detach _)

/-- … and so does the `prealloc=True` form on an array that is not a view (the caller's own,
pre-allocated array, as the flag promises). -/
theorem prealloc_query_never_writes_cache (find : Nat → Nat → List Nat) (s : AState) (c d a : Nat)
    (h : (s.arrs a).view = none) :
    (s.step find (AOp.direct false c d a)).1.caches = s.caches :=
  stepDirect_caches find s false c d a (by rw [emptied_keep]; exact h)

/-- **Every history of queries is exact**: starting from freshly updated caches, after ANY sequence
of cached queries, un-cached queries and cache resets, on any objects / array pairs, with output
arrays shared between them in any way, every call hands the caller exactly what
`find_nearest_neighbors` produces for that call — provided only that `prealloc=True` is never used
on an array that is currently a view (`safeRun`).  In particular a cached entry read again after
any number of interleaved un-cached queries made with the same output array is unchanged. -/
theorem query_history_exact (find : Nat → Nat → List Nat) (ops : List AOp)
    (hs : AState.safeRun find AState.init ops = true) :
    (AState.run find AState.init ops).2 = ops.map (AOp.expected find) :=
  (AState.run_ok find ops AState.init (AState.inv_init find) hs).2

/-- the same from any state whose caches are consistent, together with the invariant that makes
the statement compose over updates -/
theorem query_history_exact_from (find : Nat → Nat → List Nat) (ops : List AOp) (s : AState)
    (h : AState.Inv find s) (hs : AState.safeRun find s ops = true) :
    AState.Inv find (AState.run find s ops).1 ∧
      (AState.run find s ops).2 = ops.map (AOp.expected find) :=
  AState.run_ok find ops s h hs

/-- **The detach is necessary**: with `length = 0` in place of `c_reset()` (the two branches of
`get_nearest_particles_no_cache` merged into "just empty the array") the history
cached(0) → un-cached(1) → cached(0) with ONE output array returns the neighbours of particle 1
for particle 0: the un-cached query wrote into the cache's buffer.  (Kernel-checked on the model;
this is the history class the harness runs against the compiled classes.) -/
theorem detach_necessary :
    let find : Nat → Nat → List Nat := fun _ d => [10 * d, 10 * d + 1]
    let ops := [AOp.cached 0 0 0, AOp.direct false 0 1 0, AOp.cached 0 0 0]
    AState.safeRun find AState.init ops = false ∧
    (AState.run find AState.init ops).2 = [[0, 1], [10, 11], [10, 11]] ∧
    ops.map (AOp.expected find) = [[0, 1], [10, 11], [0, 1]] := by
  decide +kernel

/-- non-vacuity: a safe history over two caches and two output arrays (shared array 0 goes
cached → un-cached → cached on another cache → `prealloc` after a detach; a reset in between) -/
example :
    let find : Nat → Nat → List Nat := fun c d => [c, d, c + d]
    let ops := [AOp.cached 0 2 0, AOp.direct true 1 0 0, AOp.cached 0 2 0, AOp.cached 1 1 0,
      AOp.cached 0 1 1, AOp.direct true 0 0 0, AOp.direct false 1 3 0, AOp.reset 0 1,
      AOp.cached 0 2 1, AOp.cached 1 1 0]
    AState.safeRun find AState.init ops = true ∧
    (AState.run find AState.init ops).2 =
      [[0, 2, 2], [1, 0, 1], [0, 2, 2], [1, 1, 2], [0, 1, 1], [0, 0, 0], [1, 3, 4], [],
       [0, 2, 2], [1, 1, 2]] := by
  decide +kernel

section bounds
variable {α : Type} [Field α] [LinearOrder α] [IsStrictOrderedRing α] [FloorRing α]

/-- **Every particle lands in a valid cell.**  For every list of particle arrays (empty ones
included), every padding fraction `pad > 0` (the code: 0.01), every half-cell factor `half > 0`
(the code: 0.5, for a cloud without extent), every cell size `c > 0`: with
`xmin / xmax` as `NNPS._compute_bounds` computes them and `ncells_per_dim` as
`_get_number_of_cells` counts them (`max 1 ⌈(xmax − xmin)/c⌉` per axis), the cell
`⌊(x − xmin)/c⌋` of every particle of every array passes `is_valid` of `get_valid_cell_index`.
The reason is the padding on BOTH sides: the lower one keeps the cell index non-negative, the
upper one keeps the particle with the largest coordinate strictly below `xmax` (see
`upper_pad_necessary`); an axis without extent gets one cell. -/
theorem padded_bounds_valid (big pad eps half c : α) (hpad : 0 < pad) (hhalf : 0 < half)
    (hc : 0 < c) (arrs : List (List (Pt α))) (a : List (Pt α)) (ha : a ∈ arrs) (p : Pt α)
    (hp : p ∈ a) :
    isValidCell (ncells Int.ceil c (boundsOf big pad eps half c arrs))
      (cell3 Int.floor c (boundsOf big pad eps half c arrs).origin p) = true := by
  obtain ⟨hx, hy, hz⟩ := boundsOf_inAxis big pad eps half c hpad hhalf hc arrs a ha p hp
  generalize boundsOf big pad eps half c arrs = B at hx hy hz ⊢
  -- `ncells_per_dim` is the box of `valid_of_bounds` between the lower and the upper limits
  simp only [ncells, ncAxis_eq c hc _ hx.2.1, ncAxis_eq c hc _ hy.2.1, ncAxis_eq c hc _ hz.2.1]
  exact valid_of_bounds c B.origin ⟨B.x.2, B.y.2, B.z.2, 0⟩ p hc ⟨hx.1, hx.2.2⟩ ⟨hy.1, hy.2.2⟩
    ⟨hz.1, hz.2.2⟩

/-- **LinkedListNNPS with the bounds the code computes**: the validity hypothesis of
`nbrs_exact_LinkedListNNPS` is discharged by `padded_bounds_valid` — grid origin `xmin`, box
`ncells_per_dim` from `_compute_bounds` / `_get_number_of_cells` over all arrays, source array any
of them. -/
theorem nbrs_exact_LinkedListNNPS_bounds (rs big pad eps half c : α) (hpad : 0 < pad)
    (hhalf : 0 < half) (arrs : List (List (Pt α))) (src : List (Pt α)) (hsrcm : src ∈ arrs)
    (q : Pt α) (hc : 0 < c) (hrs : 0 ≤ rs) (hq : 0 ≤ q.h) (hqc : rs * q.h ≤ c)
    (hsrc : ∀ p ∈ src, 0 ≤ p.h ∧ rs * p.h ≤ c) :
    let B := boundsOf big pad eps half c arrs
    let nc := ncells Int.ceil c B
    let cands := llCands nc (nc.1 * nc.2.1 * nc.2.2) src.length (cellAtOf Int.floor c B.origin src)
      (cell3 Int.floor c B.origin q)
    (nbrsOf rs src q cands).Perm (bruteForce rs src q) ∧ (nbrsOf rs src q cands).Nodup ∧
      ∀ j ∈ nbrsOf rs src q cands, j < src.length :=
  nbrs_exact_LinkedListNNPS rs c _ _ src q hc hrs hq hqc hsrc
    (fun p hp => padded_bounds_valid big pad eps half c hpad hhalf hc arrs src hsrcm p hp)

/-- … and BoxSortNNPS (same box; `ids ⊇` the flattened ids of the source array). -/
theorem nbrs_exact_BoxSortNNPS_bounds (rs big pad eps half c : α) (hpad : 0 < pad)
    (hhalf : 0 < half) (arrs : List (List (Pt α))) (src : List (Pt α)) (hsrcm : src ∈ arrs)
    (ids : List Int) (q : Pt α) (hc : 0 < c) (hrs : 0 ≤ rs) (hq : 0 ≤ q.h) (hqc : rs * q.h ≤ c)
    (hsrc : ∀ p ∈ src, 0 ≤ p.h ∧ rs * p.h ≤ c) :
    let B := boundsOf big pad eps half c arrs
    let nc := ncells Int.ceil c B
    (∀ p ∈ src, flattenCell nc (cell3 Int.floor c B.origin p) ∈ ids) →
    let cands := boxCands nc (occupied ids) src.length (cellAtOf Int.floor c B.origin src)
      (cell3 Int.floor c B.origin q)
    (nbrsOf rs src q cands).Perm (bruteForce rs src q) ∧ (nbrsOf rs src q cands).Nodup ∧
      ∀ j ∈ nbrsOf rs src q cands, j < src.length := by
  intro B nc hids
  exact nbrs_exact_BoxSortNNPS rs c _ _ ids src q hc hrs hq hqc hsrc
    (fun p hp => padded_bounds_valid big pad eps half c hpad hhalf hc arrs src hsrcm p hp) hids

end bounds

end

/-- **The upper padding is necessary**: with only the lower limit moved (`xmin -= lx*0.01`, no
`xmax += lx*0.01`) a lattice whose padded extent is a whole number of cells — two particles 100
cells apart, `(100 + 1)/1 = 101` — bins its last particle in cell 101 of 101: outside the box, never
visited by a query.  With the code's bounds the same particle is in cell 101 of 102. -/
theorem upper_pad_necessary :
    let arrs : List (List (Pt Rat)) := [[⟨0, 0, 0, 1/2⟩, ⟨100, 0, 0, 1/2⟩]]
    let big : Rat := 10 ^ 100
    let Bl := boundsOfLowerOnly big (1/100) (1/1000000000000) (1/2) 1 arrs
    let B := boundsOf big (1/100) (1/1000000000000) (1/2) 1 arrs
    Bl.x = (-1, 100) ∧ ncells Rat.ceil 1 Bl = (101, 1, 1) ∧
    cell3 Rat.floor 1 Bl.origin ⟨100, 0, 0, 1/2⟩ = (101, 0, 0) ∧
    allValid Rat.floor Rat.ceil 1 Bl arrs = false ∧
    B.x = (-1, 101) ∧ ncells Rat.ceil 1 B = (102, 1, 1) ∧
    allValid Rat.floor Rat.ceil 1 B arrs = true := by
  decide +kernel

/-- non-vacuity of `padded_bounds_valid` and the degenerate branches: two arrays and an empty one
in the plane `z = 0` (an axis without extent gets one cell); a single point (every extent below
`eps`: half a cell on every side); no particle at all -/
example :
    let big : Rat := 10 ^ 100
    let arrs : List (List (Pt Rat)) :=
      [[⟨0, 0, 0, 1/4⟩, ⟨1, 1/2, 0, 1/4⟩], [], [⟨5/2, -1/4, 0, 1/8⟩]]
    let B := boundsOf big (1/100) (1/1000000000000) (1/2) (1/2) arrs
    B.x = (-1/40, 101/40) ∧ B.z = (0, 0) ∧ ncells Rat.ceil (1/2) B = (6, 2, 1) ∧
    allValid Rat.floor Rat.ceil (1/2) B arrs = true ∧
    (boundsOf big (1/100) (1/1000000000000) (1/2) (1/2) [[⟨3, 4, 5, 1/4⟩]]).x = (11/4, 13/4) ∧
    (boundsOf big (1/100) (1/1000000000000) (1/2) (1/2) ([[], []] : List (List (Pt Rat)))).y =
      (-1/4, 1/4) := by
  decide +kernel

section
open scoped PysphVerif.OrderChain

/-! ## Tree family (Octree, CompressedOctree) -/
section tree
variable {α : Type} [Field α] [LinearOrder α] [IsStrictOrderedRing α]

/-- The tree query returns exactly the brute-force set for every tree that
satisfies `TreeInv` (every stored particle lies in the closed cube of each of
its ancestors and has `h ≤ hmax` there), stores every source index exactly
once; the pruning test `|centre − q| ≥ len/2 + rs·max(h_q, hmax)` never cuts a
subtree that holds an accepted particle. -/
theorem tree_query_exact (rs : α) (src : List (Pt α)) (q : Pt α) (t : Nnps.Tree α)
    (hrs : 0 ≤ rs) (hq : 0 ≤ q.h) (hpos : ∀ p ∈ src, 0 ≤ p.h)
    (hinv : TreeInv src t) (hnd : (Nnps.Tree.pids t).Nodup)
    (hall : ∀ j, j < src.length → j ∈ Nnps.Tree.pids t) :
    (treeNbrs rs src q t).Perm (bruteForce rs src q) ∧ (treeNbrs rs src q t).Nodup ∧
      ∀ j ∈ treeNbrs rs src q t, j < src.length :=
  exact_of_cover_nodup rs src q (Nnps.Tree.cands rs q t)
    (fun j hj ha => cands_cover rs src q hrs hq hpos t hinv j (hall j hj) ha)
    (hnd.sublist (cands_sublist rs q t))

/-- The form the check uses on every run: the driver evaluates `Tree.invB` (exact rational
arithmetic on the doubles of the REAL tree dumped from `pysph.base.octree`), `Nodup` and
coverage of the leaf index lists; when they hold the query on that very tree is exact. -/
theorem tree_query_exact_checked (rs : α) (src : List (Pt α)) (q : Pt α) (t : Nnps.Tree α)
    (hrs : 0 ≤ rs) (hq : 0 ≤ q.h) (hpos : ∀ p ∈ src, 0 ≤ p.h)
    (hinv : Nnps.Tree.invB src t = true) (hnd : (Nnps.Tree.pids t).Nodup)
    (hall : ∀ j, j < src.length → j ∈ Nnps.Tree.pids t) :
    (treeNbrs rs src q t).Perm (bruteForce rs src q) ∧ (treeNbrs rs src q t).Nodup ∧
      ∀ j ∈ treeNbrs rs src q t, j < src.length :=
  tree_query_exact rs src q t hrs hq hpos (invB_sound src t hinv) hnd hall

end tree

/-- Bit `3b + r` of `get_key(i, j, k)` is bit `b` of coordinate `r` (`r = 0, 1, 2` for
`i, j, k`), for coordinates below 2^21. -/
theorem morton_key_bits (i j k : Nat) (hi : i < 2 ^ 21) (hj : j < 2 ^ 21) (hk : k < 2 ^ 21)
    (b : Nat) (hb : b < 21) :
    (mortonKey i j k).testBit (3 * b) = i.testBit b ∧
    (mortonKey i j k).testBit (3 * b + 1) = j.testBit b ∧
    (mortonKey i j k).testBit (3 * b + 2) = k.testBit b :=
  key_bits i j k hi hj hk b hb

/-- `get_key` is injective on cell coordinates below 2^21: two cells share a
Morton key only if they are the same cell. -/
theorem key_inj (i j k i' j' k' : Nat) (hi : i < 2 ^ 21) (hj : j < 2 ^ 21) (hk : k < 2 ^ 21)
    (hi' : i' < 2 ^ 21) (hj' : j' < 2 ^ 21) (hk' : k' < 2 ^ 21)
    (h : mortonKey i j k = mortonKey i' j' k') : i = i' ∧ j = j' ∧ k = k' :=
  mortonKey_inj i j k i' j' k' hi hj hk hi' hj' hk' h

/-- non-vacuity: the largest coordinate fills exactly the bits `0, 3, …, 60`; three of them fill
63 bits; a small key -/
example : mortonSpread (2 ^ 21 - 1) = 0x1249249249249249 ∧
    mortonKey (2 ^ 21 - 1) (2 ^ 21 - 1) (2 ^ 21 - 1) = 2 ^ 63 - 1 ∧
    mortonKey 3 1 2 = 43 := by decide +kernel

/-- the theorems below hold for every sorting function with `SortSpec`; the insertion sort the
executable model uses is one -/
theorem sortPids_sortSpec : SortSpec sortPids := fun key n =>
  ⟨OrderedInsert.foldr_perm (ins := insertPid key) (p := fun p a => key p ≤ key a)
      (fun _ _ _ => rfl) (fun _ => rfl) (List.range n),
    OrderedInsert.foldr_pairwise (ins := insertPid key) (p := fun p a => key p ≤ key a)
      (R := fun p q => key p ≤ key q) (fun _ _ _ => rfl) (fun _ => rfl) Nat.le_trans id
      Nat.le_of_not_le (List.range n)⟩

section zorder
variable {α : Type} [Field α] [LinearOrder α] [IsStrictOrderedRing α] [FloorRing α]

/-- **ZOrderNNPS**.  For every list of particle arrays (empty ones
included), every sorting function, every (source, destination) pair and every destination
particle `i`: the per-array sorted `(key, pid)` lists and `key_to_idx`, the cell-id numbering
shared by all arrays, `_fill_nbr_boxes` with its second pass over the cells the source array does
not occupy, and the walk of `find_nearest_neighbors` over the row of `i`'s cell id return exactly
the brute-force set, without duplicates, with valid indices.

The guards: every particle's cell has non-negative coordinates with one to spare below 2^21
(`cellGuard 1`, the range in which `get_key` is injective); every particle's key is below `max_key`
(the size of `key_to_idx`). -/
theorem nbrs_exact_ZOrderNNPS (rs c : α) (o : Pt α) (maxKey : Nat)
    (srt : (Nat → Nat) → Nat → List Nat) (hsrt : SortSpec srt) (arrs : List (List (Pt α)))
    (s d i : Nat) (src dst : List (Pt α)) (q : Pt α)
    (hs : arrs[s]? = some src) (hd : arrs[d]? = some dst) (hq : dst[i]? = some q)
    (hc : 0 < c) (hrs : 0 ≤ rs)
    (hh : ∀ a ∈ arrs, ∀ p ∈ a, 0 ≤ p.h ∧ rs * p.h ≤ c)
    (hfit : ∀ a ∈ arrs, ∀ p ∈ a, cellGuard 1 (cell3 Int.floor c o p) = true)
    (hkey : ∀ a ∈ arrs, ∀ p ∈ a, zKey (cell3 Int.floor c o p) < maxKey) :
    let cands := zOrderCands maxKey (arrs.map (zInOfPts Int.floor c o srt)) s d i
    (nbrsOf rs src q cands).Perm (bruteForce rs src q) ∧ (nbrsOf rs src q cands).Nodup ∧
      ∀ j ∈ nbrsOf rs src q cands, j < src.length := by
  have hhq := hh dst (List.mem_of_getElem? hd) q (List.mem_of_getElem? hq)
  refine zOrder_exact rs 27 ⟨hsrt, hs, hd, hq, hfit, hkey⟩ fun p hp hn => ?_
  have hhp := hh src (List.mem_of_getElem? hs) p hp
  -- `grid_cover` with the two particles exchanged (the test is symmetric): `q`'s cell in `p`'s stencil
  exact (inStencil_iff _ _).mp
    (grid_cover rs c o p q hc hrs hhp.1 hhq.1 hhp.2 hhq.2 (isNbr_symm rs p q ▸ hn))

/-- **ExtendedZOrderNNPS, `asymmetric=True`**: sub-cells of size `c/H` (`H ≥ 1`), the full `±H`
mask, otherwise the bookkeeping of ZOrderNNPS; exact under the same hypotheses with the guard
taken on the sub-cells (`H` to spare below 2^21). -/
theorem nbrs_exact_ExtendedZOrderNNPS_asym (rs c : α) (H : Nat) (o : Pt α) (maxKey : Nat)
    (srt : (Nat → Nat) → Nat → List Nat) (hsrt : SortSpec srt) (arrs : List (List (Pt α)))
    (s d i : Nat) (src dst : List (Pt α)) (q : Pt α)
    (hs : arrs[s]? = some src) (hd : arrs[d]? = some dst) (hq : dst[i]? = some q)
    (hc : 0 < c) (hH : 1 ≤ H) (hrs : 0 ≤ rs)
    (hh : ∀ a ∈ arrs, ∀ p ∈ a, 0 ≤ p.h ∧ rs * p.h ≤ c)
    (hfit : ∀ a ∈ arrs, ∀ p ∈ a, cellGuard H (cell3 Int.floor (c / (H : α)) o p) = true)
    (hkey : ∀ a ∈ arrs, ∀ p ∈ a, zKey (cell3 Int.floor (c / (H : α)) o p) < maxKey) :
    let cands := extZOrderAsymCands maxKey H (arrs.map (zInOfPts Int.floor (c / (H : α)) o srt)) s d i
    (nbrsOf rs src q cands).Perm (bruteForce rs src q) ∧ (nbrsOf rs src q cands).Nodup ∧
      ∀ j ∈ nbrsOf rs src q cands, j < src.length := by
  have hhq := hh dst (List.mem_of_getElem? hd) q (List.mem_of_getElem? hq)
  refine zOrder_exact rs ((2 * H + 1) ^ 3) ⟨hsrt, hs, hd, hq, hfit, hkey⟩ fun p hp hn => ?_
  have hhp := hh src (List.mem_of_getElem? hs) p hp
  exact (subgrid_cover rs c H o q p p.h hc hH hrs hhq.1 hhp.1 hhq.2 hhp.2 (le_refl _) hn).1

/-- **ExtendedZOrderNNPS, `asymmetric=False`**: sub-cells `c/H`, and a
box at offset `m` from the destination particle's sub-cell is kept only if
`|m| ≤ ⌈rs·max(hmax_src[cid of the box], h_cell)/(c/H)⌉` on every axis, where `h_cell` is the
largest `h` over ALL arrays in the destination particle's sub-cell (`_cell_hmax`) joined with the
source array's own `hmax` entry of that cell id.  The pruning never drops a box that holds a true
neighbour: `hmax_src[cid]` bounds the `h` of the box's source particles, `h_cell` bounds the `h` of
the destination particle, whichever array it belongs to. -/
theorem nbrs_exact_ExtendedZOrderNNPS_sym (rs c : α) (H : Nat) (o : Pt α) (maxKey : Nat)
    (srt : (Nat → Nat) → Nat → List Nat) (hsrt : SortSpec srt) (arrs : List (List (Pt α)))
    (s d i : Nat) (src dst : List (Pt α)) (q : Pt α)
    (hs : arrs[s]? = some src) (hd : arrs[d]? = some dst) (hq : dst[i]? = some q)
    (hc : 0 < c) (hH : 1 ≤ H) (hrs : 0 ≤ rs)
    (hh : ∀ a ∈ arrs, ∀ p ∈ a, 0 ≤ p.h ∧ rs * p.h ≤ c)
    (hfit : ∀ a ∈ arrs, ∀ p ∈ a, cellGuard H (cell3 Int.floor (c / (H : α)) o p) = true)
    (hkey : ∀ a ∈ arrs, ∀ p ∈ a, zKey (cell3 Int.floor (c / (H : α)) o p) < maxKey) :
    let cands := extZOrderSymCands Int.ceil maxKey H rs (c / (H : α))
      (arrs.map (zInOfPts Int.floor (c / (H : α)) o srt)) (arrs.map (fun a => hAtOf a)) s d i
    (nbrsOf rs src q cands).Perm (bruteForce rs src q) ∧ (nbrsOf rs src q cands).Nodup ∧
      ∀ j ∈ nbrsOf rs src q cands, j < src.length := by
  have hhq := hh dst (List.mem_of_getElem? hd) q (List.mem_of_getElem? hq)
  refine zOrderSym_exact rs ⟨hsrt, hs, hd, hq, hfit, hkey⟩ (div_pos hc (by exact_mod_cast hH)) hrs
    (fun a ha p hp => (hh a ha p hp).1) fun p hp hn => ?_
  have hhp := hh src (List.mem_of_getElem? hs) p hp
  exact (subgrid_cover rs c H o q p p.h hc hH hrs hhq.1 hhp.1 hhq.2 hhp.2 (le_refl _) hn).1

end zorder

section strat
variable {α : Type} [Field α] [LinearOrder α] [IsStrictOrderedRing α] [FloorRing α]

/-- Let the source particle `p` be stored at a level whose cell size is `U/H`
with `rs·h_p ≤ U` (`U` = the upper end of the level's interval of cut-offs).  Then for EVERY
destination particle `q` (whatever its `h`) of which `p` is a neighbour, `p`'s cell at that level
lies within the mask half-width `⌈max(rs·h_q, U)·H/U⌉` the query uses for that level, on every
axis. -/
theorem strat_cover (rs U : α) (H : Nat) (o q p : Pt α) (hU : 0 < U) (hH : 1 ≤ H) (hrs : 0 ≤ rs)
    (hq : 0 ≤ q.h) (hp : 0 ≤ p.h) (hpU : rs * p.h ≤ U) (h : isNbr rs q p = true) :
    let a := cell3 Int.floor (U / (H : α)) o p
    let b := cell3 Int.floor (U / (H : α)) o q
    let K := ⌈fmaxA (rs * q.h) U * (H : α) / U⌉.toNat
    (a.1 - b.1).natAbs ≤ K ∧ (a.2.1 - b.2.1).natAbs ≤ K ∧ (a.2.2 - b.2.2).natAbs ≤ K := by
  intro a b K
  have hs : 0 < U / (H : α) := div_pos hU (by exact_mod_cast hH)
  exact (div_div_eq_mul_div (fmaxA (rs * q.h) U) U (H : α) ▸
    nbr_cells_within_ceil rs _ _ o q p hs hrs hq hp (fmaxA_ge_left _ _)
      (le_trans hpU (fmaxA_ge_right _ _)) h).natAbs_le

/-- **StratifiedHashNNPS**: `num_levels = L` hash tables per array,
a particle stored at level `floor((rs·h − hmin)/interval)` by its cell of size
`(hmin + (level+1)·interval)/H`, the query visiting, for every non-empty level, the mask of
half-width `⌈max(rs·h_q, U_level)·H/U_level⌉`.  Exact for every radius scale `rs > 0` (the level's
cell size is stored divided by it), every hash function / table size, every destination particle
(`h ≥ 0`, no upper bound), every source array with cut-offs at most the cell size `cs` and no
particle below the grid origin `o` (`hlo`). -/
theorem nbrs_exact_StratifiedHashNNPS (rs cs hmin eps : α) (L H : Nat) (o : Pt α)
    (hash : Cell → Nat) (src : List (Pt α)) (q : Pt α)
    (hrs : 0 < rs) (hL : 1 ≤ L) (hH : 1 ≤ H) (heps : 0 < eps) (hmin0 : 0 ≤ hmin) (hcs : hmin ≤ cs)
    (hq : 0 ≤ q.h) (hsrc : ∀ p ∈ src, 0 ≤ p.h ∧ rs * p.h ≤ cs)
    (hlo : ∀ p ∈ src, o.x ≤ p.x ∧ o.y ≤ p.y ∧ o.z ≤ p.z) :
    let cands := stratHashCands Int.floor Int.ceil hash rs cs hmin eps L H o src q
    (nbrsOf rs src q cands).Perm (bruteForce rs src q) ∧ (nbrsOf rs src q cands).Nodup ∧
      ∀ j ∈ nbrsOf rs src q cands, j < src.length := by
  intro cands
  have hivl := stratInterval_pos cs hmin eps L heps hcs
  have hHpos : (0 : α) < (H : α) := by exact_mod_cast hH
  refine stratGen_exact rs src q _ _ _ _ _ _ _ fun j hj hn => ?_
  have hmem : src[j] ∈ src := List.getElem_mem hj
  simp only [hAtOf_of_lt src hj, cellAtOf_of_lt _ _ _ _ hj]
  -- the neighbour's level `l` exists, and its cell size `U/H` has `U` above the neighbour's cut-off
  generalize hl : stratLevel Int.floor rs hmin (stratInterval cs hmin eps L) src[j].h = l
  have hlL : l < L := hl ▸ strat_level_lt rs cs hmin eps _ L hL heps hcs (hsrc _ hmem).2
  have hU := stratHmaxLevel_pos rs hmin (stratInterval cs hmin eps L) l hrs hmin0 hivl
  have hpU : rs * src[j].h ≤ stratHmaxLevel rs hmin (stratInterval cs hmin eps L) l :=
    hl ▸ (strat_level_bound rs hmin _ _ hrs hivl).le
  exact ⟨hlL, (mem_stratBoxes _ _ _).mpr ⟨cell_nonneg _ o _ (div_pos hU hHpos) (hlo _ hmem),
    strat_cover rs _ H o q src[j] hU hH hrs.le hq (hsrc _ hmem).1 hpU hn⟩⟩

/-- Source particle `p` stored at a level with cell size `rs·ck`, `h_p ≤ ck`;
destination particle `q` with `0 < h_q ≤ hm` (`hm` = the largest `h` in `q`'s cell, `_cell_hmax`).
If `p` is a neighbour of `q`, `p`'s cell at that level lies within `⌈hm/ck⌉` (= `_get_H(hm, ck)`)
of `q`'s cell at that level on every axis. -/
theorem sfc_cover (rs ck hm : α) (o q p : Pt α) (hck : 0 < ck) (hrs : 0 < rs) (hq : 0 < q.h)
    (hp : 0 ≤ p.h) (hpk : p.h ≤ ck) (hqm : q.h ≤ hm) (h : isNbr rs q p = true) :
    let a := cell3 Int.floor (rs * ck) o p
    let b := cell3 Int.floor (rs * ck) o q
    let K := ⌈hm / ck⌉.toNat
    (a.1 - b.1).natAbs ≤ K ∧ (a.2.1 - b.2.1).natAbs ≤ K ∧ (a.2.2 - b.2.2).natAbs ≤ K := by
  intro a b K
  have hs : 0 < rs * ck := mul_pos hrs hck
  have hm0 : 0 < hm := lt_of_lt_of_le hq hqm
  have hone : (1 : Int) ≤ ⌈hm / ck⌉ := Int.one_le_ceil_iff.mpr (div_pos hm0 hck)
  have hKq : rs * q.h / (rs * ck) ≤ ((⌈hm / ck⌉ : ℤ) : α) := by
    rw [mul_div_mul_left _ _ hrs.ne']
    exact le_trans (div_le_div_of_nonneg_right hqm hck.le) (Int.le_ceil _)
  have hKp : rs * p.h / (rs * ck) ≤ ((⌈hm / ck⌉ : ℤ) : α) := by
    rw [mul_div_mul_left _ _ hrs.ne']
    exact le_trans ((div_le_one hck).mpr hpk) (by exact_mod_cast hone)
  exact (nbr_cells_within rs _ _ o q p hs hrs.le hq.le hp hKq hKp h).natAbs_le

/-- the cells of the coarser levels are the finest-level cell divided by `2^k` (the levels' grids
are nested) -/
theorem sfc_cell_nested (s0 : α) (o p : Pt α) (k : Nat) :
    cell3 Int.floor (s0 * 2 ^ k) o p =
      ((cell3 Int.floor s0 o p).1 / 2 ^ k, (cell3 Int.floor s0 o p).2.1 / 2 ^ k,
        (cell3 Int.floor s0 o p).2.2 / 2 ^ k) := by
  have ax : ∀ u : α, ⌊u / (s0 * 2 ^ k)⌋ = ⌊u / s0⌋ / 2 ^ k := by
    intro u
    have e : u / (s0 * 2 ^ k) = (u / s0) / ((2 ^ k : ℕ) : α) := by
      push_cast; rw [div_div]
    rw [e, Int.floor_div_natCast]
    push_cast; rfl
  simp only [cell3, cellOf, ax]

private def divk (k : Nat) (c : Cell) : Cell := (c.1 / 2 ^ k, c.2.1 / 2 ^ k, c.2.2 / 2 ^ k)

private theorem divk_guard (G k : Nat) (c : Cell) (h : cellGuard G c = true) :
    cellGuard G (divk k c) = true := by
  rw [cellGuard_iff] at h ⊢
  have ax : ∀ x : Int, 0 ≤ x ∧ x + (G : Int) < 2 ^ 21 →
      0 ≤ x / 2 ^ k ∧ x / 2 ^ k + (G : Int) < 2 ^ 21 := fun x ⟨h0, h1⟩ =>
    ⟨Int.ediv_nonneg h0 (by positivity), lt_of_le_of_lt
      (Int.add_le_add_right (Int.ediv_le_self (2 ^ k) h0) G) h1⟩
  exact ⟨ax _ h.1, ax _ h.2.1, ax _ h.2.2⟩

/-- **StratifiedSFCNNPS** (asymmetric mode, the only one the constructor can select).  `L` levels
with cell sizes `rs·c0·2^k`; a particle of level `lev h` is keyed by
`(level << B) + get_key(cell at its level)`; the keys are sorted per array; for every (level,
finest-level key) met — the source array's own particles first, then the particles of the other
arrays — one segment of `nbr_boxes` lists, for every level `k`, the boxes `±⌈hmax_cell/(c0·2^k)⌉`
around the representative's cell at level `k` that the source array occupies (`hmax_cell` =
`_cell_hmax`: the largest `h` over ALL arrays in the representative's cell at its level); the query
walks the runs of the segment of (level of `q`, finest-level key of `q`).  The result is exactly
the brute-force set, without duplicates, with valid indices, for every list of arrays (empty ones
included), every sorting function, every (source, destination) pair.

Hypotheses: `h > 0`; the level function `lev` (any function of `h`) maps every particle to an
existing level whose cell size is at least the particle's cut-off (`h ≤ c0·2^(lev h)`) — the
repaired `_get_level` guarantees this (`sfcLevelFixed_ok`), the one with the absolute `EPS` only
up to that `EPS` (see `sfc_level_eps_sliver`); the
decidable guards: finest-level cells non-negative with `G` to spare below 2^21 where
`h ≤ G·c0` for all particles (so every mask cell is in the range where `get_key` is injective),
keys without level bits below `2^B`. -/
theorem nbrs_exact_StratifiedSFCNNPS (rs c0 : α) (L B G : Nat) (o : Pt α) (lev : α → Nat)
    (size cells : Nat → α) (hsize : ∀ k, k < L → size k = rs * c0 * 2 ^ k)
    (hcells : ∀ k, k < L → cells k = c0 * 2 ^ k)
    (srt : (Nat → Nat) → Nat → List Nat) (hsrt : SortSpec srt) (arrs : List (List (Pt α)))
    (s d i : Nat) (src dst : List (Pt α)) (q : Pt α)
    (hs : arrs[s]? = some src) (hd : arrs[d]? = some dst) (hq : dst[i]? = some q)
    (hrs : 0 < rs) (hc0 : 0 < c0)
    (hpart : ∀ a ∈ arrs, ∀ p ∈ a, 0 < p.h ∧ lev p.h < L ∧ p.h ≤ c0 * 2 ^ (lev p.h) ∧
      p.h ≤ (G : α) * c0)
    (hfit : ∀ a ∈ arrs, ∀ p ∈ a, cellGuard G (cell3 Int.floor (rs * c0) o p) = true)
    (hkey : ∀ a ∈ arrs, ∀ p ∈ a, zKey (cell3 Int.floor (rs * c0 * 2 ^ (lev p.h)) o p) < 2 ^ B) :
    let cands := sfcCands Int.ceil B L cells
      (arrs.map (sInOfPtsGen Int.floor size lev o srt B))
      (arrs.map (fun a => hAtOf a)) s d i
    (nbrsOf rs src q cands).Perm (bruteForce rs src q) ∧ (nbrsOf rs src q cands).Nodup ∧
      ∀ j ∈ nbrsOf rs src q cands, j < src.length := by
  have hq0 := (hpart dst (List.mem_of_getElem? hd) q (List.mem_of_getElem? hq)).1
  have hck : ∀ k : Nat, (0 : α) < c0 * 2 ^ k := fun k => mul_pos hc0 (by positivity)
  have hsz : ∀ (p : Pt α) k, k < L →
      cell3 Int.floor (size k) o p = divk k (cell3 Int.floor (rs * c0) o p) := fun p k hk => by
    rw [hsize k hk]; exact sfc_cell_nested (rs * c0) o p k
  refine sfcPts_exact rs L B G o lev size cells divk srt hsrt arrs s d i src dst q hs hd hq
    (fun p k hk => ?_) (fun k hk => by rw [hcells k hk]; exact (hck k).ne') ((G : α) * c0)
    (fun a ha p hp => ⟨(hpart a ha p hp).1.le, (hpart a ha p hp).2.1, (hpart a ha p hp).2.2.2⟩)
    (fun k hk x hx => ?_)
    (fun a ha p hp k hk => by rw [hsz p k hk]; exact divk_guard G k _ (hfit a ha p hp))
    (fun a ha p hp => by rw [hsize _ (hpart a ha p hp).2.1]; exact hkey a ha p hp)
    (fun p hp hn hm hqm => ?_)
  · rw [hsz p k hk, hsz p 0 (by omega)]
    simp only [divk, pow_zero, Int.ediv_one]
  · -- masks of half-width `⌈x/(c0·2^k)⌉ ≤ G` for every `x ≤ G·c0`
    rw [hcells k hk, Int.toNat_le, Int.ceil_le, Int.cast_natCast, div_le_iff₀ (hck k)]
    exact le_trans hx (mul_le_mul_of_nonneg_left
      (le_mul_of_one_le_right hc0.le (one_le_pow₀ one_le_two)) (Nat.cast_nonneg G))
  · obtain ⟨hp0, hpL, hpc, _⟩ := hpart src (List.mem_of_getElem? hs) p hp
    rw [hsize _ hpL, hcells _ hpL, mul_assoc]
    exact sfc_cover rs (c0 * 2 ^ (lev p.h)) hm o q p (hck _) hrs hq0 hp0.le hpc hqm hn

/-- the cell sizes of the code, `(cell_size/radius_scale)/2^(num_levels-k-1)`, are the finest one
times `2^k` -/
theorem sfcCell_eq (rs cs : α) (L k : Nat) (hk : k < L) :
    sfcCell rs cs L k = sfcCell rs cs L 0 * 2 ^ k := by
  unfold sfcCell
  rw [pow2_eq, pow2_eq]
  have e : L - 0 - 1 = (L - k - 1) + k := by omega
  rw [e, pow_add, ← div_div, div_mul_cancel₀ _ (pow_pos two_pos k).ne']

/-- **StratifiedSFCNNPS with the cell sizes of the code and the level function it had before the
`fix:` commit** (`current_cells[k] = (cell_size/radius_scale)/2^(num_levels-k-1)`, `_get_level`
with its absolute `EPS`, read in exact arithmetic): exact, under the guards of the general theorem,
whenever that `_get_level` puts every particle at a level whose cell size is at least its cut-off —
which it did except in the `EPS` sliver of `sfc_level_eps_sliver`.  The repaired code needs no such
hypothesis: `nbrs_exact_StratifiedSFCNNPS_code`. -/
theorem nbrs_exact_StratifiedSFCNNPS_prefix_code (rs cs eps : α) (L B G : Nat) (o : Pt α)
    (srt : (Nat → Nat) → Nat → List Nat) (hsrt : SortSpec srt) (arrs : List (List (Pt α)))
    (s d i : Nat) (src dst : List (Pt α)) (q : Pt α)
    (hs : arrs[s]? = some src) (hd : arrs[d]? = some dst) (hq : dst[i]? = some q)
    (hrs : 0 < rs) (hcs : 0 < cs)
    (hpart : ∀ a ∈ arrs, ∀ p ∈ a, 0 < p.h ∧ sfcLevelOf rs cs eps L p.h < L ∧
      p.h ≤ sfcCell rs cs L 0 * 2 ^ (sfcLevelOf rs cs eps L p.h) ∧ p.h ≤ (G : α) * sfcCell rs cs L 0)
    (hfit : ∀ a ∈ arrs, ∀ p ∈ a, cellGuard G (cell3 Int.floor (rs * sfcCell rs cs L 0) o p) = true)
    (hkey : ∀ a ∈ arrs, ∀ p ∈ a, zKey (cell3 Int.floor
      (rs * sfcCell rs cs L 0 * 2 ^ (sfcLevelOf rs cs eps L p.h)) o p) < 2 ^ B) :
    let cands := sfcCands Int.ceil B L (sfcCell rs cs L)
      (arrs.map (sInOfPts Int.floor rs cs eps L o srt B)) (arrs.map (fun a => hAtOf a)) s d i
    (nbrsOf rs src q cands).Perm (bruteForce rs src q) ∧ (nbrsOf rs src q cands).Nodup ∧
      ∀ j ∈ nbrsOf rs src q cands, j < src.length :=
  nbrs_exact_StratifiedSFCNNPS rs (sfcCell rs cs L 0) L B G o (sfcLevelOf rs cs eps L)
    (fun k => rs * sfcCell rs cs L k) (sfcCell rs cs L)
    (fun k hk => by rw [sfcCell_eq rs cs L k hk, mul_assoc]) (fun k hk => sfcCell_eq rs cs L k hk)
    srt hsrt arrs s d i src dst q hs hd hq hrs (sfcCell_pos rs cs L 0 hrs hcs) hpart hfit hkey

/-- **The repaired `_get_level` satisfies the level hypothesis** of
`nbrs_exact_StratifiedSFCNNPS`: with `m = max(1, ⌈log2(cs/(rs·h))⌉)` every particle with
`0 < h`, `rs·h ≤ cs` gets an existing level whose cell size `rs·c0·2^level` is at least its
cut-off (`c0 = (cs/rs)/2^(L-1)`, `L ≥ 1`). -/
theorem sfcLevelFixed_ok (rs cs h : α) (L : Nat) (hL : 1 ≤ L) (hrs : 0 < rs) (hh : 0 < h)
    (hcs : rs * h ≤ cs) :
    sfcLevelOfFixed rs cs L h < L ∧
      h ≤ sfcCell rs cs L 0 * 2 ^ (sfcLevelOfFixed rs cs L h) := by
  have hr1 : (1 : α) ≤ cs / rs / h := by
    rw [div_div, one_le_div₀ (mul_pos hrs hh)]; exact hcs
  -- `2^(m-1) ≤ r` for the `m` the repaired code uses
  have hkey : ∀ e, e + 1 ≤ max 1 (ceilLog2 (cs / rs / h)) → (2 : α) ^ e ≤ cs / rs / h := by
    intro e he
    by_cases h0 : e = 0
    · rw [h0, pow_zero]; exact hr1
    · exact (two_pow_lt_of_lt_ceilLog2 _ (by omega)).le
  unfold sfcLevelOfFixed
  generalize hm : max 1 (ceilLog2 (cs / rs / h)) = m at hkey
  have hm1 : 1 ≤ m := by rw [← hm]; exact le_max_left _ _
  have hlev : L - min L m < L := by omega
  refine ⟨hlev, ?_⟩
  -- the level is `L - 1 - e` with `e = min L m - 1`: its cell size is `(cs/rs)/2^e`, and
  -- `e + 1 ≤ m` whether or not `m ≤ L`
  rw [← sfcCell_eq rs cs L _ hlev]
  unfold sfcCell
  rw [pow2_eq, show L - (L - min L m) - 1 = min L m - 1 by omega]
  exact (le_div_comm₀ (pow_pos two_pos _) hh).mp (hkey _ (by omega))

/-- **StratifiedSFCNNPS with the cell sizes and the level function of the code** (as repaired):
`current_cells[k] = (cell_size/radius_scale)/2^(num_levels-k-1)` and
`_get_level(h) = L - min(L, max(1, ⌈log2(cs/rs/h)⌉))`, read in exact arithmetic.  The level
hypothesis of the general theorem is discharged by `sfcLevelFixed_ok`: in its place all that is
asked is `0 < h` and `rs·h ≤ cell_size` (the cell size is `rs·hmax`).  The guards of the general
theorem stay (`h ≤ G·c0`, `hfit`, `hkey`). -/
theorem nbrs_exact_StratifiedSFCNNPS_code (rs cs : α) (L B G : Nat) (o : Pt α)
    (srt : (Nat → Nat) → Nat → List Nat) (hsrt : SortSpec srt) (arrs : List (List (Pt α)))
    (s d i : Nat) (src dst : List (Pt α)) (q : Pt α)
    (hs : arrs[s]? = some src) (hd : arrs[d]? = some dst) (hq : dst[i]? = some q)
    (hL : 1 ≤ L) (hrs : 0 < rs) (hcs : 0 < cs)
    (hpart : ∀ a ∈ arrs, ∀ p ∈ a, 0 < p.h ∧ rs * p.h ≤ cs ∧ p.h ≤ (G : α) * sfcCell rs cs L 0)
    (hfit : ∀ a ∈ arrs, ∀ p ∈ a, cellGuard G (cell3 Int.floor (rs * sfcCell rs cs L 0) o p) = true)
    (hkey : ∀ a ∈ arrs, ∀ p ∈ a, zKey (cell3 Int.floor
      (rs * sfcCell rs cs L 0 * 2 ^ (sfcLevelOfFixed rs cs L p.h)) o p) < 2 ^ B) :
    let cands := sfcCands Int.ceil B L (sfcCell rs cs L)
      (arrs.map (sInOfPtsFixed Int.floor rs cs L o srt B)) (arrs.map (fun a => hAtOf a)) s d i
    (nbrsOf rs src q cands).Perm (bruteForce rs src q) ∧ (nbrsOf rs src q cands).Nodup ∧
      ∀ j ∈ nbrsOf rs src q cands, j < src.length :=
  nbrs_exact_StratifiedSFCNNPS rs (sfcCell rs cs L 0) L B G o (sfcLevelOfFixed rs cs L)
    (fun k => rs * sfcCell rs cs L k) (sfcCell rs cs L)
    (fun k hk => by rw [sfcCell_eq rs cs L k hk, mul_assoc]) (fun k hk => sfcCell_eq rs cs L k hk)
    srt hsrt arrs s d i src dst q hs hd hq hrs (sfcCell_pos rs cs L 0 hrs hcs)
    (fun a ha p hp =>
      have ⟨h0, h1, h2⟩ := hpart a ha p hp
      have ⟨l1, l2⟩ := sfcLevelFixed_ok rs cs p.h L hL hrs h0 h1
      ⟨h0, l1, l2, h2⟩)
    hfit hkey

end strat

end

/-! ## non-vacuity / executable examples (over ℚ, core `Rat.floor`) -/

/-- three sources, exact tie excluded: `(3,4,0)` is at distance 5 = `rs·h` -/
example :
    let src : List (Pt Rat) := [⟨0, 0, 0, 5/2⟩, ⟨3, 4, 0, 5/2⟩, ⟨3, 399/100, 0, 5/2⟩]
    bruteForce (2 : Rat) src ⟨0, 0, 0, 5/2⟩ = [0, 2] ∧
    gridNbrs Rat.floor (2 : Rat) 5 ⟨-1/3, -1/3, 0, 0⟩ src ⟨0, 0, 0, 5/2⟩ = [0, 2] := by
  decide +kernel

/-- a two-leaf tree: the far leaf is pruned, the result is still exact -/
example :
    let src : List (Pt Rat) := [⟨0, 0, 0, 1/4⟩, ⟨1/4, 0, 0, 1/4⟩, ⟨4, 4, 4, 1/4⟩]
    let t : Nnps.Tree Rat := Nnps.Tree.node ⟨0, 0, 0, 1/4⟩ 4
      [Nnps.Tree.leaf ⟨0, 0, 0, 1/4⟩ (1/4) [0, 1], Nnps.Tree.leaf ⟨4, 4, 4, 1/4⟩ 0 [2]]
    treeNbrs (2 : Rat) src ⟨0, 0, 0, 1/4⟩ t = [0, 1] ∧
      bruteForce (2 : Rat) src ⟨0, 0, 0, 1/4⟩ = [0, 1] ∧
      pruned (2 : Rat) ⟨0, 0, 0, 1/4⟩ ⟨4, 4, 4, 1/4⟩ 0 = true := by
  decide +kernel

example : cellSize (2 : Rat) (1/1000000) [[1/4, 1/2], [], [1/8]] = 1 ∧
    hminScaled (2 : Rat) [[1/4, 1/2], [], [1/8]] = some 0 := by decide +kernel

example : (LL.build [(0, 3), (1, 5), (2, 3), (3, 3)]).traverse 4 3 = [3, 2, 0] := by
  decide +kernel

example :
    (Cache.get (fun d => [d, d + 1]) (Cache.run (fun d => [d, d + 1]) Cache.reset
      [(1, 2), (0, 0), (1, 1)]) 1).2 = [1, 2] := by decide +kernel

/-- the per-class storage models on one cloud (five sources, the fourth far away, the third in
an adjacent cell but beyond the cut-off): hypotheses of the `nbrs_exact_<Class>` theorems hold,
every class visits the same four candidates and returns the brute-force set -/
example :
    let src : List (Pt Rat) :=
      [⟨0, 0, 0, 1/4⟩, ⟨1/4, 0, 0, 1/4⟩, ⟨3/4, 1/2, 0, 1/4⟩, ⟨2, 2, 0, 1/4⟩, ⟨1/4, 1/4, 0, 1/8⟩]
    let o : Pt Rat := ⟨-1/100, -1/100, 0, 0⟩
    let q : Pt Rat := ⟨1/4, 0, 0, 1/4⟩
    let cellAt := cellAtOf Rat.floor (1/2 : Rat) o src
    let cq := cell3 Rat.floor (1/2 : Rat) o q
    let nc : Nat × Nat × Nat := (5, 5, 1)
    bruteForce (2 : Rat) src q = [0, 1, 4] ∧
    (List.range 5).all (fun j => isValidCell nc (cellAt j)) = true ∧
    llCands nc 25 5 cellAt cq = [4, 1, 0, 2] ∧
    boxCands nc (occupied ((List.range 5).map (fun j => flattenCell nc (cellAt j)))) 5 cellAt cq =
      [4, 1, 0, 2] ∧
    shCands (spatialHash 1) 5 cellAt (hAtOf src) cq = [0, 1, 4, 2] ∧
    shCands (spatialHash 7) 5 cellAt (hAtOf src) cq = [0, 1, 4, 2] ∧
    dictCands (dictBuild (dictItems 0 2 (fun _ => (7, 7, 7)) ++ dictItems 1 5 cellAt)) 1 cq =
      [0, 1, 4, 2] ∧
    (List.range 5).all (fun j => ciFits 3 3 3 j (cellAt j).toNat3) = true ∧
    (neighborBoxesZ cq).all (fun b => ciFits 3 3 3 0 b.toNat3) = true ∧
    ciCands 3 3 3 5 cellAt cq = [0, 1, 4, 2] ∧
    nbrsOf (2 : Rat) src q (ciCands 3 3 3 5 cellAt cq) = [0, 1, 4] := by
  decide +kernel

/-- the sub-grid model (H = 2, sub-cell 1/4, table size 7) on the same cloud: four boxes pass the
per-box cut, the result is the brute-force set -/
example :
    let src : List (Pt Rat) :=
      [⟨0, 0, 0, 1/4⟩, ⟨1/4, 0, 0, 1/4⟩, ⟨3/4, 1/2, 0, 1/4⟩, ⟨2, 2, 0, 1/4⟩, ⟨1/4, 1/4, 0, 1/8⟩]
    let o : Pt Rat := ⟨-1/100, -1/100, 0, 0⟩
    let q : Pt Rat := ⟨1/4, 0, 0, 1/4⟩
    let cands := eshCands Rat.ceil (spatialHash 7) 2 (2 : Rat) (1/4) 5
      (cellAtOf Rat.floor (1/4 : Rat) o src) (hAtOf src) q.h (cell3 Rat.floor (1/4 : Rat) o q)
    cands = [0, 1, 4, 2] ∧ nbrsOf (2 : Rat) src q cands = [0, 1, 4] := by
  decide +kernel

/-- packed keys: `I = 3, J = 3, K = 3`, particle 5 in cell (2, 7, 1) -/
example : ciKey 3 3 3 5 (2, 7, 1) = 5 + 8 * 2 + 64 * 7 + 512 * 1 ∧
    ciFits 3 3 3 5 (2, 7, 1) = true ∧ ciId 3 (ciKey 3 3 3 5 (2, 7, 1)) = 5 ∧
    ciCell 3 3 3 (ciKey 3 3 3 5 (2, 7, 1)) = (2, 7, 1) ∧
    ciFits 3 3 3 5 (8, 7, 1) = false := by decide +kernel

/-- the executable invariant check accepts the two-leaf tree above and rejects it when the first
leaf's cube is too short for particle 1 -/
example :
    let src : List (Pt Rat) := [⟨0, 0, 0, 1/4⟩, ⟨1/4, 0, 0, 1/4⟩, ⟨4, 4, 4, 1/4⟩]
    Nnps.Tree.invB src (Nnps.Tree.node ⟨0, 0, 0, 1/4⟩ 4
      [Nnps.Tree.leaf ⟨0, 0, 0, 1/4⟩ (1/4) [0, 1], Nnps.Tree.leaf ⟨4, 4, 4, 1/4⟩ 0 [2]]) = true ∧
    Nnps.Tree.invB src (Nnps.Tree.node ⟨0, 0, 0, 1/4⟩ 4
      [Nnps.Tree.leaf ⟨0, 0, 0, 1/4⟩ (1/8) [0, 1], Nnps.Tree.leaf ⟨4, 4, 4, 1/4⟩ 0 [2]]) = false := by
  decide +kernel

/-- **The level hypothesis of `nbrs_exact_StratifiedSFCNNPS` is not implied by the `_get_level`
that `sfcLevelOf` transcribes** (the one before its `fix:` commit).
It adds the absolute `EPS = 1e-13` to the cell size before taking `log2`: a particle
whose cut-off `rs·h` exceeds a level's cell size `s` by a relative amount below `EPS/cell_size` is
still put at that level.  With `cell_size = 1/512`, two levels: the source particle 2 has
`rs·h = (1/1024)(1 + 2e-11)`, is stored at level 0 (cell size `1/1024`), lies two cells away from
the destination particle 1 at distance `(1/1024)(1 + 1e-11) < rs·h` — a true neighbour by a
relative margin of 1e-11, far outside the rounding band 2^-40 ≈ 9e-13 — and the model of the
code does not return it.  (Reproduced on the compiled class: see the C01 report, key
`C01:StratifiedSFCNNPS:level-eps-sliver`.) -/
theorem sfc_level_eps_sliver :
    let rs : Rat := 2
    let cs : Rat := 1/512
    let eps : Rat := 1/10000000000000
    let hj : Rat := (1/2048) * (1 + 1/50000000000)
    let xq : Rat := 10/1024 - 1/1000000000000000
    let src : List (Pt Rat) :=
      [⟨0, 0, 0, 1/1024⟩, ⟨xq, 0, 0, 3/20480⟩, ⟨xq + (1/1024) * (1 + 1/100000000000), 0, 0, hj⟩]
    let o : Pt Rat := ⟨0, 0, 0, 0⟩
    let ins := [src].map (sInOfPts Rat.floor rs cs eps 2 o sortPids 64)
    -- level 0, although the cut-off exceeds the level's cell size
    sfcLevelOf rs cs eps 2 hj = 0 ∧ rs * sfcCell rs cs 2 0 < rs * hj ∧
    src.map (fun p => sfcLevelOf rs cs eps 2 p.h) = [1, 0, 0] ∧
    -- the neighbour is missed
    bruteForce rs src ⟨xq, 0, 0, 3/20480⟩ = [1, 2] ∧
    nbrsOf rs src ⟨xq, 0, 0, 3/20480⟩
      (sfcCands Rat.ceil 64 2 (sfcCell rs cs 2) ins [hAtOf src] 0 0 1) = [1] := by
  decide +kernel

/-- three arrays on the cloud of the storage examples: the second array is sparse (its particle 0
lies in a cell the first array does not occupy, its particle 1 shares a cell with particle 3 of the
first), the third is empty.  The hypotheses of `nbrs_exact_ZOrderNNPS` hold (`cellGuard 1`, keys
below `max_key`), the shared cell ids are `0,0,1,2,0 / 3,2 / -`, the row of cell id 3 (a cell only
array 1 occupies) in array 0's `nbr_boxes` is filled by the second pass with the start index 3 of
the neighbouring run, and the (src, dst) pairs give the brute-force sets. -/
example :
    let a0 : List (Pt Rat) :=
      [⟨0, 0, 0, 1/4⟩, ⟨1/4, 0, 0, 1/4⟩, ⟨3/4, 1/2, 0, 1/4⟩, ⟨2, 2, 0, 1/4⟩, ⟨1/4, 1/4, 0, 1/8⟩]
    let a1 : List (Pt Rat) := [⟨1, 3/4, 0, 1/4⟩, ⟨9/4, 2, 0, 1/8⟩]
    let arrs := [a0, a1, []]
    let o : Pt Rat := ⟨-1/100, -1/100, 0, 0⟩
    let ins := arrs.map (zInOfPts Rat.floor (1/2 : Rat) o sortPids)
    let zs := (zBuild ins).1
    let z0 : ZArr := zs.getD 0 ⟨0, fun _ => (0,0,0), [], [], []⟩
    (arrs.all (fun a => a.all (fun p => cellGuard 1 (cell3 Rat.floor (1/2) o p) &&
      decide (zKey (cell3 Rat.floor (1/2) o p) < 1000)))) = true ∧
    zs.map (fun a => (List.range a.n).map a.cids) = [[0, 0, 1, 2, 0], [3, 2], []] ∧
    (zBuild ins).2 = 4 ∧ zs.map (fun a => a.pids) = [[0, 1, 4, 2, 3], [0, 1], []] ∧
    ((zRows 27 zs 0 z0 (fun c _ => zNbrIdx 1000 (maskZ 1) z0 c) 3).take 3 = [3, -1, -1]) ∧
    ((zRows 27 zs 0 z0 (fun c _ => zNbrIdx 1000 (maskZ 1) z0 c) 0).take 3 = [0, 3, -1]) ∧
    zOrderCands 1000 ins 0 1 0 = [2] ∧
    nbrsOf (2 : Rat) a0 ⟨1, 3/4, 0, 1/4⟩ (zOrderCands 1000 ins 0 1 0) = [2] ∧
    bruteForce (2 : Rat) a0 ⟨1, 3/4, 0, 1/4⟩ = [2] ∧
    nbrsOf (2 : Rat) a1 ⟨2, 2, 0, 1/4⟩ (zOrderCands 1000 ins 1 0 3) = [1] ∧
    bruteForce (2 : Rat) a1 ⟨2, 2, 0, 1/4⟩ = [1] ∧
    zOrderCands 1000 ins 2 0 3 = [] := by
  decide +kernel

/-- ExtendedZOrderNNPS on the same arrays, `H = 2` (sub-cells 1/4), asymmetric and symmetric
mode: guard and key range hold, exact results for a destination of the same and of another array -/
example :
    let a0 : List (Pt Rat) :=
      [⟨0, 0, 0, 1/4⟩, ⟨1/4, 0, 0, 1/4⟩, ⟨3/4, 1/2, 0, 1/4⟩, ⟨2, 2, 0, 1/4⟩, ⟨1/4, 1/4, 0, 1/8⟩]
    let a1 : List (Pt Rat) := [⟨1, 3/4, 0, 1/4⟩, ⟨9/4, 2, 0, 1/8⟩]
    let arrs := [a0, a1, []]
    let o : Pt Rat := ⟨-1/100, -1/100, 0, 0⟩
    let ins := arrs.map (zInOfPts Rat.floor (1/4 : Rat) o sortPids)
    let hs := arrs.map (fun a => hAtOf a)
    let q : Pt Rat := ⟨1/4, 1/4, 0, 1/8⟩
    (arrs.all (fun a => a.all (fun p => cellGuard 2 (cell3 Rat.floor (1/4) o p) &&
      decide (zKey (cell3 Rat.floor (1/4) o p) < 10000)))) = true ∧
    extZOrderAsymCands 10000 2 ins 0 0 4 = [0, 1, 4, 2] ∧
    extZOrderSymCands Rat.ceil 10000 2 (2 : Rat) (1/4) ins hs 0 0 4 = [0, 1, 4, 2] ∧
    nbrsOf (2 : Rat) a0 q (extZOrderAsymCands 10000 2 ins 0 0 4) = [0, 1, 4] ∧
    nbrsOf (2 : Rat) a0 q (extZOrderSymCands Rat.ceil 10000 2 (2 : Rat) (1/4) ins hs 0 0 4) = [0, 1, 4] ∧
    bruteForce (2 : Rat) a0 q = [0, 1, 4] ∧
    extZOrderAsymCands 10000 2 ins 0 1 0 = [2] ∧
    extZOrderSymCands Rat.ceil 10000 2 (2 : Rat) (1/4) ins hs 0 1 0 = [2] := by
  decide +kernel

/-- StratifiedHashNNPS with two levels (`hmin = 1/4`, `cs = 1/2`, `EPS = 1e-6`): the particle with
`h = 1/8` is stored at level 0, the others at level 1; a query with `h = 1/4` uses mask half-width
2 at level 0 and 1 at level 1; exact result -/
example :
    let src : List (Pt Rat) :=
      [⟨0, 0, 0, 1/4⟩, ⟨1/4, 0, 0, 1/4⟩, ⟨3/4, 1/2, 0, 1/4⟩, ⟨2, 2, 0, 1/4⟩, ⟨1/4, 1/4, 0, 1/8⟩]
    let o : Pt Rat := ⟨-1/100, -1/100, 0, 0⟩
    let q : Pt Rat := ⟨1/4, 1/4, 0, 1/8⟩
    let ivl := stratInterval (1/2 : Rat) (1/4) (1/1000000) 2
    src.map (fun p => stratLevel Rat.floor (2 : Rat) (1/4) ivl p.h) = [1, 1, 1, 1, 0] ∧
    stratHq Rat.ceil (2 : Rat) (1/4) ivl 1 q.h 0 = 1 ∧ stratHq Rat.ceil (2 : Rat) (1/4) ivl 1 (1/4) 0 = 2 ∧
    stratHq Rat.ceil (2 : Rat) (1/4) ivl 1 q.h 1 = 1 ∧
    stratHashCands Rat.floor Rat.ceil (spatialHash 7) (2 : Rat) (1/2) (1/4) (1/1000000) 2 1 o src q =
      [4, 0, 1, 2] ∧
    nbrsOf (2 : Rat) src q (stratHashCands Rat.floor Rat.ceil (spatialHash 7) (2 : Rat) (1/2) (1/4)
      (1/1000000) 2 1 o src q) = [4, 0, 1] ∧
    bruteForce (2 : Rat) src q = [0, 1, 4] := by
  decide +kernel

/-- StratifiedSFCNNPS with two levels on two arrays: levels `1,1,1,1,0 / 1,0`,
`current_cells = 1/8, 1/4`; the query of array 1's particle 0 (whose finest-level cell holds no
particle of array 0) finds its segment because the other arrays' particles are representatives too -/
example :
    let a0 : List (Pt Rat) :=
      [⟨0, 0, 0, 1/4⟩, ⟨1/4, 0, 0, 1/4⟩, ⟨3/4, 1/2, 0, 1/4⟩, ⟨2, 2, 0, 1/4⟩, ⟨1/4, 1/4, 0, 1/16⟩]
    let a1 : List (Pt Rat) := [⟨1, 3/4, 0, 1/4⟩, ⟨9/4, 2, 0, 1/16⟩]
    let arrs := [a0, a1]
    let o : Pt Rat := ⟨-1/100, -1/100, 0, 0⟩
    let ins := arrs.map (sInOfPtsFixed Rat.floor (2 : Rat) (1/2) 2 o sortPids 64)
    let hs := arrs.map (fun a => hAtOf a)
    arrs.map (fun a => a.map (fun p => sfcLevelOfFixed (2 : Rat) (1/2) 2 p.h)) = [[1, 1, 1, 1, 0], [1, 0]] ∧
    [sfcCell (2 : Rat) (1/2) 2 0, sfcCell (2 : Rat) (1/2) 2 1] = [1/8, 1/4] ∧
    sfcCands Rat.ceil 64 2 (sfcCell (2 : Rat) (1/2) 2) ins hs 0 1 0 = [2] ∧
    sfcCands Rat.ceil 64 2 (sfcCell (2 : Rat) (1/2) 2) ins hs 0 0 4 = [4, 0, 1, 2] ∧
    nbrsOf (2 : Rat) a0 ⟨1/4, 1/4, 0, 1/16⟩ (sfcCands Rat.ceil 64 2 (sfcCell (2 : Rat) (1/2) 2) ins hs 0 0 4)
      = [4, 0, 1] ∧
    sfcCands Rat.ceil 64 2 (sfcCell (2 : Rat) (1/2) 2) ins hs 1 0 3 = [1] := by
  decide +kernel

end PysphVerif.C01
