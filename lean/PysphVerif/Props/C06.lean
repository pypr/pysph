import PysphVerif.Lemmas.PArrayConsts
import PysphVerif.Lemmas.PArrayRefineStep
import PysphVerif.Lemmas.PArraySpecClone
import PysphVerif.Lemmas.PArraySpecAppend
/-!
# C06 — a particle array stays coherent under any sequence of operations

The property theorems, the two definitions their headline is stated with (`specOp`, the
record-list model of an operation, and `goodOp`, "valid arguments" beyond `validOp`) and the
demo histories of the non-vacuity examples; the arguments live in `Lemmas/PArray*.lean`, except
the three case analyses over the 20 operations (`inv_applyOp`, `consts_untouched`,
`refines_record_list`), which stand here.  The theorems are
about `Model/PArray.lean`, which transcribes `pysph/base/particle_array.pyx`
mutator by mutator and is tied to the code by exact state comparison after
every operation of seeded operation sequences (`harness/c06.py`).

All statements are for every array / every pool of arrays / every finite
sequence of operations; nothing is bounded.  `validOp` is the formal reading of
"valid arguments"; an operation that is not valid, or on which the Python code
raises, leaves the state unchanged.
-/
namespace PysphVerif.C06
open PysphVerif.PArray

/-- reading a flat array as rows and flattening again is the identity -/
theorem flat_rowsOf (s : Nat) (hs : 0 < s) (d : List Int) : flat (rowsOf s d) = d :=
  PysphVerif.PArray.flat_rowsOf s hs d

/-- rows of equal length `s > 0`, flattened and read back, are the same rows -/
theorem rowsOf_flat (s : Nat) (hs : 0 < s) (R : List (List Int))
    (hR : ∀ r ∈ R, r.length = s) : rowsOf s (flat R) = R :=
  PysphVerif.PArray.rowsOf_flat s hs R hR

/-- when the stride divides the length there are `length / stride` rows, all of
length `stride` -/
theorem rowsOf_length (s : Nat) (hs : 0 < s) (d : List Int) (h : s ∣ d.length) :
    (rowsOf s d).length = d.length / s ∧ ∀ r ∈ rowsOf s d, r.length = s :=
  rowsOf_uniform s hs (d.length / s) d (Nat.div_mul_cancel h).symm

/-! `Inv pa` (defined in `Lemmas/PArrayInv.lean`): every property `c` of `pa` has
`0 < stride(c)` and `c.data.length = pa.n * stride(c)`; `tag` is the first
property and has stride 1; property names are distinct; every key of the sparse
`stride` dict is a property name (`remove_property` has to pop the stride entry
together with the property for this to hold: DESIGN §7 F3); `default_values` has
exactly the property names as keys. -/

theorem inv_def (pa : PA) :
    Inv pa ↔
      (∀ c ∈ pa.props, 0 < pa.strideOf c.name ∧ c.data.length = pa.n * pa.strideOf c.name) ∧
      (pa.props.map Col.name).head? = some "tag" ∧ pa.strideOf "tag" = 1 ∧
      (pa.props.map Col.name).Nodup ∧
      (∀ k ∈ pa.stride.map Prod.fst, k ∈ pa.props.map Col.name) ∧
      pa.defaults.map Prod.fst = pa.props.map Col.name :=
  ⟨fun h => ⟨h.len, h.tagFirst, h.tagStride, h.nodup, h.strideKeys, h.defaultKeys⟩,
   fun h => ⟨h.1, h.2.1, h.2.2.1, h.2.2.2.1, h.2.2.2.2.1, h.2.2.2.2.2⟩⟩

/-- `ParticleArray()` is coherent -/
theorem inv_empty (nm : String) : Inv (PA.empty nm) := PysphVerif.PArray.inv_empty nm

theorem inv_extend {pa : PA} (h : Inv pa) (k : Nat) :
    Inv (pa.extend k) ∧ (pa.extend k).n = pa.n + k := PysphVerif.PArray.inv_extend h k

theorem inv_resize {pa : PA} (h : Inv pa) (m : Nat) :
    Inv (pa.resize m) ∧ (pa.resize m).n = m :=
  ⟨(resize_colwise h m).inv, (resize_colwise h m).n⟩

theorem inv_removeParticles {pa pa' : PA} (h : Inv pa) (idx : List Nat) (al : Bool)
    (hr : pa.removeParticles idx al = some pa') : Inv pa' :=
  PysphVerif.PArray.inv_removeParticles h idx al hr

theorem inv_removeTagged {pa pa' : PA} (h : Inv pa) (tag : Int) (al : Bool)
    (hr : pa.removeTagged tag al = some pa') : Inv pa' :=
  PysphVerif.PArray.inv_removeParticles h _ al hr

theorem inv_align {pa : PA} (h : Inv pa) : Inv pa.align := PysphVerif.PArray.inv_align h

theorem inv_setTag {pa : PA} (h : Inv pa) (tag : Int) (idx : List Nat) :
    Inv (pa.setTag tag idx) := by
  unfold PA.setTag
  split
  · rename_i c hc
    exact (inv_setCol_sameLen h c (col?_some pa _ c hc).1 _ (foldl_set_length idx tag c.data)).1
  · exact h

/-- `add_particles`: every given array must hold the same whole number of rows
(the count is taken from the last one, as the code does) -/
theorem inv_addParticles {pa pa' : PA} (h : Inv pa) (al : Bool) (given : List (String × List Int))
    (hv : ∀ ln ld, given.getLast? = some (ln, ld) →
      ∀ g ∈ given, g.2.length = (ld.length / pa.strideOf ln) * pa.strideOf g.1)
    (hr : pa.addParticles al given = some pa') : Inv pa' := by
  rcases addParticles_some hr with ⟨_, rfl⟩ | ⟨ln, ld, hlast, rfl⟩
  · exact h
  · exact inv_alignIf (addedPA_colwise h given _ (hv ln ld hlast)).inv _

/-- `add_property`: an existing property is re-added with its own stride (or 1 = "not given")
unless the array is empty.  (Weaker than what `validOp` demands.) -/
theorem inv_addProperty {pa pa' : PA} {name ctype : String} {dflt : Option Int}
    {data : Option (List Int)} {stride : Nat}
    (h : Inv pa) (h1 : 1 ≤ stride)
    (h2 : name ∈ pa.props.map Col.name → stride = 1 ∨ stride = pa.strideOf name ∨ pa.n = 0)
    (h3 : name = "tag" → stride = 1)
    (h4 : ∀ d, data = some d → d.length ≠ 0 → name ∉ pa.props.map Col.name →
      d.length % stride = 0)
    (hr : pa.addProperty name ctype dflt data stride = some pa') : Inv pa' := by
  obtain ⟨m', hm, _⟩ := invF_addProperty h ⟨h1, h2, h3⟩ h4 hr
  exact hm.toInv

/-- `remove_property` (of anything but `tag`): the stride entry goes with the
property, so the sparse stride dict keeps only property names -/
theorem inv_removeProperty {pa : PA} (h : Inv pa) (name : String) (hn : name ≠ "tag") :
    Inv (pa.removeProperty name) ∧ (pa.removeProperty name).n = pa.n :=
  PysphVerif.PArray.inv_removeProperty h name hn

theorem inv_addConstant {pa pa' : PA} (h : Inv pa) (name : String) (data : List Int)
    (hr : pa.addConstant name data = some pa') : Inv pa' := by
  rw [addConstant_some hr]
  exact InvF.toInv (m := pa.n) h.toF

theorem inv_setProp {pa pa' : PA} (h : Inv pa) (name : String) (data : List Int)
    (hr : pa.setProp name data = some pa') : Inv pa' := by
  rcases setProp_some hr with ⟨c, nd, hc, hnd, rfl⟩ | ⟨_, cs, rfl⟩
  · exact (inv_setCol_sameLen h c (col?_some pa _ c hc).1 nd (setData_length _ _ _ hnd)).1
  · exact InvF.toInv (m := pa.n) h.toF

theorem inv_setOutputs {pa pa' : PA} (h : Inv pa) (ps : List String)
    (hr : pa.setOutputs ps = some pa') : Inv pa' := by
  rw [setOutputs_some hr]
  exact InvF.toInv (m := pa.n) h.toF

theorem inv_addOutputs {pa pa' : PA} (h : Inv pa) (ps : List String)
    (hr : pa.addOutputs ps = some pa') : Inv pa' := by
  rw [addOutputs_some hr]
  exact InvF.toInv (m := pa.n) h.toF

/-- `empty_clone`: coherent, empty, and every cloned name has the source's stride -/
theorem inv_emptyClone {pa d : PA} (h : Inv pa) (props : Option (List String))
    (hr : pa.emptyClone props = some d) :
    Inv d ∧ d.n = 0 ∧ ∀ nm ∈ cloneNames pa props, d.strideOf nm = pa.strideOf nm := by
  have hall : ∀ nm ∈ cloneNames pa props, nm ∈ pa.props.map Col.name := by
    intro nm hnm
    rw [emptyClone_eq] at hr
    split at hr
    · exact absurd hr (by simp)
    · rename_i hall
      exact (hasProp_iff pa nm).mp (List.all_eq_true.mp (by simpa using hall) nm hnm)
  obtain ⟨d', hd', hi, hn, _, hst⟩ := emptyClone_spec h props hall
  rw [hr, Option.some.injEq] at hd'
  subst hd'
  exact ⟨hi, hn, fun nm hnm => (hst nm hnm).2⟩

/-- `extract_particles` into an existing array: the copied properties must have
the same stride in both arrays -/
theorem inv_extractInto {pa dest pa' : PA} (h : Inv pa) (hd : Inv dest) (idx : List Nat)
    (al : Bool) (props : Option (List String))
    (hss : ∀ nm ∈ cloneNames pa props, pa.strideOf nm = dest.strideOf nm)
    (hr : pa.extractInto idx dest al props = some pa') : Inv pa' :=
  PysphVerif.PArray.inv_extractInto h hd idx al props hss hr

theorem inv_extract {pa pa' : PA} (h : Inv pa) (idx : List Nat) (al : Bool)
    (props : Option (List String)) (hr : pa.extract idx al props = some pa') : Inv pa' := by
  unfold PA.extract at hr
  split at hr
  · exact absurd hr (by simp)
  · rename_i d hd
    obtain ⟨hi, _, hst⟩ := inv_emptyClone h props hd
    exact inv_extractInto h hi idx al props (fun nm hnm => (hst nm hnm).symm) hr

theorem inv_appendParray {pa src pa' : PA} (h : Inv pa) (hs : Inv src) (al up : Bool)
    (hr : pa.appendParray src al up = some pa') : Inv pa' := by
  rcases appendParray_some hr with ⟨_, rfl⟩ | ⟨a, hfold, rfl⟩
  · exact h
  have key := foldl_opt_inv (appendStep src pa.n) (fun _ a => Inv a)
    (fun _ => rfl) src.props
    (fun pre b suf a a' hl hq hs' =>
      (inv_appendStep hs hq pa.n b (by rw [hl]; simp) hs').1)
    _ (inv_extend h src.n).1 a hfold
  obtain ⟨cs, e, _⟩ := appendConsts_eq src up a
  rw [e]
  exact inv_alignIf (InvF.toInv (pa := { a with consts := cs }) key.toF) _

theorem inv_ensureProperties {pa src pa' : PA} (h : Inv pa) (hs : Inv src)
    (props : Option (List String)) (hr : pa.ensureProperties src props = some pa') :
    Inv pa' ∧ pa'.n = pa.n ∧ pa'.consts = pa.consts := by
  refine and_assoc.mp ⟨?_, ensureProperties_consts props hr⟩
  rw [ensureProperties_eq] at hr
  exact foldl_opt_inv (ensureStep src) (fun _ a => Inv a ∧ a.n = pa.n) (fun _ => rfl) _
    (fun pre b suf a a' _ hq hs' => by
      have := inv_ensureStep hs hq.1 b hs'
      exact ⟨this.1, this.2.trans hq.2⟩)
    pa ⟨h, rfl⟩ pa' hr

theorem inv_pickle {pa pa' : PA} (h : Inv pa) (hr : pa.pickle = some pa') : Inv pa' :=
  (pickle_spec h hr).1

/-- one operation on a pool of coherent arrays leaves every array coherent -/
theorem inv_applyOp (st : State) (op : Op) (h : ∀ pa ∈ st, Inv pa) :
    ∀ pa ∈ applyOp st op, Inv pa := by
  unfold applyOp
  split
  · exact h
  rename_i hv
  have hv : validOp st op = true := by simpa using hv
  have hm : ∀ {s : Nat} {pa : PA}, st[s]? = some pa → Inv pa :=
    fun hs => h _ (List.mem_of_getElem? hs)
  -- per operation: `slot_elim` on the slot(s) it reads (an empty slot leaves the pool as it is), then
  -- the preservation lemma of that mutator, lifted to the pool by `all_set` / `all_setAt` / `all_pushOpt`
  have one := fun (s : Nat) (g : PA → State) => slot_elim (P := fun st' => ∀ pa ∈ st', Inv pa) h s g
  have two := fun (s d : Nat) (g : PA → PA → State) =>
    slot_elim₂ (P := fun st' => ∀ pa ∈ st', Inv pa) h s d g
  cases op with
  | addParticles s al given =>
    exact one s _ (fun pa hs => all_setAt h s _ (fun x hx =>
      inv_addParticles (hm hs) al given (validOp_addParticles hv hs).2 hx))
  | removeParticles s idx al =>
    exact one s _ (fun pa hs => all_setAt h s _ (fun x hx => inv_removeParticles (hm hs) idx al hx))
  | removeTagged s t al =>
    exact one s _ (fun pa hs => all_setAt h s _ (fun x hx => inv_removeTagged (hm hs) t al hx))
  | extend s k => exact one s _ (fun pa hs => all_set h s _ (inv_extend (hm hs) k).1)
  | resize s m => exact one s _ (fun pa hs => all_set h s _ (inv_resize (hm hs) m).1)
  | align s => exact one s _ (fun pa hs => all_set h s _ (inv_align (hm hs)))
  | setTag s t idx => exact one s _ (fun pa hs => all_set h s _ (inv_setTag (hm hs) t idx))
  | addProperty s nm ct df da sd =>
    exact one s _ (fun pa hs => all_setAt h s _ (fun x hx =>
      have ⟨h1, h2, h4⟩ := validOp_addProperty hv hs
      have ok := AddOk.of_one_or_own (hm hs) h1 h2
      inv_addProperty (hm hs) ok.pos ok.own ok.tag (fun d hd hdl hnm => (h4 d hd hdl).1 hnm) hx))
  | removeProperty s nm =>
    exact one s _ (fun pa hs => all_set h s _
      (inv_removeProperty (hm hs) nm (validOp_removeProperty hv)).1)
  | addConstant s nm d =>
    exact one s _ (fun pa hs => all_setAt h s _ (fun x hx => inv_addConstant (hm hs) nm d hx))
  | setProp s nm d =>
    exact one s _ (fun pa hs => all_setAt h s _ (fun x hx => inv_setProp (hm hs) nm d hx))
  | setOutputs s ps =>
    exact one s _ (fun pa hs => all_setAt h s _ (fun x hx => inv_setOutputs (hm hs) ps hx))
  | addOutputs s ps =>
    exact one s _ (fun pa hs => all_setAt h s _ (fun x hx => inv_addOutputs (hm hs) ps hx))
  | emptyClone s ps =>
    exact one s _ (fun pa hs => all_pushOpt h _ (fun x hx => (inv_emptyClone (hm hs) ps hx).1))
  | extract s idx al ps =>
    exact one s _ (fun pa hs => all_pushOpt h _ (fun x hx => inv_extract (hm hs) idx al ps hx))
  | extractInto s d idx al ps =>
    exact two s d _ (fun pa dd hs hd => all_setAt h d _ (fun x hx =>
      inv_extractInto (hm hs) (hm hd) idx al ps (validOp_extractInto hv hs hd) hx))
  | append s src al up =>
    exact two s src _ (fun pa sp hs hsrc => all_setAt h s _ (fun x hx =>
      inv_appendParray (hm hs) (hm hsrc) al up hx))
  | ensure s src ps =>
    exact two s src _ (fun pa sp hs hsrc => all_setAt h s _ (fun x hx =>
      (inv_ensureProperties (hm hs) (hm hsrc) ps hx).1))
  | pickle s => exact one s _ (fun pa hs => all_pushOpt h _ (fun x hx => inv_pickle (hm hs) hx))
  | new nm => exact all_pushOpt h (some (PA.empty nm)) (fun x hx => by cases hx; exact inv_empty nm)

/-- **Headline.** After any finite sequence of operations starting from the
empty pool, every array is coherent: each property holds exactly
`number_of_particles × stride` values, and `stride`/`default_values` are in
step with the properties. -/
theorem inv_reachable (ops : List Op) : ∀ pa ∈ run ops, Inv pa :=
  List.foldlRecOn (motive := fun (st : State) => ∀ pa ∈ st, Inv pa) ops applyOp (fun _ h => by simp at h)
    (fun st h op _ => inv_applyOp st op h)

/-- the length statement on its own, for every reachable array and property -/
theorem reachable_lengths (ops : List Op) (pa : PA) (hpa : pa ∈ run ops) (c : Col)
    (hc : c ∈ pa.props) : c.data.length = pa.n * pa.strideOf c.name :=
  ((inv_reachable ops pa hpa).len c hc).2

/-- create, add a strided property, add particles with mixed tags (aligning),
remove one, remove the strided property and add it back with stride 1 (the
order of calls that exposed the stale-stride defect), grow, pickle -/
def demoOps : List Op :=
  [ .new "fluid",
    .addProperty 0 "x" "double" none none 1,
    .addProperty 0 "v" "double" (some 7) none 3,
    .addConstant 0 "c0" [5, 6],
    .addParticles 0 true [("x", [10, 11, 12, 13]), ("tag", [2, 0, 1, 0]),
                          ("v", [1, 2, 3, 4, 5, 6, 7, 8, 9, 10, 11, 12])],
    .removeParticles 0 [0] true,
    .removeProperty 0 "v",
    .addProperty 0 "v" "double" none none 1,
    .extend 0 2,
    .pickle 0 ]

/-- every operation of the demo history is valid in the state it is applied to -/
example : (demoOps.foldl (fun (p : State × Bool) op => (applyOp p.1 op, p.2 && validOp p.1 op))
    ([], true)).2 = true := by decide +kernel

example : (run demoOps).map PA.n = [5, 5] := by decide +kernel
example : (run demoOps).map (fun pa => pa.props.map (fun c => (c.name, c.data.length))) =
    [[("tag", 5), ("pid", 5), ("gid", 5), ("x", 5), ("v", 5)],
     [("tag", 5), ("pid", 5), ("gid", 5), ("x", 5), ("v", 5)]] := by decide +kernel
/-- before the strided property is removed it holds `3 × n` values -/
example : (run (demoOps.take 6)).map (fun pa => (pa.n, pa.strideOf "v",
    (pa.props.filter (·.name == "v")).map (·.data))) =
    [(3, 3, [[10, 11, 12, 1, 2, 3, 7, 8, 9]])] := by decide +kernel
example : ∀ pa ∈ run demoOps, Inv pa := inv_reachable demoOps

/-! `particles pa` (defined in `Lemmas/PArrayColwise.lean`) is the array seen as a
list of records: slot `k` ↦ for every property its `k`-th row. -/

theorem particles_def (pa : PA) :
    particles pa = (List.range pa.n).map (fun k => pa.props.map (fun (c : Col) =>
      (c.name, (rowsOf (pa.strideOf c.name) c.data).getD k []))) := rfl

/-- naturality of the polymorphic row removal: it is a gather through an index
list that depends only on the indices and the length -/
theorem removeRows_naturality {β : Type} (idx : List Nat) (l : List β) :
    removeRows idx l = gather (removeRows idx (List.range l.length)) l :=
  removeRows_eq_gather idx l

theorem gather_naturality {β γ : Type} (f : β → γ) (src : List Nat) (l : List β) :
    (gather src l).map f = gather src (l.map f) := gather_map f src l

/-- gathering every property through the same index list gathers whole particles -/
theorem gather_particles_together {pa : PA} (h : Inv pa) (src : List Nat)
    (hsrc : ∀ i ∈ src, i < pa.n) :
    particles (pa.mapRows (gather src)) = gather src (particles pa) :=
  mapRows_gather_particles h src hsrc

/-- `remove_particles(idx, align=False)` removes whole particles: the particle
list afterwards is the generic row removal applied to the particle list — the
same row map for every property -/
theorem removeParticles_particles {pa pa' : PA} (h : Inv pa) (idx : List Nat)
    (hr : pa.removeParticles idx false = some pa') :
    particles pa' = removeRows (sortNat idx) (particles pa) := by
  rw [removeParticles_noalign pa idx pa' hr]
  exact mapRows_removeRows_particles h (sortNat idx)

/-- exactly the addressed records disappear: what is left together with the addressed records is
a permutation of the original list -/
theorem removeRows_perm {β : Type} (idx : List Nat) (l : List β) (hs : idx.Pairwise (· < ·))
    (hr : ∀ i ∈ idx, i < l.length) : (removeRows idx l ++ gather idx l).Perm l :=
  PysphVerif.PArray.removeRows_perm idx l hs hr

/-- `remove_particles` with distinct in-range indices: the remaining particles
plus the addressed ones are a permutation of the particles before -/
theorem removeParticles_exact {pa pa' : PA} (h : Inv pa) (idx : List Nat) (hnd : idx.Nodup)
    (hin : ∀ i ∈ idx, i < pa.n) (hr : pa.removeParticles idx false = some pa') :
    (particles pa' ++ gather (sortNat idx) (particles pa)).Perm (particles pa) :=
  removeParticles_perm_sorted h idx hnd hin hr

/-- `align_particles` permutes whole particles -/
theorem align_particles_perm {pa : PA} (h : Inv pa) :
    (particles pa.align).Perm (particles pa) := PysphVerif.PArray.align_particles_perm h

/-- `extend(k)` appends `k` particles with every property at its default and
leaves the existing particles alone -/
theorem extend_particles {pa : PA} (h : Inv pa) (k : Nat) :
    particles (pa.extend k) = particles pa ++ List.replicate k (defaultParticle pa) :=
  PysphVerif.PArray.extend_particles h k

/-- `add_particles(align=False, **given)`: the old particles stay and `k` new
ones are appended, each carrying the given row or the default of every property
(`k` = number of rows of the last given array, as the code computes it) -/
theorem addParticles_particles {pa pa' : PA} (h : Inv pa) (given : List (String × List Int))
    (ln : String) (ld : List Int) (hlast : given.getLast? = some (ln, ld))
    (hv : ∀ g ∈ given, g.2.length = (ld.length / pa.strideOf ln) * pa.strideOf g.1)
    (hr : pa.addParticles false given = some pa') :
    pa'.n = pa.n + ld.length / pa.strideOf ln ∧
    particles pa' = particles pa ++
      (List.range (ld.length / pa.strideOf ln)).map
        (newParticle pa given (ld.length / pa.strideOf ln)) := by
  rcases addParticles_some hr with ⟨hn, _⟩ | ⟨_, _, hl, rfl⟩
  · rw [hlast] at hn; cases hn
  rw [hlast] at hl; cases hl
  rw [Bool.and_false]
  exact ⟨(addedPA_colwise h given _ hv).n, (addedPA_colwise h given _ hv).particles⟩

theorem newParticle_def (pa : PA) (given : List (String × List Int)) (k j : Nat) :
    newParticle pa given k j = pa.props.map (fun (c : Col) => (c.name,
      (match given.find? (fun (g : String × List Int) => g.1 == c.name) with
        | some g => rowsOf (pa.strideOf c.name) g.2
        | none => List.replicate k (defaultRow pa c.name)).getD j [])) := rfl

/-- a 4-particle array with a stride-3 property and tags 0,0,1,2 -/
def demoPA : PA := ((run (demoOps.take 5))[0]?).getD (PA.empty "")

example : Inv demoPA := inv_reachable (demoOps.take 5) demoPA (by decide +kernel)
example : particles demoPA =
    [[("tag", [0]), ("pid", [0]), ("gid", [4294967295]), ("x", [11]), ("v", [4, 5, 6])],
     [("tag", [0]), ("pid", [0]), ("gid", [4294967295]), ("x", [13]), ("v", [10, 11, 12])],
     [("tag", [1]), ("pid", [0]), ("gid", [4294967295]), ("x", [12]), ("v", [7, 8, 9])],
     [("tag", [2]), ("pid", [0]), ("gid", [4294967295]), ("x", [10]), ("v", [1, 2, 3])]] := by
  decide +kernel
/-- removing slots 2 and 0 (given unsorted) leaves exactly the other two records -/
example : (demoPA.removeParticles [2, 0] false).map particles = some
    [[("tag", [2]), ("pid", [0]), ("gid", [4294967295]), ("x", [10]), ("v", [1, 2, 3])],
     [("tag", [0]), ("pid", [0]), ("gid", [4294967295]), ("x", [13]), ("v", [10, 11, 12])]] := by
  decide +kernel
/-- two new particles: `tag` and the strided `v` given, `x`/`pid`/`gid` defaulted -/
example : (demoPA.addParticles false [("tag", [1, 0]), ("v", [21, 22, 23, 24, 25, 26])]).map
    (fun pa => (particles pa).drop 4) = some
    [[("tag", [1]), ("pid", [0]), ("gid", [4294967295]), ("x", [0]), ("v", [21, 22, 23])],
     [("tag", [0]), ("pid", [0]), ("gid", [4294967295]), ("x", [0]), ("v", [24, 25, 26])]] := by
  decide +kernel

/-- the index array built by `align_particles` is a permutation of `0 … n-1` -/
theorem alignIndex_perm (tags : List Int) :
    (alignIndex tags).1.Perm (List.range tags.length) := PysphVerif.PArray.alignIndex_perm tags

/-- **after `align_particles`** the particle count is unchanged,
`num_real_particles` is the number of Local tags (before and after), and slot
`k` holds a Local-tagged particle iff `k < num_real_particles` -/
theorem align_real_first {pa : PA} (h : Inv pa) :
    pa.align.n = pa.n ∧
    pa.align.nReal = (pa.tags.filter (· == localTag)).length ∧
    pa.align.nReal = (pa.align.tags.filter (· == localTag)).length ∧
    ∀ k, k < pa.align.n →
      (pa.align.tags.getD k 1 == localTag) = decide (k < pa.align.nReal) := by
  obtain ⟨htags, hnr⟩ := align_tags h
  have hperm := alignIndex_perm pa.tags
  have hlen := alignIndex_length pa.tags
  have hlt : ∀ i ∈ (alignIndex pa.tags).1, i < pa.tags.length :=
    fun i hi => List.mem_range.mp (hperm.subset hi)
  have hn : pa.align.n = pa.n := by
    rw [← (inv_align h).tags_length, htags, gather_length _ _ hlt, hlen, h.tags_length]
  refine ⟨hn, ?_, ?_, ?_⟩
  · rw [hnr]; exact alignIndex_nreal pa.tags
  · rw [hnr, alignIndex_nreal, htags]
    exact ((gather_perm _ _ hperm).filter _).length_eq.symm
  · intro k hk
    rw [hn, ← h.tags_length] at hk
    rw [hnr, htags, gather_eq_map _ _ 1 hlt, map_getD_of_lt _ _ k 0 1 (by rw [hlen]; exact hk)]
    exact alignIndex_real_first pa.tags k hk

/-- a misaligned array (slot 0 retagged Ghost): alignment moves the Local particle
to the front, as a whole record -/
example : ((demoPA.setTag 2 [0]).tags, (demoPA.setTag 2 [0]).align.tags,
    (demoPA.setTag 2 [0]).align.nReal) = ([2, 0, 1, 2], [0, 2, 1, 2], 1) := by decide +kernel
example : (particles (demoPA.setTag 2 [0]).align).head? =
    some [("tag", [0]), ("pid", [0]), ("gid", [4294967295]), ("x", [13]), ("v", [10, 11, 12])] := by
  decide +kernel

/-- the operations that are meant to write constants: `add_constant`, `set` on a name that is
not a property, `append_parray(update_constants=True)` -/
theorem touchesConsts_def (st : State) (op : Op) :
    touchesConsts st op = (match op with
      | .addConstant _ _ _ => true
      | .setProp s name _ => (match st[s]? with
          | some pa => !pa.hasProp name
          | none => false)
      | .append _ _ _ up => up
      | _ => false) := by
  cases op <;> rfl

/-- every other operation leaves the constants of every existing array alone
(arrays created by `empty_clone` / `extract_particles` / pickling /
`ParticleArray()` go to new slots of the pool) -/
theorem consts_untouched (st : State) (op : Op) (ht : touchesConsts st op = false)
    (k : Nat) (pa : PA) (hk : st[k]? = some pa) :
    ∃ pa', (applyOp st op)[k]? = some pa' ∧ pa'.consts = pa.consts := by
  suffices ConstsKept st (applyOp st op) from this k pa hk
  unfold applyOp
  split
  · exact .refl st
  -- per operation: `slot_elim` on the slot(s) it reads, then `…_consts` of that mutator lifted to the
  -- pool; a result that goes to a new slot leaves every existing array where it is (`ConstsKept.pushOpt`)
  have one := fun (s : Nat) (g : PA → State) => slot_elim (P := ConstsKept st) (.refl st) s g
  have two := fun (s d : Nat) (g : PA → PA → State) =>
    slot_elim₂ (P := ConstsKept st) (.refl st) s d g
  cases op with
  | addParticles s al given =>
    exact one s _ (fun p0 hs => .setAt _ hs (fun x hx => addParticles_consts al given hx))
  | removeParticles s idx al =>
    exact one s _ (fun p0 hs => .setAt _ hs (fun x hx => removeParticles_consts idx al hx))
  | removeTagged s t al =>
    exact one s _ (fun p0 hs => .setAt _ hs (fun x hx => removeParticles_consts _ al hx))
  | extend s n => exact one s _ (fun p0 hs => .set hs (extend_consts p0 n))
  | resize s m => exact one s _ (fun p0 hs => .set (x := p0.resize m) hs rfl)
  | align s => exact one s _ (fun p0 hs => .set hs (align_consts p0))
  | setTag s t idx => exact one s _ (fun p0 hs => .set hs (setTag_consts p0 t idx))
  | addProperty s nm ct df da sd =>
    exact one s _ (fun p0 hs => .setAt _ hs (fun x hx => (addProperty_fields hx).2.1))
  | removeProperty s nm =>
    exact one s _ (fun p0 hs => .set hs (removeProperty_consts p0 nm))
  | addConstant s nm d => simp [touchesConsts] at ht
  | setProp s nm d =>
    refine one s _ (fun p0 hs => .setAt _ hs (fun x hx => ?_))
    rcases setProp_some hx with ⟨c, nd, _, _, rfl⟩ | ⟨hc, _⟩
    · exact setCol_consts _ _
    · exact absurd ((hasProp_false_iff p0 nm).mpr (col?_none p0 nm hc))
        (by simpa [touchesConsts, hs] using ht)
  | setOutputs s ps =>
    exact one s _ (fun p0 hs => .setAt _ hs (fun x hx => by rw [setOutputs_some hx]))
  | addOutputs s ps =>
    exact one s _ (fun p0 hs => .setAt _ hs (fun x hx => by rw [addOutputs_some hx]))
  | emptyClone s ps => exact one s _ (fun _ _ => .pushOpt _ _)
  | extract s idx al ps => exact one s _ (fun _ _ => .pushOpt _ _)
  | extractInto s d idx al ps =>
    exact two s d _ (fun p0 dd hs hd =>
      .setAt _ hd (fun x hx => extractInto_consts idx al ps hx))
  | append s src al up =>
    have hup : up = false := by simpa [touchesConsts] using ht
    subst hup
    exact two s src _ (fun p0 sp hs hsrc =>
      .setAt _ hs (fun x hx => appendParray_consts al hx))
  | ensure s src ps =>
    exact two s src _ (fun p0 sp hs hsrc =>
      .setAt _ hs (fun x hx => ensureProperties_consts ps hx))
  | pickle s => exact one s _ (fun _ _ => .pushOpt _ _)
  | new nm => exact .append _ _

example : (run demoOps).map PA.consts = [[("c0", [5, 6])], [("c0", [5, 6])]] := by decide +kernel

/-- `pickle.loads(pickle.dumps(pa))`, when it succeeds, rebuilds a coherent array
with the same properties (names, C types, data, order), the same stride for
every name, the same defaults and constants, and recounts the real particles -/
theorem pickle_roundtrip {pa pa' : PA} (h : Inv pa) (hr : pa.pickle = some pa') :
    Inv pa' ∧ pa'.props = pa.props ∧ pa'.defaults = pa.defaults ∧
      (∀ nm, pa'.strideOf nm = pa.strideOf nm) ∧ pa'.consts = pa.consts ∧
      pa'.name = pa.name ∧ pa'.outputs = [] ∧
      pa'.nReal = (pa.tags.filter (· == localTag)).length :=
  pickle_spec h hr

example : ((run demoOps)[0]?).bind PA.pickle = (run demoOps)[1]? := by decide +kernel

/-- pickling succeeds when the constant names are distinct and differ from every
property name.  The second condition is NOT an invariant of reachable states
(`add_property` accepts the name of an existing constant, see `clashOps`). -/
theorem pickle_succeeds {pa : PA} (h : Inv pa) (hcn : (pa.consts.map Prod.fst).Nodup)
    (hcd : ∀ k ∈ pa.consts.map Prod.fst, k ∉ pa.props.map Col.name) :
    ∃ pa', pa.pickle = some pa' := by
  obtain ⟨a, hfold, _, hap, _, _, hac, _⟩ := pickleProps h
  obtain ⟨a2, hfold2⟩ := constFold_exists a pa.consts (by rw [hac]; simpa using hcn)
    (by rw [hap]; exact hcd)
  rw [pickle_eq, hfold]
  simp only []
  rw [hfold2]
  exact ⟨_, rfl⟩

/-- a valid history after which the array cannot be un-pickled: a constant and a
property with the same name (the real `__setstate__` raises
`RuntimeError: Property called "m" already exists.`) -/
def clashOps : List Op :=
  [ .new "a", .addConstant 0 "m" [1], .addProperty 0 "m" "double" none none 1 ]

example : (clashOps.foldl (fun (p : State × Bool) op => (applyOp p.1 op, p.2 && validOp p.1 op))
    ([], true)).2 = true ∧ ((run clashOps)[0]?).bind PA.pickle = none := by decide +kernel

/-- sharpness of the stride condition of `inv_addProperty` (and of `validOp`):
re-adding an existing property of a non-empty array with another stride rewrites
`stride[name]` without resizing the array — 2 particles, stride 3, 2 values -/
example : (((run [.new "c", .addProperty 0 "x" "double" none none 1,
      .addParticles 0 true [("x", [1, 2])]])[0]?).bind
      (fun pa => pa.addProperty "x" "double" none none 3)).map
      (fun pa => (pa.n, pa.strideOf "x", (pa.props.filter (·.name == "x")).map (·.data.length)))
    = some (2, 3, [2]) := by decide +kernel

/-- the listed fields from the source record, the destination's default elsewhere (in the
destination's field order) -/
theorem copyFields_def (names : List String) (src dflt : Rec) :
    copyFields names src dflt =
      dflt.map (fun f => if names.contains f.1 then (f.1, lookupD src f.1 []) else f) := rfl

/-- **`extract_particles(idx, dest, align=False, props)`**: the destination keeps its records
and gets one new record per index, in the order of `idx`: the copied fields are those of source
record `i`, the other fields the destination's defaults.  Equal strides of the copied properties
are what `validOp` demands.  (The source is not an output of the operation: it is unchanged.) -/
theorem extract_particles_spec {pa dest dest' : PA} (h : Inv pa) (hd : Inv dest) (idx : List Nat)
    (props : Option (List String))
    (hss : ∀ nm ∈ cloneNames pa props, pa.strideOf nm = dest.strideOf nm)
    (hin : ∀ i ∈ idx, i < pa.n)
    (hr : pa.extractInto idx dest false props = some dest') :
    dest'.n = dest.n + idx.length ∧
    particles dest' = particles dest ++
      idx.map (fun i => copyFields (cloneNames pa props) ((particles pa).getD i [])
        (defaultParticle dest)) := by
  obtain ⟨h1, h2, _⟩ := extractInto_particles h hd idx props hss hin hr
  exact ⟨h1, h2⟩

/-- **conservation**: `extract_particles(idx, dest, props)` followed by
`remove_particles(idx)` on the source conserves the multiset of records
restricted to the copied fields (`project names r` = the fields `names` of `r`,
in the order of `names`) -/
theorem extract_then_remove_conserves {pa dest dest' pa' : PA} (h : Inv pa) (hd : Inv dest)
    (idx : List Nat) (props : Option (List String))
    (hss : ∀ nm ∈ cloneNames pa props, pa.strideOf nm = dest.strideOf nm)
    (hnames : ∀ nm ∈ cloneNames pa props, nm ∈ dest.props.map Col.name)
    (hnd : idx.Nodup) (hin : ∀ i ∈ idx, i < pa.n)
    (he : pa.extractInto idx dest false props = some dest')
    (hr : pa.removeParticles idx false = some pa') :
    ((particles dest' ++ particles pa').map (project (cloneNames pa props))).Perm
      ((particles dest ++ particles pa).map (project (cloneNames pa props))) := by
  obtain ⟨_, hp, _⟩ := extractInto_particles h hd idx props hss hin he
  rw [hp]
  have hg : (idx.map (fun i => copyFields (cloneNames pa props) ((particles pa).getD i [])
      (defaultParticle dest))).map (project (cloneNames pa props)) =
      (idx.map (particleAt pa)).map (project (cloneNames pa props)) := by
    rw [List.map_map, List.map_map]
    apply List.map_congr_left
    intro i hi
    simp only [Function.comp]
    rw [particles_getD pa i (hin i hi)]
    apply project_copyFields
    intro nm hnm
    rw [defaultParticle_keys]
    exact hnames nm hnm
  rw [List.map_append, List.map_append, hg, List.map_append, List.append_assoc]
  apply List.Perm.append_left
  have h3 : ((idx.map (particleAt pa)) ++ particles pa').Perm (particles pa) :=
    List.perm_append_comm.trans (removeParticles_perm h idx hnd hin hr)
  rw [← List.map_append]
  exact h3.map _

/-- **`remove_tagged_particles(tag, align=False)`**: exactly the records
carrying that tag disappear (the others stay, possibly reordered by the
swap-removal) -/
theorem removeTagged_particles {pa pa' : PA} (h : Inv pa) (t : Int)
    (hr : pa.removeTagged t false = some pa') :
    (particles pa').Perm ((particles pa).filter (fun r => !(lookupD r "tag" [] == [t]))) :=
  removeTagged_particles' h t hr

/-- self `a`, source `b` -/
theorem specAppend_def (a b : RA) :
    specAppend a b = if b.recs.length = 0 then a else
      ⟨a.dflt ++ missingFields a.dflt b.dflt,
       a.recs.map (fun r => r ++ missingFields a.dflt b.dflt) ++
       b.recs.map (fun r => (a.dflt ++ missingFields a.dflt b.dflt).map (fun f =>
         if (recKeys b.dflt).contains f.1 then (f.1, lookupD r f.1 []) else f))⟩ := rfl

/-- **`append_parray(src, align=False)`**: it never raises on coherent arrays
in which every property of src has the same stride (what `validOp` demands;
`append_spec` asks it of the common properties only), and afterwards the records are the
old records (the fields self did not have filled with src's defaults) followed
by src's records (the fields src does not have filled with self's defaults);
the default record gains src's extra fields -/
theorem appendParray_particles {pa src : PA} (h : Inv pa) (hs : Inv src) (up : Bool)
    (hss : ∀ nm ∈ src.props.map Col.name, pa.strideOf nm = src.strideOf nm) :
    ∃ pa', pa.appendParray src false up = some pa' ∧
      absPA pa' = specAppend (absPA pa) (absPA src) := by
  obtain ⟨X, hX, _, habs⟩ := append_spec h hs false up (fun nm hnm _ => hss nm hnm)
  exact ⟨X, by simpa [PA.alignIf] using hX, habs⟩

/-- slot 1 of `demoPA` (`x = 13`, `v = [10,11,12]`) extracted into a clone that
only has `x`: `x` is copied, `tag/pid/gid` take the clone's defaults -/
example : ((demoPA.emptyClone (some ["x"])).bind
    (fun d => demoPA.extractInto [1] d false (some ["x"]))).map particles =
    some [[("tag", [0]), ("pid", [0]), ("gid", [4294967295]), ("x", [13])]] := by decide +kernel
example : (demoPA.removeTagged 0 false).map particles = some
    [[("tag", [1]), ("pid", [0]), ("gid", [4294967295]), ("x", [12]), ("v", [7, 8, 9])],
     [("tag", [2]), ("pid", [0]), ("gid", [4294967295]), ("x", [10]), ("v", [1, 2, 3])]] := by
  decide +kernel

/-! The record-list model of one array is `RA`: a default record (field ↦ default
row, in property order) and a list of records.  `absPA pa` is the view of a real
array, `absState` of a pool.  `specOp` is the straightforward record-list
function of every operation; it keeps no flat arrays, no `stride` dict and no
`num_real_particles` (`specAddProperty` and `specSetProp`, whose data argument is
flat, cut it into rows).  Because `align_particles` and the swap-removal of cyarray
reorder records while indices are positional, the refinement is stated per
step, from the view of the actual state: `poolEquiv` = slot by slot the same
default record and the same records up to a permutation. -/

/-! the record-list functions `specOp` is made of (defined in
`Lemmas/PArrayView.lean`), spelled out -/

theorem absPA_def (pa : PA) : absPA pa = ⟨defaultParticle pa, particles pa⟩ := rfl

theorem poolEquiv_def (A B : List RA) :
    poolEquiv A B ↔ List.Forall₂ (fun a b => a.dflt = b.dflt ∧ a.recs.Perm b.recs) A B := Iff.rfl

/-- `remove_particles(idx)`: the records whose slot is not listed, in order -/
theorem specRemove_def (idx : List Nat) (a : RA) :
    specRemove idx a = ⟨a.dflt, gather
      ((List.range a.recs.length).filter (fun i => !idx.contains i)) a.recs⟩ := rfl

theorem specRemoveTagged_def (t : Int) (a : RA) :
    specRemoveTagged t a =
      { a with recs := a.recs.filter (fun r => !(lookupD r "tag" [] == [t])) } := rfl

theorem specExtend_def (k : Nat) (a : RA) :
    specExtend k a = { a with recs := a.recs ++ List.replicate k a.dflt } := rfl

/-- `align_particles`: Local records first -/
theorem specAlign_def (a : RA) :
    specAlign a = ⟨a.dflt, a.recs.filter (fun r => lookupD r "tag" [] == [localTag]) ++
      a.recs.filter (fun r => !(lookupD r "tag" [] == [localTag]))⟩ := rfl

theorem specExtractInto_def (names : List String) (idx : List Nat) (src dst : RA) :
    specExtractInto names idx src dst = ⟨dst.dflt, dst.recs ++
      idx.map (fun i => copyFields names (src.recs.getD i []) dst.dflt)⟩ := rfl

theorem specAddParticles_def (given : List (String × List Int)) (a : RA) :
    specAddParticles given a = { a with recs := a.recs ++ specNewRecs a.dflt given } := rfl

theorem specRemoveProperty_def (nm : String) (a : RA) :
    specRemoveProperty nm a =
      ⟨a.dflt.filter (fun f => !(f.1 == nm)), a.recs.map (fun r => r.filter (fun f => !(f.1 == nm)))⟩ :=
  rfl

/-- **the record-list model**: one operation on a pool of record lists -/
def specOp (A : List RA) : Op → List RA
  | .addParticles s _ given => modifySlot A s (specAddParticles given)
  | .removeParticles s idx _ => modifySlot A s (specRemove idx)
  | .removeTagged s t _ => modifySlot A s (specRemoveTagged t)
  | .extend s k => modifySlot A s (specExtend k)
  | .resize s m => modifySlot A s (specResize m)
  | .align s => modifySlot A s specAlign
  | .setTag s t idx => modifySlot A s (specSetTag t idx)
  | .addProperty s nm _ df da sd => modifySlot A s (specAddProperty nm df da sd)
  | .removeProperty s nm => modifySlot A s (specRemoveProperty nm)
  | .addConstant _ _ _ => A
  | .setProp s nm d => modifySlot A s (specSetProp nm d)
  | .setOutputs _ _ => A
  | .addOutputs _ _ => A
  | .emptyClone s ps =>
    match A[s]? with
    | some a => A ++ [specEmptyClone ps a]
    | none => A
  | .extract s idx _ ps =>
    match A[s]? with
    | some a => A ++ [specExtractInto (specNames ps a) idx a (specEmptyClone ps a)]
    | none => A
  | .extractInto s d idx _ ps =>
    match A[s]?, A[d]? with
    | some a, some b => A.set d (specExtractInto (specNames ps a) idx a b)
    | _, _ => A
  | .append s src _ _ =>
    match A[s]?, A[src]? with
    | some a, some b => A.set s (specAppend a b)
    | _, _ => A
  | .ensure s src ps =>
    match A[s]?, A[src]? with
    | some a, some b => A.set s (specEnsure ps a b)
    | _, _ => A
  | .pickle s =>
    match A[s]? with
    | some a => A ++ [a]
    | none => A
  | .new _ => A ++ [⟨baseDflt, []⟩]

/-- "valid arguments" beyond `validOp`, as the harness generates them: index
lists are duplicate-free and in range; `extract_particles` / `empty_clone` /
`ensure_properties` name properties the source array has; `add_property` with
data on a non-empty array brings one row per particle (and the property's own
stride if it exists); the array can be un-pickled.  Outside these the Python code
raises and nothing changes, except for index lists with duplicates or entries out of
range, which cyarray does not check: there the call goes through and the refinement
theorem says nothing about it. -/
def goodOp (st : State) : Op → Bool
  | .removeParticles s idx _ =>
    match st[s]? with
    | some pa => decide idx.Nodup && idx.all (fun i => decide (i < pa.n))
    | none => true
  | .extractInto s d idx _ ps =>
    match st[s]?, st[d]? with
    | some pa, some dd => idx.all (fun i => decide (i < pa.n)) &&
        (cloneNames pa ps).all (fun nm => pa.hasProp nm && dd.hasProp nm)
    | _, _ => true
  | .extract s idx _ ps =>
    match st[s]? with
    | some pa => idx.all (fun i => decide (i < pa.n)) && (cloneNames pa ps).all pa.hasProp
    | none => true
  | .emptyClone s ps =>
    match st[s]? with
    | some pa => (cloneNames pa ps).all pa.hasProp
    | none => true
  | .ensure _ src ps =>
    match st[src]? with
    | some sp => (ensureNames sp ps).all sp.hasProp
    | none => true
  | .addProperty s name _ _ data stride =>
    match st[s]?, data with
    | some pa, some d =>
      d.length == 0 || pa.n == 0 ||
        (if pa.hasProp name then stride == pa.strideOf name else d.length == pa.n * stride)
    | _, _ => true
  | .pickle s =>
    -- un-pickling raises when a constant and a property share a name (`clashOps`)
    match st[s]? with
    | some pa => pa.pickle.isSome
    | none => true
  | _ => true

/-- **Headline (refinement).** Every valid operation on a pool of coherent
arrays refines the record-list model: the record-list view of the new pool is,
slot by slot, `specOp` of the view of the old pool — the same default records
and the same records up to a permutation. -/
theorem refines_record_list (st : State) (op : Op) (hinv : ∀ pa ∈ st, Inv pa)
    (hv : validOp st op = true) (hg : goodOp st op = true) :
    poolEquiv (absState (applyOp st op)) (specOp (absState st) op) := by
  unfold applyOp
  rw [if_neg (by simp [hv])]
  have hm : ∀ {s : Nat} {pa : PA}, st[s]? = some pa → Inv pa :=
    fun hs => hinv _ (List.mem_of_getElem? hs)
  cases op with
  | addParticles s al given =>
    refine refines_slot s _ _ (fun pa hs => ?_)
    obtain ⟨hln, hvv⟩ := validOp_addParticles hv hs
    obtain ⟨pa', hr⟩ := addParticles_isSome pa al given hln
    rw [hr]
    exact refines_set (addParticles_refines (hm hs) al given hvv hln hr)
  | removeParticles s idx al =>
    refine refines_slot s _ _ (fun pa hs => ?_)
    simp only [goodOp, hs, Bool.and_eq_true, decide_eq_true_eq, List.all_eq_true] at hg
    obtain ⟨pa', hr⟩ := removeParticles_isSome pa idx al hg.1 hg.2
    rw [hr]
    exact refines_set (removeParticles_refines (hm hs) idx al hg.1 hg.2 hr)
  | removeTagged s t al =>
    refine refines_slot s _ _ (fun pa hs => ?_)
    obtain ⟨pa', hr⟩ := removeTagged_isSome (hm hs) t al
    rw [hr]
    exact refines_set (removeTagged_refines (hm hs) t al hr)
  | extend s k =>
    exact refines_slot s _ _ (fun pa hs => refines_set (RA.equiv_of_eq (extend_refines (hm hs) k)))
  | resize s m =>
    exact refines_slot s _ _ (fun pa hs => refines_set (RA.equiv_of_eq (resize_refines (hm hs) m)))
  | align s => exact refines_slot s _ _ (fun pa hs => refines_set (align_refines (hm hs)))
  | setTag s t idx =>
    exact refines_slot s _ _ (fun pa hs =>
      refines_set (RA.equiv_of_eq (setTag_refines (hm hs) t idx)))
  | addProperty s nm ct df da sd =>
    exact refines_slot s _ _ (fun pa hs => refines_addProperty hs (hm hs) nm ct df da sd hv
      (fun d hd => by subst hd; simpa [goodOp, hs] using hg))
  | removeProperty s nm =>
    exact refines_slot s _ _ (fun pa hs => refines_set
      (RA.equiv_of_eq (removeProperty_refines (hm hs) nm (validOp_removeProperty hv))))
  | addConstant s nm d =>
    exact refines_slot_same s _ (fun pa pa' hr => by
      rw [addConstant_some hr]; exact absPA_congr_fields rfl rfl rfl)
  | setProp s nm d =>
    refine refines_slot s _ _ (fun pa hs => ?_)
    obtain ⟨hsome, hnone⟩ := setProp_refines (hm hs) nm d
    cases hr : pa.setProp nm d with
    | some pa' => exact refines_set (RA.equiv_of_eq (hsome pa' hr))
    | none =>
      -- the call raised and the model changes nothing: as if the array were written back
      have := refines_set (st := st) (k := s) (RA.equiv_of_eq (hnone hr).symm)
      rwa [absState_set_same pa hs rfl] at this
  | setOutputs s ps =>
    exact refines_slot_same s _ (fun pa pa' hr => by
      rw [setOutputs_some hr]; exact absPA_congr_fields rfl rfl rfl)
  | addOutputs s ps =>
    exact refines_slot_same s _ (fun pa pa' hr => by
      rw [addOutputs_some hr]; exact absPA_congr_fields rfl rfl rfl)
  | emptyClone s ps =>
    refine refines_slot s _ _ (fun pa hs => ?_)
    simp only [goodOp, hs, List.all_eq_true] at hg
    obtain ⟨d, hd, _, _, habs, _⟩ := emptyClone_spec (hm hs) ps
      (fun nm hnm => (hasProp_iff pa nm).mp (hg nm hnm))
    rw [hd]
    exact refines_push (RA.equiv_of_eq habs)
  | extract s idx al ps =>
    refine refines_slot s _ _ (fun pa hs => ?_)
    simp only [goodOp, hs, Bool.and_eq_true, decide_eq_true_eq, List.all_eq_true] at hg
    obtain ⟨pa', hr, heq⟩ := extract_refines (hm hs) idx al ps
      (fun nm hnm => (hasProp_iff pa nm).mp (hg.2 nm hnm)) hg.1
    rw [hr]
    exact refines_push heq
  | extractInto s d idx al ps =>
    refine refines_slot₂ s d _ _ (fun pa dd hs hd => ?_)
    simp only [goodOp, hs, hd, Bool.and_eq_true, decide_eq_true_eq, List.all_eq_true] at hg
    obtain ⟨pa', hr⟩ := extractInto_isSome pa dd idx al ps hg.2
    rw [hr]
    exact refines_set
      (extractInto_refines (hm hs) (hm hd) idx al ps (validOp_extractInto hv hs hd) hg.1 hr)
  | append s src al up =>
    refine refines_slot₂ s src _ _ (fun pa sp hs hd => ?_)
    simp only [validOp, hs, hd, Bool.and_eq_true] at hv
    obtain ⟨pa', hr, heq⟩ := append_refines (hm hs) (hm hd) al up
      (fun nm hnm _ => (sameStrides_iff pa sp _).mp hv.1.2 nm hnm)
    rw [hr]
    exact refines_set heq
  | ensure s src ps =>
    refine refines_slot₂ s src _ _ (fun pa sp hs hd => ?_)
    simp only [goodOp, hd, List.all_eq_true] at hg
    obtain ⟨pa', hr, heq⟩ := ensure_refines (hm hs) (hm hd) ps
      (fun nm hnm => (hasProp_iff sp nm).mp (hg nm hnm))
    rw [hr]
    exact refines_set (RA.equiv_of_eq heq)
  | pickle s =>
    refine refines_slot s _ _ (fun pa hs => ?_)
    cases hp : pa.pickle with
    | none => simp [goodOp, hs, hp] at hg
    | some pa' => exact refines_push (RA.equiv_of_eq (pickle_abs (hm hs) hp))
  | new nm => exact refines_push (RA.equiv_of_eq (new_abs nm))

/-- **along every history**: at every step of every history from the empty pool,
the real operation refines the record-list model applied to the view of the
state it starts from (coherence of that state is `inv_reachable`) -/
theorem refines_record_list_run (ops : List Op) (op : Op)
    (hv : validOp (run ops) op = true) (hg : goodOp (run ops) op = true) :
    poolEquiv (absState (run (ops ++ [op]))) (specOp (absState (run ops)) op) := by
  have : run (ops ++ [op]) = applyOp (run ops) op := by
    unfold run; rw [List.foldl_append]; rfl
  rw [this]
  exact refines_record_list _ _ (inv_reachable ops) hv hg

/-- removing slots 2 and 0 then aligning is valid and good; the model deletes
records 0 and 2 in place, the real array holds the same two records -/
example : validOp (run (demoOps.take 5)) (.removeParticles 0 [2, 0] true) = true ∧
    goodOp (run (demoOps.take 5)) (.removeParticles 0 [2, 0] true) = true := by decide +kernel
example : (specOp (absState (run (demoOps.take 5))) (.removeParticles 0 [2, 0] true)).map RA.recs =
    [[[("tag", [0]), ("pid", [0]), ("gid", [4294967295]), ("x", [13]), ("v", [10, 11, 12])],
      [("tag", [2]), ("pid", [0]), ("gid", [4294967295]), ("x", [10]), ("v", [1, 2, 3])]]] := by
  decide +kernel
example : (absState (run (demoOps.take 5 ++ [.removeParticles 0 [2, 0] true]))).map RA.recs =
    [[[("tag", [0]), ("pid", [0]), ("gid", [4294967295]), ("x", [13]), ("v", [10, 11, 12])],
      [("tag", [2]), ("pid", [0]), ("gid", [4294967295]), ("x", [10]), ("v", [1, 2, 3])]]] := by
  decide +kernel
/-- the model's `add_particles` on the view of the demo array -/
example : ((specOp (absState (run (demoOps.take 5)))
      (.addParticles 0 false [("tag", [1, 0]), ("v", [21, 22, 23, 24, 25, 26])])).map
      (fun a => a.recs.drop 4)) =
    [[[("tag", [1]), ("pid", [0]), ("gid", [4294967295]), ("x", [0]), ("v", [21, 22, 23])],
      [("tag", [0]), ("pid", [0]), ("gid", [4294967295]), ("x", [0]), ("v", [24, 25, 26])]]] := by
  decide +kernel

/-- the model's `append_parray`, `extract_particles` and `add_property` with data
on the view of the demo pool, next to the view of what the real operations leave -/
def demoOps2 : List Op :=
  demoOps.take 5 ++ [.new "b", .addProperty 1 "q" "double" (some 3) none 1,
    .addParticles 1 true [("q", [8, 9])]]

example : (demoOps2.foldl (fun (p : State × Bool) op => (applyOp p.1 op, p.2 && validOp p.1 op))
    ([], true)).2 = true := by decide +kernel
example : validOp (run demoOps2) (.append 0 1 false false) = true ∧
    goodOp (run demoOps2) (.append 0 1 false false) = true ∧
    absState (applyOp (run demoOps2) (.append 0 1 false false)) =
      specOp (absState (run demoOps2)) (.append 0 1 false false) := by decide +kernel
example : ((specOp (absState (run demoOps2)) (.append 0 1 false false))[0]?).map
      (fun a => (a.dflt, a.recs.drop 3)) =
    some ([("tag", [0]), ("pid", [0]), ("gid", [4294967295]), ("x", [0]), ("v", [7, 7, 7]), ("q", [3])],
      [[("tag", [2]), ("pid", [0]), ("gid", [4294967295]), ("x", [10]), ("v", [1, 2, 3]), ("q", [3])],
       [("tag", [0]), ("pid", [0]), ("gid", [4294967295]), ("x", [0]), ("v", [7, 7, 7]), ("q", [8])],
       [("tag", [0]), ("pid", [0]), ("gid", [4294967295]), ("x", [0]), ("v", [7, 7, 7]), ("q", [9])]]) := by
  decide +kernel
example : validOp (run demoOps2) (.extract 0 [3, 1] false (some ["v", "tag"])) = true ∧
    goodOp (run demoOps2) (.extract 0 [3, 1] false (some ["v", "tag"])) = true ∧
    absState (applyOp (run demoOps2) (.extract 0 [3, 1] false (some ["v", "tag"]))) =
      specOp (absState (run demoOps2)) (.extract 0 [3, 1] false (some ["v", "tag"])) := by decide +kernel
example : validOp (run demoOps2) (.addProperty 0 "v" "double" none
      (some [1, 1, 1, 2, 2, 2, 3, 3, 3, 4, 4, 4]) 3) = true ∧
    goodOp (run demoOps2) (.addProperty 0 "v" "double" none
      (some [1, 1, 1, 2, 2, 2, 3, 3, 3, 4, 4, 4]) 3) = true ∧
    absState (applyOp (run demoOps2) (.addProperty 0 "v" "double" none
      (some [1, 1, 1, 2, 2, 2, 3, 3, 3, 4, 4, 4]) 3)) =
      specOp (absState (run demoOps2)) (.addProperty 0 "v" "double" none
        (some [1, 1, 1, 2, 2, 2, 3, 3, 3, 4, 4, 4]) 3) := by decide +kernel

end PysphVerif.C06
