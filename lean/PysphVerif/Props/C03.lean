import PysphVerif.Lemmas.Schedule
/-!
# C03 — groups run in the documented order, over the documented particles

The theorems are about `Model/Schedule.lean`:

* `implTrace` transcribes `MegaGroup._make_data`, the mako template (`do_group`, the body of
  `compute`) and the helper's index-range / iteration / condition code;
* `specTrace` is the documented order, sentence by sentence.

`implTrace` is tied to the real pipeline (AccelerationEval → SPHCompiler → generated Cython →
compiled module) on every run by tracer equations (harness/c03.py).

The statements hold for every program (any number of groups, sub-groups, destinations, sources,
equations with any subset of hooks; the two refinement theorems ask for `Program.WF` and enough
fuel, and the examples at the end show that they fail without), every oracle — condition and
convergence outcomes, array sizes, named start/stop values and neighbour lists may depend
arbitrarily on the history of calls made so far — and every starting history.
-/
namespace PysphVerif.C03
open PysphVerif.Schedule

/-- The regrouping by destination, then by source, is a family of plain `filter`s of the user's
equation list (so user order is kept everywhere), destinations and sources appear in order of
first appearance. -/
theorem megagroup_preserves_order (eqs : List Equation) (hnd : eqs.Nodup)
    (hs : ∀ e ∈ eqs, e.sources.Nodup) :
    (makeData eqs).map (·.1) = firstAppearance (eqs.map (·.dest)) ∧
    ∀ d, (makeDest eqs d).all = eqs.filter (fun e => e.dest == d) ∧
      (makeDest eqs d).noSrc = eqs.filter (fun e => e.dest == d && e.noSource) ∧
      (makeDest eqs d).sources =
        (firstAppearance ((eqs.filter (fun e => e.dest == d)).flatMap (·.sources))).map
          (fun s => (s, eqs.filter (fun e => e.dest == d && e.sources.contains s))) := by
  refine ⟨?_, fun d => ?_⟩
  · rw [makeData_eq eqs hnd hs, List.map_map]
    simp [Function.comp_def]
  · rw [makeDest_eq eqs d hnd hs]
    simp only [specData, srcDict, dictOf, List.filter_filter]
    refine ⟨trivial, ?_, ?_⟩
    · apply List.filter_congr; intro e _; exact Bool.and_comm _ _
    · apply List.map_congr_left; intro s _
      congr 1
      apply List.filter_congr; intro e _; exact Bool.and_comm _ _

/-- Without any hypothesis: the list of all equations of a destination and the list of its
source-free equations are sub-lists (same relative order) of what the user wrote.  (A per-source
list is not when an equation names that source twice: `sources[src].append(equation)` then files it
twice.) -/
theorem megagroup_sublists (eqs : List Equation) (d : Nat) :
    (makeDest eqs d).all.Sublist eqs ∧ (makeDest eqs d).noSrc.Sublist eqs :=
  foldl_prefix_inv (destDataStep d) (fun dd done => dd.all.Sublist done ∧ dd.noSrc.Sublist done)
    eqs _ ⟨.refl _, .refl _⟩ fun dd _ e _ _ h =>
      ⟨(destDataStep_sublist d dd e).1.trans (h.1.append (.refl _)),
        (destDataStep_sublist d dd e).2.trans (h.2.append (.refl _))⟩

/-- The calls the generated `compute` adds to any starting history (a second `compute`, a later
stage, …) are exactly the documented ones, in the documented order.
(`Program.WF`: no equation object twice in a group, no source named twice in one equation,
`1 ≤ max_iterations`, `min_iterations ≤ max_iterations` for iterated groups, a top-level group
without equations has no callables — see the theorems below for what happens otherwise.) -/
theorem implRun_eq_specRun_from (O : Oracle) (P : Program) (hwf : P.WF) (fuel : Nat)
    (hfuel : ∀ g ∈ specGroups P, g.maxIter ≤ fuel) (h : Hist) :
    implRun O fuel P h = specRun O P h := by
  have key : forEach (specGroups P).zipIdx (doTop O fuel) h = specRun O P h :=
    forEach_congr (fun tg htg h => doTop_eq O fuel tg
      (hwf tg.1 (List.fst_mem_of_mem_zipIdx htg)) (hfuel tg.1 (List.fst_mem_of_mem_zipIdx htg)) h) h
  -- `group_equations` and the documented grouping differ on the empty list of groups only
  rcases P with eqs | _ | ⟨g, gs⟩
  · exact key
  · rfl
  · exact key

/-- Property C03 for one evaluation: started from the empty history, the generated `compute` makes
exactly the documented calls, in the documented order. -/
theorem implTrace_eq_specTrace (O : Oracle) (P : Program) (hwf : P.WF) (fuel : Nat)
    (hfuel : ∀ g ∈ specGroups P, g.maxIter ≤ fuel) :
    implTrace O fuel P = specTrace O P := by
  unfold implTrace specTrace
  rw [implRun_eq_specRun_from O P hwf fuel hfuel]

/-- `N` is `stop_idx` if given (number or named), else the number of real particles, or of all
particles when `real=False`. -/
theorem np_dest (O : Oracle) (h : Hist) (a : Attrs) (d : Nat) :
    npDest O h a d =
      match a.stop with
      | some (.num n) => n
      | some (.named k) => O.named h d k
      | none => if a.real then O.size h d true else O.size h d false := by
  unfold npDest
  cases a.stop with
  | none => cases a.real <;> rfl
  | some s => cases s <;> rfl

/-- Destination indices are exactly `range(start_idx, N)`. -/
theorem dest_range (O : Oracle) (h : Hist) (a : Attrs) (d i : Nat) :
    i ∈ destRange O h a d ↔ startIdx O h a d ≤ i ∧ i < npDest O h a d := by
  unfold destRange
  rw [List.mem_range'_1]
  omega

/-- An explicit `stop_idx` is taken as given: the `real` flag plays no part, so a stop beyond the
number of real particles selects ghost/remote destinations also in a `real=True` group (no clamp to
`size(real)`). -/
theorem explicit_stop_ignores_real (O : Oracle) (h : Hist) (a : Attrs) (d : Nat) (r : Bool)
    (hs : a.stop.isSome = true) :
    destRange O h { a with real := r } d = destRange O h a d := by
  unfold destRange npDest startIdx
  cases hst : a.stop with
  | none => simp [hst] at hs
  | some s => cases s <;> rfl

/-- The destination indices come in increasing order, each once. -/
theorem dest_range_sorted (O : Oracle) (h : Hist) (a : Attrs) (d : Nat) :
    (destRange O h a d).Pairwise (· < ·) := by
  unfold destRange
  exact List.pairwise_lt_range'


/-- At the level of calls: every per-particle call made while a destination is processed
(initialize, initialize_pair, loop_all, loop, post_loop, source-free loop) is for that destination
array and for an index in `range(start_idx, N)` — never a particle before `start_idx`, never one at
or beyond `N` (so never a ghost when `real=True` and no `stop_idx` is given). -/
theorem dest_indices_in_range (O : Oracle) (a : Attrs) (ddd : Nat × DestData) (h : Hist) :
    ∃ new, doDest O a ddd h = new ++ h ∧
      ∀ e ∈ new, ∀ d i, e.particle? = some (d, i) →
        d = ddd.1 ∧ startIdx O h a ddd.1 ≤ i ∧ i < npDest O h a ddd.1 := by
  obtain ⟨new, e1, p1⟩ := ext_doDest O a ddd h
  refine ⟨new, e1, fun e he d i hp => ?_⟩
  obtain ⟨hd, hi⟩ := (p1 e he).2 d i hp
  exact ⟨hd, (dest_range O h a ddd.1 i).mp hi⟩

/-- An iterated group runs `n` passes with `max 1 min ≤ n ≤ max`; `converged()` is consulted (for
all equations) exactly after the passes numbered `≥ min`; `n` is the FIRST pass after which the
stopping test `count ≥ min ∧ (all converged ∨ count = max)` holds. -/
theorem iteration_bounds (O : Oracle) (gid : GId) (a : Attrs) (convEqs : List Equation)
    (body : Hist → Hist) (fuel : Nat) (h : Hist)
    (hmax : 1 ≤ a.maxIter) (hmin : a.minIter ≤ a.maxIter) (hfuel : a.maxIter ≤ fuel) :
    ∃ n, 1 ≤ n ∧ a.minIter ≤ n ∧ n ≤ a.maxIter ∧
      implIter O gid a convEqs body fuel 1 h = passes O a convEqs body n 1 h ∧
      stopsAfter O a convEqs body n (passes O a convEqs body (n - 1) 1 h) = true ∧
      ∀ k, 1 ≤ k → k < n →
        stopsAfter O a convEqs body k (passes O a convEqs body (k - 1) 1 h) = false := by
  obtain ⟨n, hn, hbefore, hstop, heq, _⟩ :=
    implIter_passes O gid a convEqs body (a.maxIter - 1) fuel 1 h (Nat.add_sub_cancel' hmax) hmin
      (Nat.sub_add_cancel hmax ▸ hfuel)
  rw [Nat.add_comm 1 n] at hstop
  refine ⟨n + 1, Nat.succ_pos n, ((stopsAfter_iff O a convEqs body _ _).mp hstop).1,
    Nat.add_le_of_le_sub hmax hn, heq, hstop, fun k hk1 hkn => ?_⟩
  have := hbefore (k - 1) (Nat.sub_lt_right_of_lt_add hk1 hkn)
  rwa [Nat.add_sub_cancel' hk1] at this

/-- The point the hypothesis of `iteration_bounds` excludes: with `min_iterations >
max_iterations` (or `max_iterations = 0`) the generated test `count == max` can never fire once
`count ≥ min`, so only convergence ends the loop — if the equations never all converge the
loop runs for ever (any amount of fuel is exhausted). -/
theorem iteration_unbounded_when_min_gt_max (O : Oracle) (gid : GId) (a : Attrs)
    (convEqs : List Equation) (body : Hist → Hist)
    (hbad : a.maxIter < a.minIter ∨ a.maxIter = 0)
    (hnever : ∀ h, (queryConv O convEqs h).2 = false) (fuel : Nat) (h : Hist) :
    ∃ rest, implIter O gid a convEqs body fuel 1 h = Event.diverged gid :: rest := by
  refine ⟨_, implIter_diverged O gid a convEqs body fuel 1 h (fun count h hc => ?_)⟩
  rw [← Bool.not_eq_true, stopsAfter_iff, hnever]
  rintro ⟨hmin, hconv | hmax⟩
  · cases hconv
  · omega

/-- A top-level group (with at least one equation or sub-group) whose condition returns False
makes no call at all: no pre/post, no equation method, no NNPS refresh, no converged(). -/
theorem skipped_when_condition_false (O : Oracle) (fuel : Nat) (g : Top) (gi : Nat) (h : Hist)
    (hc : (match g with | .leaf l => l.attrs.hasCond | .parent a _ => a.hasCond) = true)
    (hne : ∀ l, g = .leaf l → l.eqs ≠ [])
    (hf : O.cond h ⟨gi, none⟩ = false) :
    doTop O fuel (g, gi) h = Event.cond ⟨gi, none⟩ false :: h := by
  cases g with
  | leaf l =>
    have : l.eqs.isEmpty = false := by simpa using hne l rfl
    simp only at hc
    simp [doTop, isEmpty_makeData, this, wrapCond, hc, hf]
  | parent a subs =>
    simp only at hc
    simp [doTop, wrapCond, hc, hf]

/-- The same for a sub-group inside its parent. -/
theorem sub_group_skipped_when_condition_false (O : Oracle) (gi k : Nat) (l : Leaf) (h : Hist)
    (hc : l.attrs.hasCond = true) (hf : O.cond h ⟨gi, some k⟩ = false) :
    doSub O gi (l, k) h = Event.cond ⟨gi, some k⟩ false :: h := by
  simp [doSub, wrapCond, hc, hf]

/-- A condition is asked exactly once per evaluation of the group (outside the iteration),
before anything else of the group. -/
theorem condition_asked_first (O : Oracle) (gid : GId) (a : Attrs) (body : Hist → Hist)
    (h : Hist) (hc : a.hasCond = true) (ht : O.cond h gid = true) :
    wrapCond O gid a body h = body (Event.cond gid true :: h) := by
  simp [wrapCond, hc, ht]

/-- One pass over a group of equations: `pre` (if any) is the first call, `post` (if any) the
last, the NNPS refresh (if requested) comes after every destination and just before `post`, and
in between there are only calls of equation methods — each of pre/post exactly once. -/
theorem pre_post_once_per_pass (O : Oracle) (gid : GId) (a : Attrs) (eqs : List Equation)
    (h : Hist) :
    ∃ mid, (∀ e ∈ mid, e.isHook = true) ∧
      doGroup O gid a (makeData eqs) h =
        (if a.hasPost then [Event.post gid] else []) ++
        (if a.updateNnps then [Event.nnps gid] else []) ++ mid ++
        (if a.hasPre then [Event.pre gid] else []) ++ h :=
  doGroup_shape O gid a (makeData eqs) h

/-- The template never looks at a sub-group's `iterate`, `min_iterations`, `max_iterations`. -/
theorem sub_group_iterate_ignored (O : Oracle) (gi k : Nat) (l : Leaf) (it : Bool) (mn mx : Nat) :
    doSub O gi ({ l with attrs := { l.attrs with iterate := it, minIter := mn, maxIter := mx } }, k)
      = doSub O gi (l, k) := by
  rfl

/-- `Group(name=…)` is a label for the profiling output only.  Two programs that differ only in
the names of their groups — none, unique ones, or the SAME name on several top-level groups and/or
sub-groups — make exactly the same calls, generated code and documented order alike: every
`condition` / `pre` / `post` in a trace carries the position (`GId`: `self.groups[i]`,
`self.groups[i].data[k]`) of the group that owns it, and that position is all the model ever
looks at. -/
theorem group_name_irrelevant (O : Oracle) (fuel : Nat) (P Q : Program)
    (hPQ : P.eraseNames = Q.eraseNames) :
    implTrace O fuel P = implTrace O fuel Q ∧ specTrace O P = specTrace O Q := by
  unfold implTrace specTrace
  rw [← implRun_eraseNames O fuel P, ← implRun_eraseNames O fuel Q,
      ← specRun_eraseNames O P, ← specRun_eraseNames O Q, hPQ]
  exact ⟨rfl, rfl⟩

/-- the same from any starting history, in the form "names can be dropped" -/
theorem group_names_can_be_erased (O : Oracle) (fuel : Nat) (P : Program) (h : Hist) :
    implRun O fuel P.eraseNames h = implRun O fuel P h ∧
    specRun O P.eraseNames h = specRun O P h :=
  ⟨implRun_eraseNames O fuel P h, specRun_eraseNames O P h⟩

/-- names play no part in well-formedness either -/
theorem eraseNames_wf (P : Program) : P.eraseNames.WF ↔ P.WF := by
  cases P with
  | flat eqs => exact Iff.rfl
  | groups gs =>
    have key : ∀ g : Top, g.eraseNames.WF ↔ g.WF := by
      intro g
      cases g with
      | leaf l => exact Iff.rfl
      | parent a subs => exact and_congr Iff.rfl List.forall_mem_map
    exact List.forall_mem_map.trans (forall_congr' fun g => imp_congr Iff.rfl (key g))

/-- A top-level group without equations is skipped entirely, callables included
(`% if len(group.data) > 0`) — the point excluded by `Program.WF`. -/
theorem empty_top_group_is_skipped (O : Oracle) (fuel gi : Nat) (a : Attrs) (h : Hist) :
    doTop O fuel (.leaf ⟨a, []⟩, gi) h = h := by
  simp [doTop, isEmpty_makeData]

/-- For one destination particle and one source: `loop_all` of every equation that has it (user
order) with the neighbour list, then for every neighbour the NNPS returned — in that order, none
filtered out, ghosts or not — `loop` of every equation that has it (user order). -/
theorem src_particle_calls (O : Oracle) (d s : Nat) (g : List Equation) (i : Nat) (h : Hist) :
    srcParticle O d s g i h =
      ((g.filter (·.has .loopAll)).map (fun e => Event.loopAll e.id d s i (O.nbrs h d s i)) ++
       (O.nbrs h d s i).flatMap (fun j =>
          (g.filter (·.has .loop)).map (fun e => Event.loop e.id d s i j))).reverse ++ h := by
  rw [srcParticle_eq]
  unfold specSrcParticle
  simp only
  rw [forEach_emit (fun j => (g.filter (·.has .loop)).map (fun e => Event.loop e.id d s i j)) _
      (fun j h => specCalls_eq g .loop _ h), specCalls_eq]
  simp


/-! ## Non-vacuity: concrete programs (hypotheses and traces evaluated; tests, not the claim) -/

/-- a non-trivial program (iterated group with two destinations, a source-free equation, an
NNPS refresh; a conditional group with two sub-groups) meets `Program.WF` -/
example : Example.prog.WF := by decide +kernel

/-- …and on it, with a history-dependent oracle, both sides are the same 87 calls -/
example : implTrace Example.oracle 5 Example.prog = specTrace Example.oracle Example.prog ∧
    (implTrace Example.oracle 5 Example.prog).length = 87 :=
  ⟨implTrace_eq_specTrace _ _ (by decide +kernel) 5 (by decide +kernel), by decide +kernel⟩

/-- groups that share a name keep their own callbacks: in `Example.sameNames` two top-level groups
are both called `density` and two sub-groups both `correct`; with the first `density` condition
False and the second True (first `correct` True, second False) the first group is skipped, the
second runs between ITS pre and post, sub-group 2.0 runs, 2.1 is skipped -/
example : implTrace Example.posOracle 1 Example.sameNames =
    [.cond ⟨0, none⟩ false,
     .cond ⟨1, none⟩ true, .pre ⟨1, none⟩, .init 2 0 0, .post ⟨1, none⟩,
     .pre ⟨2, none⟩,
     .cond ⟨2, some 0⟩ true, .pre ⟨2, some 0⟩, .init 3 0 0, .post ⟨2, some 0⟩,
     .cond ⟨2, some 1⟩ false,
     .post ⟨2, none⟩,
     .cond ⟨3, some 0⟩ true, .init 5 0 0, .post ⟨3, some 0⟩] ∧
    specTrace Example.posOracle Example.sameNames
      = implTrace Example.posOracle 1 Example.sameNames ∧
    Example.sameNames.WF ∧ Example.sameNames.eraseNames ≠ Example.sameNames := by
  have hwf : Example.sameNames.WF := by decide +kernel
  exact ⟨by decide +kernel, (implTrace_eq_specTrace _ _ hwf 1 (by decide +kernel)).symm, hwf,
    by decide +kernel⟩

/-- `Program.WF` cannot be dropped: a top-level group without equations but with `pre` -/
example : implTrace Example.oracle 1 Example.emptyWithPre
    ≠ specTrace Example.oracle Example.emptyWithPre := by decide

/-- `Program.WF` cannot be dropped: with `min_iterations = 3 > max_iterations = 2` and an equation
that does not converge the generated loop is still running when the fuel (9 passes) is used up;
the documented repetition makes 2 passes -/
example : implTrace Example.oracle 9 Example.minGtMax
    ≠ specTrace Example.oracle Example.minGtMax := by decide +kernel

/-- explicit stop beyond the real count: array 0 of the example oracle has 2 real particles and 3
in all; a default (`real=True`) group with `stop_idx=3` (numeric) works on 0, 1 and the ghost 2, with
`start_idx=1` on 1 and 2; without `stop_idx` on the real ones only -/
example : destRange Example.oracle [] { stop := some (.num 3) } 0 = [0, 1, 2] ∧
    destRange Example.oracle [] { start := .num 1, stop := some (.num 3) } 0 = [1, 2] ∧
    destRange Example.oracle [] { stop := some (.num 3), real := false } 0 = [0, 1, 2] ∧
    destRange Example.oracle [] {} 0 = [0, 1] := by decide

/-- hypotheses of `iteration_bounds` are satisfiable: the attributes of the iterated group of
`Example.prog`, which makes `max = 3` passes in the 87 calls above -/
example : (1 : Nat) ≤ ({ iterate := true, minIter := 2, maxIter := 3 } : Attrs).maxIter ∧
    ({ iterate := true, minIter := 2, maxIter := 3 } : Attrs).minIter ≤ 3 := by decide

end PysphVerif.C03
