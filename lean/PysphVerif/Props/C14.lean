import PysphVerif.Lemmas.Interp
/-!
# C14 — interpolation of particle data obeys its defining formulas

The theorems are about `Model/Interp.lean`, which transcribes the interpolation equations of
`pysph/tools/interpolator.py` as left folds over the neighbour list a
destination point sees, and the `Interpolator`/`SPHEvaluator` bindings as a state
machine; the model is tied to the compiled code by bit-exact differential
execution (`harness/c14.py`).

All numeric statements hold over every linearly ordered field `α`, every
neighbour list (any length, any order, any number of source arrays
concatenated), arbitrary kernel values `w` (the kernel is a parameter: sign
hypotheses are stated where they are needed), arbitrary masses/densities, and
the threshold `tol` (`1e-12` in the code).  `sumOver g nbrs` is `Σ_j g j`.
-/
set_option linter.unusedSectionVars false
namespace PysphVerif.C14
open PysphVerif.Interp

section
open scoped PysphVerif.OrderChain
variable {α : Type} [Field α] [LinearOrder α] [IsStrictOrderedRing α]

/-- 'shepard' returns `Σ w f / Σ w` when `Σ w` exceeds the threshold and the
un-normalised `Σ w f` otherwise. -/
theorem shepard_is_weighted_mean (tol : α) (nbrs : List (Nbr α)) :
    shepard tol nbrs =
      if tol < sumOver (fun nb => nb.w) nbrs then
        sumOver (fun nb => nb.w * nb.f) nbrs / sumOver (fun nb => nb.w) nbrs
      else sumOver (fun nb => nb.w * nb.f) nbrs :=
  congrArg (normPost tol) (shepard_fold nbrs)

/-- With non-negative kernel values the Shepard value lies between the smallest
and the largest of the CONTRIBUTING source values (those with `w > 0`). -/
theorem weighted_mean_bounds (tol lo hi : α) (nbrs : List (Nbr α)) (htol : 0 ≤ tol)
    (hw : ∀ nb ∈ nbrs, 0 ≤ nb.w)
    (hden : tol < sumOver (fun nb => nb.w) nbrs)
    (hf : ∀ nb ∈ nbrs, 0 < nb.w → lo ≤ nb.f ∧ nb.f ≤ hi) :
    lo ≤ shepard tol nbrs ∧ shepard tol nbrs ≤ hi := by
  rw [shepard_is_weighted_mean, if_pos hden]
  exact weighted_mean_between (fun nb => nb.w) (fun nb => nb.f) nbrs lo hi hw hf
    (lt_of_le_of_lt htol hden)

/-- A field that is constant on the contributing sources is reproduced exactly
(no sign condition on the kernel). -/
theorem shepard_constant (tol c : α) (nbrs : List (Nbr α)) (htol : 0 ≤ tol)
    (hden : tol < sumOver (fun nb => nb.w) nbrs)
    (hf : ∀ nb ∈ nbrs, nb.w ≠ 0 → nb.f = c) :
    shepard tol nbrs = c := by
  rw [shepard_is_weighted_mean, if_pos hden,
    weighted_sum_const (fun nb => nb.w) (fun nb => nb.f) nbrs c hf]
  exact mul_div_cancel_right₀ c (ne_of_gt (lt_of_le_of_lt htol hden))

/-- Below the threshold the (un-normalised) Shepard value is at most
`tol · max|f|`: "zero" to the code's own accuracy. -/
theorem shepard_small_below_threshold (tol F : α) (nbrs : List (Nbr α))
    (hw : ∀ nb ∈ nbrs, 0 ≤ nb.w) (hF0 : 0 ≤ F) (hF : ∀ nb ∈ nbrs, |nb.f| ≤ F)
    (hden : ¬ tol < sumOver (fun nb => nb.w) nbrs) :
    |shepard tol nbrs| ≤ tol * F := by
  rw [shepard_is_weighted_mean, if_neg hden]
  -- `−F·Σw ≤ Σ w f ≤ F·Σw` and `Σw ≤ tol`
  have h := weighted_sum_between (fun nb => nb.w) (fun nb => nb.f) nbrs (-F) F hw
    (fun nb hnb _ => abs_le.mp (hF nb hnb))
  have hFW : F * sumOver (fun nb => nb.w) nbrs ≤ tol * F := by
    rw [mul_comm]; exact mul_le_mul_of_nonneg_right (not_lt.mp hden) hF0
  rw [neg_mul] at h
  exact abs_le.mpr ⟨(neg_le_neg hFW).trans h.1, h.2.trans hFW⟩

/-- 'sph': `Σ_j (m_j/ρ_j) W_ij f_j` -/
theorem sph_is_documented_sum (nbrs : List (Nbr α)) :
    sph nbrs = sumOver (fun nb => nb.m / nb.rho * nb.w * nb.f) nbrs :=
  foldl_step_zero sphStep _ (fun _ _ => rfl) nbrs

/-- 'splash': `Σ_j (m_j/ρ_j) W(r_ij, h_i) f_j` (the record's `w` is `WI`) -/
theorem splash_is_documented_sum (nbrs : List (Nbr α)) :
    splash nbrs = sumOver (fun nb => nb.m / nb.rho * nb.w * nb.f) nbrs :=
  foldl_step_zero splashStep _ (fun _ _ => rfl) nbrs

/-- **user-supplied equation reading array constants** (`Interpolator(equations=…)`,
`SPHEvaluator`): the probe equation returns `gain · Σⱼ (mⱼ/rho0ⱼ) Wᵢⱼ fⱼ` with
`rho0ⱼ` the constant of the array neighbour `j` lives in and `gain` the constant
of the destination array; with `gain = 1` and the per-particle density in place
of `rho0` it is the 'sph' sum. -/
theorem sph_const_is_documented_sum (gain : α) (nbrs : List (Nbr α)) :
    sphConst gain nbrs = gain * sumOver (fun nb => nb.m / nb.rho * nb.w * nb.f) nbrs ∧
    sphConst 1 nbrs = sph nbrs := by
  have h : ∀ g : α, sphConst g nbrs = g * sumOver (fun nb => nb.m / nb.rho * nb.w * nb.f) nbrs := by
    intro g
    rw [← sumOver_mul_left]
    exact foldl_step_zero (sphConstStep g) _
      (fun acc nb => by simp only [sphConstStep, mul_div_assoc, mul_assoc]) nbrs
  exact ⟨h gain, by rw [h 1, one_mul, sph_is_documented_sum]⟩

/-- 'splash_norm': `Σ_j V_j W(r_ij,h_j) f_j / Σ_j V_j W(r_ij,h_j)` above the
threshold, the un-normalised sum otherwise -/
theorem splash_norm_is_documented_sum (tol : α) (nbrs : List (Nbr α)) :
    splashNorm tol nbrs =
      if tol < sumOver (fun nb => nb.m / nb.rho * nb.w) nbrs then
        sumOver (fun nb => nb.m / nb.rho * nb.w * nb.f) nbrs /
          sumOver (fun nb => nb.m / nb.rho * nb.w) nbrs
      else sumOver (fun nb => nb.m / nb.rho * nb.w * nb.f) nbrs :=
  congrArg (normPost tol) (splashNorm_fold nbrs)

/-- 'splash_norm' is a weighted mean too: with non-negative weights `V_j W_j` it
stays between the extreme contributing values. -/
theorem splash_norm_bounds (tol lo hi : α) (nbrs : List (Nbr α)) (htol : 0 ≤ tol)
    (hw : ∀ nb ∈ nbrs, 0 ≤ nb.m / nb.rho * nb.w)
    (hden : tol < sumOver (fun nb => nb.m / nb.rho * nb.w) nbrs)
    (hf : ∀ nb ∈ nbrs, 0 < nb.m / nb.rho * nb.w → lo ≤ nb.f ∧ nb.f ≤ hi) :
    lo ≤ splashNorm tol nbrs ∧ splashNorm tol nbrs ≤ hi := by
  rw [splash_norm_is_documented_sum, if_pos hden]
  exact weighted_mean_between (fun nb => nb.m / nb.rho * nb.w) (fun nb => nb.f) nbrs lo hi hw hf
    (lt_of_le_of_lt htol hden)

/-- the density 'order1' first recomputes for every source particle:
`ρ_j = Σ_k m_k W_jk` -/
theorem summation_density_is_sum (nbrs : List (Nbr α)) :
    summationDensity nbrs = sumOver (fun nb => nb.m * nb.w) nbrs :=
  foldl_step_zero rhoStep _ (fun _ _ => rfl) nbrs

theorem results_as_sums (tol : α) (nbrs : List (Nbr α)) :
    shepard tol nbrs = normPost tol ⟨sumOver (fun nb => nb.w * nb.f) nbrs,
      sumOver (fun nb => nb.w) nbrs⟩ ∧
    splashNorm tol nbrs = normPost tol ⟨sumOver (fun nb => nb.m / nb.rho * nb.w * nb.f) nbrs,
      sumOver (fun nb => nb.m / nb.rho * nb.w) nbrs⟩ :=
  ⟨shepard_is_weighted_mean tol nbrs, splash_norm_is_documented_sum tol nbrs⟩

/-- The order in which the neighbour structure hands out the neighbours (and the
order of the source arrays) does not matter. -/
theorem neighbour_order_irrelevant (tol : α) (d : Pos α) {l1 l2 : List (Nbr α)}
    (h : l1.Perm l2) :
    shepard tol l1 = shepard tol l2 ∧ sph l1 = sph l2 ∧ splash l1 = splash l2 ∧
    splashNorm tol l1 = splashNorm tol l2 ∧
    (∀ r c, momentEntry d l1 r c = momentEntry d l2 r c) ∧
    (∀ r, psphEntry l1 r = psphEntry l2 r) := by
  obtain ⟨h1, h2, h3, h4⟩ := scalar_results_of_sums tol fun g _ => sumOver_perm g h
  refine ⟨h1, h2, h3, h4, fun r c => ?_, fun r => ?_⟩
  · rw [momentEntry_eq, momentEntry_eq, sumOver_perm _ h]
  · rw [psphEntry_eq, psphEntry_eq, sumOver_perm _ h]

/-- Sources outside the kernel support (`w = 0`) contribute nothing: visiting
more candidates than necessary, or fewer as long as every source with `w ≠ 0`
is visited, gives the same value. -/
theorem out_of_range_sources_irrelevant (tol : α) (nbrs : List (Nbr α)) :
    let inRange := nbrs.filter (fun nb => decide (nb.w ≠ 0))
    shepard tol inRange = shepard tol nbrs ∧ sph inRange = sph nbrs ∧
    splash inRange = splash nbrs ∧ splashNorm tol inRange = splashNorm tol nbrs :=
  scalar_results_of_sums tol fun g hg =>
    sumOver_filter g _ nbrs fun nb _ hk => hg nb (by simpa using hk)

/-- Where no source is in range (no neighbour at all, or every kernel value
zero) the result is zero — for all four scalar methods. -/
theorem zero_when_no_source_in_range (tol : α) (nbrs : List (Nbr α)) (htol : 0 ≤ tol)
    (hw : ∀ nb ∈ nbrs, nb.w = 0) :
    shepard tol nbrs = 0 ∧ sph nbrs = 0 ∧ splash nbrs = 0 ∧ splashNorm tol nbrs = 0 := by
  -- the values are those on the empty list
  obtain ⟨h1, h2, h3, h4⟩ := scalar_results_of_sums (l1 := nbrs) (l2 := []) tol
    fun g hg => sumOver_zero fun nb hnb => hg nb (hw nb hnb)
  rw [h1, h2, h3, h4]
  have h0 : normPost tol (⟨0, 0⟩ : Acc2 α) = 0 := if_neg (not_lt.mpr htol)
  exact ⟨h0, rfl, rfl, h0⟩

/-- Several source arrays: every sum is the sum of the per-array sums (no
array's contribution can be missing from the defined value). -/
theorem source_arrays_add_up (g : Nbr α → α) (perArray : List (List (Nbr α))) :
    sumOver g perArray.flatten = (perArray.map (sumOver g)).sum := by
  induction perArray with
  | nil => rfl
  | cons l ls ih => rw [List.flatten_cons, sumOver_append, ih, List.map_cons, List.sum_cons]

def momentRow (d : Pos α) (nbrs : List (Nbr α)) (n r : Nat) (x : Nat → α) : α :=
  ((List.range n).map (fun c => momentEntry d nbrs r c * x c)).sum

/-- value and gradient of the affine field `a + g·x` at `d`, as the unknown
vector `(f(d), ∂x f, ∂y f, ∂z f)` -/
def affineSol (a : α) (g : Nat → α) (d : Pos α) : Nat → α
  | 0 => a + g 0 * d.x + g 1 * d.y + g 2 * d.z
  | k + 1 => g k

/-- The right-hand side 'order1' accumulates for an affine field IS the moment
matrix applied to (value, gradient) of that field at the destination. -/
theorem order1_system_of_affine_field (d : Pos α) (nbrs : List (Nbr α)) (a : α) (g : Nat → α)
    (hf : ∀ nb ∈ nbrs, nb.f = a + g 0 * nb.sx + g 1 * nb.sy + g 2 * nb.sz) (r : Nat) :
    psphEntry nbrs r = momentRow d nbrs 4 r (affineSol a g d) := by
  -- neighbour by neighbour (`psphTerm_affine`), then the two sums are exchanged
  have key : ∀ nb ∈ nbrs, psphTerm r nb =
      ((List.range 4).map fun c => momentTerm d r c nb * affineSol a g d c).sum := by
    intro nb hnb
    apply psphTerm_affine
    rw [hf nb hnb]
    simp only [affineSol, xij]
    ring
  simp only [momentRow, momentEntry_eq]
  rw [psphEntry_eq, sumOver_congr key, sum_mul_sumOver]

/-- In `dim` dimensions only the leading `(dim+1)×(dim+1)` block is solved; for
a field that does not vary in the unused directions the truncated system holds
as well. -/
theorem order1_truncated_system (d : Pos α) (nbrs : List (Nbr α)) (a : α) (g : Nat → α)
    (hf : ∀ nb ∈ nbrs, nb.f = a + g 0 * nb.sx + g 1 * nb.sy + g 2 * nb.sz)
    (dim : Nat) (hdim : dim ≤ 3) (hg : ∀ k, dim ≤ k → g k = 0) (r : Nat) :
    psphEntry nbrs r = momentRow d nbrs (dim + 1) r (affineSol a g d) := by
  rw [order1_system_of_affine_field d nbrs a g hf r]
  refine sum_range_truncate (Nat.succ_le_succ hdim) fun c hc => ?_
  obtain ⟨k, rfl⟩ := Nat.exists_eq_succ_of_ne_zero (Nat.ne_of_gt (Nat.lt_of_lt_of_le dim.succ_pos hc))
  exact mul_eq_zero_of_right _ (hg k (Nat.le_of_succ_le_succ hc))

/-- **order1 reproduces every linear field and its gradient wherever the moment
matrix is non-singular**: any exact solution `x` of the `(dim+1)`-system the code
hands to `gj_solve` is (value, gradient) of the field at the destination. -/
theorem order1_reproduces_linear (d : Pos α) (nbrs : List (Nbr α)) (a : α) (g : Nat → α)
    (hf : ∀ nb ∈ nbrs, nb.f = a + g 0 * nb.sx + g 1 * nb.sy + g 2 * nb.sz)
    (dim : Nat) (hdim : dim ≤ 3) (hg : ∀ k, dim ≤ k → g k = 0)
    (x : Nat → α)
    (hx : ∀ r < dim + 1, momentRow d nbrs (dim + 1) r x = psphEntry nbrs r)
    (hns : ∀ y : Nat → α, (∀ r < dim + 1, momentRow d nbrs (dim + 1) r y = 0) →
      ∀ c < dim + 1, y c = 0) :
    x 0 = a + g 0 * d.x + g 1 * d.y + g 2 * d.z ∧ ∀ k < dim, x (k + 1) = g k := by
  -- `x − affineSol` solves the homogeneous system
  have hy := hns (fun c => x c - affineSol a g d c) fun r hr =>
    (sum_map_mul_sub _ _ x (affineSol a g d)).trans <| sub_eq_zero.mpr <|
      (hx r hr).trans (order1_truncated_system d nbrs a g hf dim hdim hg r)
  exact ⟨sub_eq_zero.mp (hy 0 dim.succ_pos), fun k hk => sub_eq_zero.mp (hy (k + 1) (Nat.succ_lt_succ hk))⟩

/-- The defect behind proposed_fixes/C14-order1-psph-reset.diff: without the fix
(`psphEntryOrig`: only components 0..2 are reset per point) the z-gradient
right-hand side of a second `interpolate` call is off by exactly what the first
call left behind, so in 3-D the system is not the moment system of the field
(components 0..2 are unaffected, which is why 1-D and 2-D results are right). -/
theorem pinned_order1_rhs_accumulates (prev : α) (nbrs : List (Nbr α)) (r : Nat) :
    psphEntryOrig prev nbrs r = psphEntry nbrs r + (if r = 3 then prev else 0) := by
  rw [psphEntry_eq, add_comm]
  exact foldl_additive id (psphStep r) _ (fun _ _ => rfl) nbrs _

/-- After ANY history of `set_interpolation_points` / `update_particle_arrays` /
`update` / in-place changes following construction, `interpolate` fills, evaluates
and has binned exactly the arrays of the latest `update_particle_arrays` (or of
the constructor) plus the points object of the latest `set_interpolation_points`,
and returns the values of that points object. -/
theorem bindings_current (arrays : List Nat) (p : Nat) (ops : List Op)
    (hops : ∀ op ∈ ops, op.isInterp = true) :
    let r := interpolateReads (run (init arrays p) ops)
    r.filled = lastArrays arrays ops ∧
    r.result = lastPts p ops ∧
    r.evaluated = lastArrays arrays ops ++ [lastPts p ops] ∧
    r.binned = lastArrays arrays ops ++ [lastPts p ops] := by
  have h0 := init_spec arrays p
  obtain ⟨h1, h2, _⟩ : Bound (run (init arrays p) ops) :=
    run_induction (fun s op hop => bound_step s op (hops op hop)) h0.1
  have ha := run_arrays (init arrays p) ops
  have hp := run_pts (init arrays p) ops
  rw [h0.2.2.1] at ha
  rw [h0.2.2.2] at hp
  exact ⟨ha, hp, by rw [← ha, ← hp]; exact h1, by rw [← ha, ← hp]; exact h2⟩

/-- …and the neighbour lists it uses are those of the CURRENT particles whenever
the history does not end in an in-place change that was not followed by
`update()` or a rebinding. -/
theorem neighbours_current (arrays : List Nat) (p : Nat) (ops : List Op) (last : Op)
    (hops : ∀ op ∈ ops ++ [last], op.isInterp = true) (hlast : last.isMutate = false)
    (hlast2 : last.isTouch = false) :
    (interpolateReads (run (init arrays p) (ops ++ [last]))).neighboursCurrent = true := by
  have hb : Bound (run (init arrays p) (ops ++ [last])) :=
    run_induction (fun s op hop => bound_step s op (hops op hop)) (init_spec arrays p).1
  have hf : Fresh (run (init arrays p) (ops ++ [last])) := by
    rw [run_append]; exact fresh_step _ _ hlast hlast2
  exact (neighboursCurrent_iff _).mpr ⟨hb.2.2, hf⟩

/-- In-place changes of DATA (masses, densities, property values, constants: `Op.touch`)
need no `update()`: whatever `interpolate` read, filled, had binned and whether its
neighbour lists were current is the same after any number of them — the Interpolator
holds references to the arrays, no copies of what is in them. -/
theorem data_changes_keep_bindings (s : IState) (os : List Nat) :
    run s (os.map Op.touch) = s :=
  List.foldl_map.trans (List.foldl_fixed' (fun _ => rfl) os)

/-- …so neighbour lists that were current stay current under any number of data
changes that follow. -/
theorem neighbours_current_after_data_changes (arrays : List Nat) (p : Nat) (ops : List Op)
    (last : Op) (os : List Nat)
    (hops : ∀ op ∈ ops ++ [last], op.isInterp = true) (hlast : last.isMutate = false)
    (hlast2 : last.isTouch = false) :
    (interpolateReads (run (init arrays p) ((ops ++ [last]) ++ os.map Op.touch))).neighboursCurrent
      = true := by
  rw [run_append, data_changes_keep_bindings]
  exact neighbours_current arrays p ops last hops hlast hlast2

/-- The constructor bins the particles it is given: `interpolate` right after
`Interpolator(...)` uses current neighbour lists. -/
theorem neighbours_current_after_construction (arrays : List Nat) (p : Nat) :
    (interpolateReads (init arrays p)).neighboursCurrent = true := by
  have h := init_spec arrays p
  exact (neighboursCurrent_iff _).mpr ⟨h.1.2.2, h.2.1⟩

def lastEvalObjs (o0 : List Nat) : List Op → List Nat
  | [] => o0
  | Op.evalUpdateArrays objs :: rest => lastEvalObjs objs rest
  | _ :: rest => lastEvalObjs o0 rest

def isEvalOp : Op → Bool
  | Op.evalUpdateArrays _ => true
  | Op.update => true
  | Op.mutate _ => true
  | Op.touch _ => true
  | _ => false

/-- `SPHEvaluator`: after any history of `update_particle_arrays` / `update` /
in-place changes, `evaluate` reads and has binned exactly the arrays of the latest
`update_particle_arrays` (or of the constructor). -/
theorem evaluator_bindings_current (objs : List Nat) (ops : List Op)
    (hops : ∀ op ∈ ops, isEvalOp op = true) :
    let r := interpolateReads (run (initEval objs) ops)
    r.evaluated = lastEvalObjs objs ops ∧ r.binned = lastEvalObjs objs ops := by
  have gen : ∀ s : IState, s.nnps.objs = s.evalObjs →
      (run s ops).evalObjs = lastEvalObjs s.evalObjs ops ∧
      (run s ops).nnps.objs = lastEvalObjs s.evalObjs ops := by
    induction ops with
    | nil => exact fun s h => ⟨rfl, h⟩
    | cons op rest ih =>
      intro s h
      have hop := hops op List.mem_cons_self
      have ih' := ih (fun o ho => hops o (List.mem_cons_of_mem _ ho)) (step s op)
      cases op with
      | evalUpdateArrays objs' => exact ih' rfl
      | update => exact ih' h
      | mutate o => exact ih' h
      | touch o => exact ih' h
      | setPoints p => cases hop
      | updateArrays as => cases hop
  exact gen (initEval objs) rfl

/-- After ANY history following construction, the constants (`s_<const>[0]`,
`d_<const>[0]`) the compiled loops read are those of the arrays of the latest
`update_particle_arrays` (or of the constructor) and of the points object of the
latest `set_interpolation_points` — the same objects whose per-particle
properties are read. -/
theorem constants_current (arrays : List Nat) (p : Nat) (ops : List Op)
    (hops : ∀ op ∈ ops, op.isInterp = true) :
    let r := interpolateReads (run (init arrays p) ops)
    r.constants = lastArrays arrays ops ++ [lastPts p ops] ∧ r.constants = r.evaluated := by
  have hc : ConstsBound (run (init arrays p) ops) :=
    run_induction (fun s op _ => constsBound_step s op) rfl
  exact ⟨hc.trans (bindings_current arrays p ops hops).2.2.1, hc⟩

/-- `SPHEvaluator`: the same after any history of `update_particle_arrays` /
`update` / in-place changes. -/
theorem evaluator_constants_current (objs : List Nat) (ops : List Op)
    (hops : ∀ op ∈ ops, isEvalOp op = true) :
    (interpolateReads (run (initEval objs) ops)).constants = lastEvalObjs objs ops := by
  have hc : ConstsBound (run (initEval objs) ops) :=
    run_induction (fun s op _ => constsBound_step s op) rfl
  exact hc.trans (evaluator_bindings_current objs ops hops).1

/-- The VALUE of a constant the loop of the `k`-th array reads is the one stored
in the `k`-th currently bound array, whatever earlier arrays held (`cval o`: the
value stored in object `o`; arbitrary, so replaced arrays may carry any values). -/
theorem constant_values_current {γ : Type} (arrays : List Nat) (p : Nat) (ops : List Op)
    (hops : ∀ op ∈ ops, op.isInterp = true) (cval : Nat → γ) (k : Nat) :
    constRead (run (init arrays p) ops) cval k =
      ((lastArrays arrays ops ++ [lastPts p ops])[k]?).map cval := by
  have h := (constants_current arrays p ops hops).1
  simp only [interpolateReads] at h
  simp only [constRead, h]

/-- An array that does not own the requested property contributes the value 0
for each of its particles (`data = 0.0` broadcast by `temp_prop[:] = data`);
an array that owns it contributes its values. -/
theorem missing_property_staged_as_zeros {β : Type} [OfNat β 0] (a : ArrData β) (prop : String) :
    (a.props.lookup prop = none →
      (stagedValues a prop).length = a.n ∧ ∀ v ∈ stagedValues a prop, v = 0) ∧
    (∀ vals, a.props.lookup prop = some vals → stagedValues a prop = vals) := by
  constructor
  · intro h
    simp only [stagedValues, h]
    exact ⟨List.length_replicate, fun v hv => (List.mem_replicate.mp hv).2⟩
  · intro vals h
    simp only [stagedValues, h]

/-- After ANY history following construction — rebindings, updates, in-place
changes AND earlier `interpolate` calls of any properties, starting from ANY
contents of the arrays' `temp_prop` (arrays may arrive with a used `temp_prop`) —
`interpolate(prop)` makes the evaluator read, for every source array it is bound
to, exactly the staged values of `prop`: the array's own values, or zeros when it
lacks the property. -/
theorem interpolate_stages_requested_property {β : Type} [OfNat β 0]
    (arrays : List Nat) (p : Nat) (temp0 : Temp β)
    (hist : List (HOp β)) (env : Nat → ArrData β) (prop : String)
    (hops : ∀ op ∈ bindOps hist, op.isInterp = true) :
    let h := hrun ⟨init arrays p, temp0⟩ (hist ++ [HOp.interp env prop])
    (interpolateReads h.s).evaluated =
      lastArrays arrays (bindOps hist) ++ [lastPts p (bindOps hist)] ∧
    ∀ o ∈ lastArrays arrays (bindOps hist), h.temp o = stagedValues (env o) prop := by
  intro h
  obtain ⟨ha, -, he, -⟩ := bindings_current arrays p (bindOps hist) hops
  rw [← hrun_s ⟨init arrays p, temp0⟩ hist] at ha he
  have hh : h = hstep (hrun ⟨init arrays p, temp0⟩ hist) (HOp.interp env prop) :=
    hrun_append _ hist _
  rw [hh]
  refine ⟨he, fun o ho => (stage_apply env prop _ _ o).trans (if_pos ?_)⟩
  rw [← ha] at ho
  exact ho

/-- **The value interpolated for a property depends only on the currently bound
arrays and that property, not on what was interpolated before**: two histories
(different earlier `interpolate` calls, different initial `temp_prop` contents,
different earlier rebindings) that end with the same bound source arrays stage
identical source values for `prop`. -/
theorem interpolate_independent_of_history {β : Type} [OfNat β 0]
    (arrays1 arrays2 : List Nat) (p1 p2 : Nat) (temp1 temp2 : Temp β)
    (hist1 hist2 : List (HOp β)) (env : Nat → ArrData β) (prop : String)
    (h1 : ∀ op ∈ bindOps hist1, op.isInterp = true)
    (h2 : ∀ op ∈ bindOps hist2, op.isInterp = true)
    (hsame : lastArrays arrays1 (bindOps hist1) = lastArrays arrays2 (bindOps hist2)) :
    ∀ o ∈ lastArrays arrays1 (bindOps hist1),
      (hrun ⟨init arrays1 p1, temp1⟩ (hist1 ++ [HOp.interp env prop])).temp o =
      (hrun ⟨init arrays2 p2, temp2⟩ (hist2 ++ [HOp.interp env prop])).temp o := by
  intro o ho
  rw [(interpolate_stages_requested_property arrays1 p1 temp1 hist1 env prop h1).2 o ho,
    (interpolate_stages_requested_property arrays2 p2 temp2 hist2 env prop h2).2 o (hsame ▸ ho)]

/-! ## the value returned at index `idx` belongs to the `idx`-th target point

`value p` stands for what the evaluator leaves for a target particle at position
`p` (any of the five methods, any component of order1: e.g.
`fun p => shepard tol (nbrs p)`); the coordinate arrays are arbitrary numpy views
(any shape, any strides, any offset into any buffer: C ordered, Fortran ordered,
transposed, sliced, reversed). -/

/-- **`interpolate(...)[idx]` is the method's value at `(x[idx], y[idx], z[idx])`**,
for every shape and every valid multi-index, whatever the memory layout of the
three coordinate arrays (before the final `squeeze`). -/
theorem result_index_matches_point {β γ : Type} [OfNat β 0] (value : Pos β → γ)
    (x y z : NdView β) (hy : y.shape = x.shape) (hz : z.shape = x.shape)
    (idx : List Nat) (hidx : inBounds x.shape idx = true) :
    interpolateGet value x y z idx = some (value ⟨x.elem idx, y.elem idx, z.elem idx⟩) := by
  have hk := ravelIndex_lt x.shape idx hidx
  simp only [interpolateGet, reshapedGet, List.getElem?_map,
    getElem?_targetPoints x y z hy hz _ hk, unravel_ravelIndex x.shape idx hidx, Option.map_some]

/-- The same for the array `interpolate` actually returns (`result.squeeze()`):
its entry `idx'` is the method's value at the point `x[idx]` where `idx` is `idx'`
with zeros inserted at the axes of length 1 — the element `x.squeeze()[idx']`
(`self.x`). -/
theorem squeezed_result_index_matches_point {β γ : Type} [OfNat β 0] (value : Pos β → γ)
    (x y z : NdView β) (hy : y.shape = x.shape) (hz : z.shape = x.shape)
    (idx' : List Nat) (hidx : inBounds (squeezeShape x.shape) idx' = true) :
    inBounds x.shape (unsqueeze x.shape idx') = true ∧
    interpolateSqueezedGet value x y z idx' =
      some (value ⟨x.elem (unsqueeze x.shape idx'), y.elem (unsqueeze x.shape idx'),
                   z.elem (unsqueeze x.shape idx')⟩) ∧
    ravelIndex x.shape (unsqueeze x.shape idx') = ravelIndex (squeezeShape x.shape) idx' := by
  obtain ⟨hb, hr⟩ := unsqueeze_spec x.shape idx' hidx
  exact ⟨hb, result_index_matches_point value x y z hy hz _ hb, hr⟩

/-- Nothing is lost or duplicated: multi-indices and target particles correspond
one to one (`unravel`/`ravelIndex` are mutually inverse on valid arguments), and
the value computed for the `k`-th target particle is returned at index
`unravel shape k`. -/
theorem every_target_particle_is_returned {β γ : Type} [OfNat β 0] (value : Pos β → γ)
    (x y z : NdView β) (k : Nat) (hk : k < size x.shape) :
    inBounds x.shape (unravel x.shape k) = true ∧
    ravelIndex x.shape (unravel x.shape k) = k ∧
    interpolateGet value x y z (unravel x.shape k) = ((targetPoints x y z).map value)[k]? := by
  refine ⟨inBounds_unravel _ _ hk, ravelIndex_unravel _ _ hk, ?_⟩
  simp only [interpolateGet, reshapedGet, ravelIndex_unravel _ _ hk]

/-- The target particles depend on the LOGICAL contents of the coordinate arrays
only: two arrays of the same shape with the same elements (a Fortran-ordered
array and its C-ordered copy, a strided view and its contiguous copy) give the
same particles in the same order. -/
theorem target_points_independent_of_layout {β : Type} [OfNat β 0] (x x' : NdView β)
    (hs : x'.shape = x.shape)
    (he : ∀ idx, inBounds x.shape idx = true → x'.elem idx = x.elem idx) :
    ravelC x' = ravelC x := by
  simp only [ravelC, hs]
  apply List.map_congr_left
  intro k hk
  exact he _ (inBounds_unravel _ _ (List.mem_range.mp hk))

/-- **Every target particle gets the largest real-particle smoothing length of
the source arrays, as a double, whatever the dtype `β` of the caller's coordinate
arrays** (any dtype whose `1` converts to `1`: float64, float32, int64, int32, …).
`_get_max_h_in_arrays` returns a value `H` when no source array is empty; `H` is the `h` of
some source particle provided smoothing lengths are `> -1` (they are positive) and there is
at least one source array. -/
theorem target_h_is_max_source_h {β : Type} [OfNat β 1] (cast : β → α) (hcast : cast 1 = 1)
    (hs : List (List α)) (xr : List β) (H : α) (hH : maxHInArrays hs = some H) :
    createTargetH cast hs xr = some (List.replicate xr.length H) ∧
    (∀ h ∈ hs, ∀ v ∈ h, v ≤ H) ∧
    (hs ≠ [] → (∀ h ∈ hs, ∀ v ∈ h, -1 < v) → ∃ h ∈ hs, H ∈ h) := by
  have hsp := maxHLoop_spec hs (-1) H hH
  refine ⟨by rw [createTargetH, hH, Option.map_some, targetH_eq, hcast, mul_one], hsp.2.1,
    fun hne hpos => hsp.2.2.resolve_left fun e => ?_⟩
  -- `H = -1` is impossible: the first array has a first entry (else `maxHInArrays`
  -- is `none`), which is `> -1` and `≤ H`
  cases hs with
  | nil => exact hne rfl
  | cons h rest =>
    cases h with
    | nil => cases hH
    | cons v vs =>
      exact lt_irrefl _ (e ▸ (hpos _ List.mem_cons_self v List.mem_cons_self).trans_le
        (hsp.2.1 _ List.mem_cons_self v List.mem_cons_self))

/-- …so the smoothing length of the target particles does not depend on the
dtype or the values of the coordinate arrays: two sets of `n` points, given in
ANY two dtypes, get the same `h`. -/
theorem target_h_independent_of_points {β β' : Type} [OfNat β 1] [OfNat β' 1]
    (cast : β → α) (cast' : β' → α) (hc : cast 1 = 1) (hc' : cast' 1 = 1)
    (hs : List (List α)) (xr : List β) (xr' : List β') (hn : xr'.length = xr.length) :
    createTargetH cast' hs xr' = createTargetH cast hs xr := by
  simp only [createTargetH, targetH_eq, hc, hc', hn]

/-- The target particle made from element `idx` of a coordinate array of dtype
`β` sits at the double `cast (x[idx])`, for every shape, memory layout and dtype:
`result[idx]` (by `result_index_matches_point`, at `α`-valued views) is therefore
the value at the caller's point converted to double. -/
theorem target_coords_cast_index {β : Type} [OfNat β 0] (cast : β → α) (x : NdView β)
    (idx : List Nat) (hidx : inBounds x.shape idx = true) :
    (castRavel cast x)[ravelIndex x.shape idx]? = some (cast (x.elem idx)) := by
  have hk := ravelIndex_lt x.shape idx hidx
  simp [castRavel, ravelC, hk, unravel_ravelIndex x.shape idx hidx]

end

/-! ## non-vacuity: concrete neighbour lists / histories meeting the hypotheses -/

/-- fluid (object 1: `p`, `T`) and solid (object 2: `p` only, arriving with a used
`temp_prop`): `interpolate('T')` after `interpolate('p')` stages zeros for the
solid, not the pressures the previous call left in its `temp_prop` -/
example :
    let env : Nat → ArrData ℚ := fun o =>
      if o = 1 then ⟨2, [("p", [10, 11]), ("T", [300, 301])]⟩ else ⟨3, [("p", [20, 21, 22])]⟩
    let temp0 : Temp ℚ := fun o => if o = 2 then [7, 7, 7] else []
    let h1 := hrun ⟨init [1, 2] 3, temp0⟩ [HOp.interp env "p"]
    let h2 := hrun ⟨init [1, 2] 3, temp0⟩ [HOp.interp env "p", HOp.interp env "T"]
    h1.temp 2 = [20, 21, 22] ∧ h2.temp 1 = [300, 301] ∧ h2.temp 2 = [0, 0, 0] := by
  decide +kernel

/-- three neighbours, one with zero weight and an outlying value: the mean of
the two contributing values 1 and 3 with weights 1/2, 1/4 is 5/3 ∈ [1, 3] -/
example :
    let nbrs : List (Nbr ℚ) :=
      [⟨1/2, 0, 0, 0, 0, 0, 0, 1, 1, 1⟩, ⟨0, 0, 0, 0, 1, 0, 0, 1, 1, 100⟩,
       ⟨1/4, 0, 0, 0, 2, 0, 0, 1, 1, 3⟩]
    shepard (1/1000000000000) nbrs = 5/3 ∧
    (∀ nb ∈ nbrs, 0 ≤ nb.w) ∧ (∀ nb ∈ nbrs, 0 < nb.w → (1:ℚ) ≤ nb.f ∧ nb.f ≤ 3) := by
  decide +kernel

/-- 1-D order1 on the affine field `2 + 3x` with three neighbours: the moment
system's solution is (value, slope) = (2 + 3·(1/2), 3) -/
example :
    let nbrs : List (Nbr ℚ) :=
      [⟨1, 1, 0, 0, 0, 0, 0, 1, 2, 2⟩, ⟨2, 0, 0, 0, 1/2, 0, 0, 1, 1, 7/2⟩,
       ⟨1, -1, 0, 0, 1, 0, 0, 1, 2, 5⟩]
    let d : Pos ℚ := ⟨1/2, 0, 0⟩
    (∀ nb ∈ nbrs, nb.f = 2 + 3 * nb.sx + 0 * nb.sy + 0 * nb.sz) ∧
    (order1 (1/1000000000000) 1 d nbrs).toList = [7/2, 3, 0, 0] := by
  decide +kernel

/-- a history with rebindings, an in-place change and an update -/
example :
    let ops := [Op.mutate 1, Op.update, Op.updateArrays [5, 6], Op.setPoints 9, Op.mutate 5]
    interpolateReads (run (init [1, 2] 3) ops) =
      ⟨[5, 6], [5, 6, 9], [5, 6, 9], 9, false, [5, 6, 9]⟩ ∧
    interpolateReads (run (init [1, 2] 3) (ops ++ [Op.update])) =
      ⟨[5, 6], [5, 6, 9], [5, 6, 9], 9, true, [5, 6, 9]⟩ := by
  decide +kernel

/-- a 2×3 array held in Fortran order (strides 1, 2: the transposed view of a
C-ordered 3×2 array) next to a C-ordered `y` and a strided, reversed `z`:
`ravel()` lists the elements in logical order and `result[0, 2]`, `result[1, 0]`
are the values at `(x[0,2], y[0,2], z[0,2])`, `(x[1,0], y[1,0], z[1,0])`; the
memory order of `x` (10, 11, 12, …) is NOT the order of the particles -/
example :
    let x : NdView ℚ := ⟨[2, 3], [1, 2], 0, [10, 11, 12, 13, 14, 15]⟩
    let y : NdView ℚ := ⟨[2, 3], [3, 1], 0, [20, 21, 22, 23, 24, 25]⟩
    let z : NdView ℚ := ⟨[2, 3], [-6, 2], 7, [30, 31, 32, 33, 34, 35, 36, 37, 38, 39, 40, 41]⟩
    let value : Pos ℚ → ℚ := fun p => 10000 * p.x + 100 * p.y + p.z
    ravelC x = [10, 12, 14, 11, 13, 15] ∧ ravelC z = [37, 39, 41, 31, 33, 35] ∧
    x.elem [0, 2] = 14 ∧ y.elem [0, 2] = 22 ∧ z.elem [0, 2] = 41 ∧
    interpolateGet value x y z [0, 2] = some 142241 ∧
    interpolateGet value x y z [1, 0] = some 112331 ∧
    inBounds x.shape [0, 2] = true := by
  decide +kernel

/-- shape (1, 2, 1, 3): the returned array has shape (2, 3) and its entry
`[1, 2]` is the value at `x[0, 1, 0, 2]` -/
example :
    let x : NdView ℚ := ⟨[1, 2, 1, 3], [0, 1, 0, 2], 0, [10, 11, 12, 13, 14, 15]⟩
    squeezeShape x.shape = [2, 3] ∧ unsqueeze x.shape [1, 2] = [0, 1, 0, 2] ∧
    interpolateSqueezedGet (fun p => p.x) x x x [1, 2] = some 15 ∧ x.elem [0, 1, 0, 2] = 15 := by
  decide +kernel

/-- two source arrays with real-particle `h` lists `[3/10, 1/2]`, `[2/5]` and five
target points given as INTEGERS (dtype `Int`, converted by `Int.cast`): every
target particle gets `h = 1/2`, not `⌊1/2⌋ = 0` -/
example :
    maxHInArrays [[(3:ℚ)/10, 1/2], [2/5]] = some (1/2) ∧
    createTargetH (fun i : Int => (i : ℚ)) [[(3:ℚ)/10, 1/2], [2/5]] [1, 2, 3, 4, 5] =
      some [1/2, 1/2, 1/2, 1/2, 1/2] ∧
    castRavel (fun i : Int => (i : ℚ)) ⟨[2, 2], [1, 2], 0, [1, 2, 3, 4]⟩ = [1, 3, 2, 4] := by
  decide +kernel

/-- the arrays are replaced (objects 5, 6 for 1, 2) and the points too (9 for 3):
the loop of the first array name then reads the constant stored in object 5
(`1250`), not the one of object 1 (`1000`); 'sph' with `rho0` and a gain -/
example :
    let cval : Nat → ℚ := fun o => if o = 1 then 1000 else if o = 5 then 1250 else 1
    let s := run (init [1, 2] 3) [Op.updateArrays [5, 6], Op.mutate 5, Op.update, Op.setPoints 9]
    constRead (init [1, 2] 3) cval 0 = some 1000 ∧ constRead s cval 0 = some 1250 ∧
    (interpolateReads s).constants = [5, 6, 9] ∧
    sphConst (2:ℚ) [⟨1/2, 0, 0, 0, 0, 0, 0, 3, 4, 5⟩, ⟨1/4, 0, 0, 0, 1, 0, 0, 1, 2, 8⟩] = 23/4 := by
  decide +kernel

section SharedDensity
open scoped PysphVerif.OrderChain
variable {α : Type} [Field α] [LinearOrder α] [IsStrictOrderedRing α] [BEq α]

/-- order1 writes, into every source particle it iterates over, the summation
density of the PRESENT masses: what `rho` held before the call (the caller's
values, zeros, the density another evaluator with another kernel left) does not
enter. -/
theorem order1_density_from_present_masses (tol : α) (dim : Nat) (g : SrcGeo α) (d : Pos α)
    (pn : List (PtNbr α)) (st st' : Store α) (hm : st.m = st'.m) (j : Nat) (hj : j ∈ g.ids) :
    (order1Compute tol dim g d pn st).1.rho j = densityAt st g j ∧
    (order1Compute tol dim g d pn st).1.rho j = (order1Compute tol dim g d pn st').1.rho j :=
  ⟨group1_rho_of_mem g st j hj, group1_rho_congr g st st' hm j hj⟩

/-- **Every `interpolate` call of an order1 Interpolator is a function of the data
as they are at the call**: two states of the shared arrays with the same masses
and the same staged values give the same four numbers at every point whose
neighbours the density group covers, whatever `rho` holds in either. -/
theorem order1_independent_of_shared_rho (tol : α) (dim : Nat) (g : SrcGeo α) (d : Pos α)
    (pn : List (PtNbr α)) (hin : ∀ p ∈ pn, p.k ∈ g.ids) (st st' : Store α)
    (hm : st.m = st'.m) (hf : st.f = st'.f) :
    (order1Compute tol dim g d pn st).2 = (order1Compute tol dim g d pn st').2 := by
  rw [order1Compute_snd, order1Compute_snd, ptNbr_group1_congr g st st' hm hf pn hin]

/-- …in particular after ANY sequence of in-place changes of `rho` and of
computes of OTHER order1 evaluators over the same arrays (other kernels, other
points) since the last call: the next call returns what it would have returned
without them. -/
theorem order1_unaffected_by_other_evaluators (tol : α) (dim : Nat) (g : SrcGeo α) (d : Pos α)
    (pn : List (PtNbr α)) (hin : ∀ p ∈ pn, p.k ∈ g.ids) (st : Store α) (ops : List (SOp α))
    (hops : ∀ op ∈ ops, op.rhoOnly = true) :
    (order1Compute tol dim g d pn (srun st ops)).2 = (order1Compute tol dim g d pn st).2 := by
  have h := srun_rhoOnly st ops hops
  exact order1_independent_of_shared_rho tol dim g d pn hin _ _ h.1 h.2

/-- **order1 reproduces a linear field on EVERY call over shared arrays**: whatever
history the arrays went through (masses rescaled in place, `rho` overwritten by
anybody), the moment matrix group 2 builds and the right-hand side group 3 builds
in THIS call use the same volumes `m_k / rho_k` (the density group 1 has just
written), so any exact solution of the system is (value, gradient) of the field. -/
theorem order1_shared_reproduces_linear (g : SrcGeo α) (d : Pos α) (pn : List (PtNbr α))
    (st0 : Store α) (ops : List (SOp α)) (a : α) (gr : Nat → α)
    (hf : ∀ p ∈ pn, (srun st0 ops).f p.k = a + gr 0 * p.sx + gr 1 * p.sy + gr 2 * p.sz)
    (dim : Nat) (hdim : dim ≤ 3) (hg : ∀ k, dim ≤ k → gr k = 0)
    (x : Nat → α) :
    let nbrs := pn.map (ptNbr (group1 g (srun st0 ops)))
    (∀ r < dim + 1, momentRow d nbrs (dim + 1) r x = psphEntry nbrs r) →
    (∀ y : Nat → α, (∀ r < dim + 1, momentRow d nbrs (dim + 1) r y = 0) →
      ∀ c < dim + 1, y c = 0) →
    x 0 = a + gr 0 * d.x + gr 1 * d.y + gr 2 * d.z ∧ ∀ k < dim, x (k + 1) = gr k := by
  intro nbrs hx hns
  refine order1_reproduces_linear d nbrs a gr ?_ dim hdim hg x hx hns
  intro nb hnb
  obtain ⟨p, hp, rfl⟩ := List.mem_map.mp hnb
  simpa [ptNbr, group1] using hf p hp

end SharedDensity

/-- two source particles, one point between them, field `2 + 3x`; the arrays
arrive once with `rho = (5, 7)` left by somebody else and once with zeros, the
masses were tripled in place: the same, exact, answer -/
example :
    let g : SrcGeo ℚ := ⟨[0, 1], fun j => if j = 0 then [(0, 2), (1, 1)] else [(1, 2), (0, 1)]⟩
    let pn : List (PtNbr ℚ) := [⟨0, 1, 1, 0, 0, 0, 0, 0⟩, ⟨1, 1, -1, 0, 0, 1, 0, 0⟩]
    let d : Pos ℚ := ⟨1/2, 0, 0⟩
    let f : Nat → ℚ := fun k => if k = 0 then 2 else 5
    let st : Store ℚ := ⟨fun _ => 3, fun k => if k = 0 then 5 else 7, f⟩
    let st' : Store ℚ := ⟨fun _ => 3, fun _ => 0, f⟩
    (order1Compute (1/1000000000000) 1 g d pn st).2.toList = [7/2, 3, 0, 0] ∧
    (order1Compute (1/1000000000000) 1 g d pn st').2.toList = [7/2, 3, 0, 0] ∧
    (order1Compute (1/1000000000000) 1 g d pn (srun st [SOp.otherOrder1 ⟨[0, 1], fun _ => [(0, 1)]⟩])).2.toList
      = [7/2, 3, 0, 0] := by
  decide +kernel

end PysphVerif.C14
