import PysphVerif.Model.Codegen
import PysphVerif.Gen.Precomp
import PysphVerif.Lemmas.CodegenSort
import PysphVerif.Lemmas.CodegenClosure
import PysphVerif.Lemmas.CodegenWiring
import PysphVerif.Lemmas.CodegenGroups
import PysphVerif.Lemmas.CodegenOpts
import PysphVerif.Lemmas.CodegenIter
/-!
# C02 — compiled equations compute what the Python equation source says

The theorems are about
* the table `Gen/Precomp.lean`, regenerated from `equation.py::precomputed_symbols()`
  and `docs/source/design/equations.rst` on every run, and
* the model `Model/Codegen.lean` of `sort_precomputed`, `Group._setup_precomputed`
  (equation.py), `MegaGroup._make_data` (acceleration_eval.py), and the pointer / declaration /
  scratch-vector set-up and the call sites of the group callables (`_compute_group_map`,
  `get_condition_call`, `get_pre_call`, `get_post_call`) of
  `acceleration_eval_cython_helper.py`, and
* the model `Model/CodegenOpts.lean` of the destination loop limits (`get_dest_array_setup`,
  `get_parallel_range`: `Group(start_idx=, stop_idx=, real=)`) and of the attribute declarations
  of the equation wrapper classes (`get_equation_wrappers`, compyle `detect_type`), and
* the model `Model/CodegenIter.lean` of the break test and loop of iterated groups
  (`get_converged_condition`, `get_iteration_init`, `get_iteration_check`) and of
  `ParticleArrayWrapper.set_array` / `update_particle_arrays`.
What transpiled *user* code computes (compyle, Cython, g++) is outside every model
and is carried by differential execution in `harness/c02.py` (testing).
-/
namespace PysphVerif.Props.C02
open PysphVerif.Codegen PysphVerif.Gen.Precomp

/-- every documented formula is, statement for statement and operation for
operation (so also bit for bit in floating point), the code block of that symbol -/
theorem precomp_code_eq_doc :
    ∀ e ∈ docTable, codeTable.lookup e.1 = some e.2 := by decide +kernel

/-- the same for the symbols the documentation does not list, against the naming
convention of the documented `W*`/`DW*` family -/
theorem precomp_code_eq_conv :
    ∀ e ∈ convTable, codeTable.lookup e.1 = some e.2 := by decide +kernel

/-- no code block is left without a specification -/
theorem precomp_all_specified :
    ∀ e ∈ codeTable, (docTable ++ convTable).lookup e.1 = some e.2 := by decide +kernel

/-- semantic form: in every number system, for every particle data, kernel
functions and prior store, the code block of a symbol leaves the values its
documented formula denotes -/
theorem precomp_matches_doc {α : Type} [Add α] [Sub α] [Mul α] [Div α] [Neg α] [NatCast α]
    (env : Env α) (st : Store α) (s : String) (bd : Block)
    (h : (s, bd) ∈ docTable ++ convTable) :
    ∃ bc, codeTable.lookup s = some bc ∧ evalBlock env st bc = evalBlock env st bd := by
  refine ⟨bd, ?_, rfl⟩
  rcases List.mem_append.mp h with h | h
  · exact precomp_code_eq_doc (s, bd) h
  · exact precomp_code_eq_conv (s, bd) h

/-- the symbol sets the sort and the closure work with (`cb.symbols`) are the names
that occur in the translated blocks -/
theorem symbols_table_consistent :
    ∀ e ∈ codeTable, sortDedup (Block.names e.2) = symbolsTable.syms e.1 := by decide +kernel

/-- …and the table has one entry per code block, in the same order -/
theorem symbols_table_keys : symbolsTable.map (·.1) = codeTable.map (·.1) := by decide +kernel

example : (docTable.length, convTable.length, codeTable.length) = (14, 7, 21) := by decide +kernel

section sort
variable {ν : Type} [DecidableEq ν]

/-- the sorted result contains exactly the given symbols, each once -/
theorem sort_is_perm (le : ν → ν → Bool) (t : Table ν) (keys out : List ν) (hk : keys.Nodup)
    (h : sortPrecomputed le t keys = .ok out) : out.Perm keys :=
  (sortPrecomputed_sound le t keys out hk h).1

/-- every symbol comes after all the symbols its code mentions: no element of
the result precedes one of its own dependencies, and each dependency does occur
strictly before -/
theorem sort_respects_deps (le : ν → ν → Bool) (t : Table ν) (keys out : List ν)
    (hk : keys.Nodup) (h : sortPrecomputed le t keys = .ok out) :
    out.Pairwise (fun x y => y ∉ depends t x) ∧
    ∀ x ∈ out, ∀ d ∈ depends t x, ∃ l1 l2, out = l1 ++ x :: l2 ∧ d ∈ l1 :=
  (sortPrecomputed_sound le t keys out hk h).2

/-- on an acyclic dependency relation the `while pre_comp_names` loop ends within
`len(precomputed)` passes (the model's fuel) and the sort succeeds -/
theorem sort_terminates_on_dag (le : ν → ν → Bool) (t : Table ν) (keys : List ν)
    (hk : keys.Nodup) (hc : depsClosed t keys = true) (ha : Acyclic t keys) :
    ∃ out, sortPrecomputed le t keys = .ok out :=
  sortPrecomputed_terminates le t keys hk hc ha

end sort

/-- the shipped table is acyclic (decided on the regenerated table) -/
theorem precomp_table_acyclic : Acyclic symbolsTable (symbolsTable.map (·.1)) :=
  acyclic_of_acyclicB symbolsTable (by decide +kernel)

/-- why termination is a theorem: on a two-symbol cycle no pass assigns a weight
and the Python loop spins for ever (the model reports exhausted fuel) -/
theorem sort_diverges_on_cycle :
    sortPrecomputed strLe [("A", ["B"]), ("B", ["A"])] ["A", "B"] = .diverges := by decide +kernel

/-- and a symbol that mentions a precomputed symbol outside the given set raises -/
theorem sort_keyerror_when_unclosed :
    sortPrecomputed strLe symbolsTable ["RIJ"] = .keyError := by decide +kernel

example : sortPrecomputed strLe symbolsTable ["RIJ", "WIJ", "XIJ", "HIJ", "R2IJ"] =
    .ok ["HIJ", "XIJ", "R2IJ", "RIJ", "WIJ"] := by decide +kernel

section closure
variable {ν : Type} [DecidableEq ν]

/-- the symbols of a group are the least set that contains the precomputed
symbols among the `loop` arguments and is closed under "is mentioned by the code
of"; it is duplicate free and consists of table keys -/
theorem closure_closed_minimal (t : Table ν) (args : List ν) :
    (∀ s ∈ args, t.has s = true → s ∈ closure t args) ∧
    ClosedUnder t (· ∈ closure t args) ∧
    (∀ S : ν → Prop, ClosedUnder t S → (∀ s ∈ args, t.has s = true → S s) →
      ∀ x ∈ closure t args, S x) ∧
    (closure t args).Nodup ∧ (∀ x ∈ closure t args, t.has x = true) :=
  ⟨closure_contains_args t args, closure_closed t args,
   fun S hS h0 => closure_minimal t args S hS h0, closure_nodup t args, closure_keys t args⟩

/-- so the sort that follows never meets a symbol without a weight entry -/
theorem setup_never_keyerror (le : ν → ν → Bool) (t : Table ν) (args : List ν) :
    setupPrecomputed le t args ≠ .keyError := by
  unfold setupPrecomputed sortPrecomputed
  rw [closure_depsClosed t args]
  simp only [Bool.not_true, Bool.false_eq_true, ↓reduceIte]
  split <;> simp

end closure

/-- with the shipped table, whatever the `loop` signatures of a group are, the
set-up succeeds: sorted symbols, all of the closure, dependencies first -/
theorem setup_ok_on_shipped_table (args : List String) :
    ∃ out, setupPrecomputed strLe symbolsTable args = .ok out ∧
      out.Perm (closure symbolsTable args) ∧
      out.Pairwise (fun x y => y ∉ depends symbolsTable x) :=
  setupPrecomputed_ok strLe symbolsTable args precomp_table_acyclic

example : setupPrecomputed strLe symbolsTable ["d_idx", "s_idx", "d_au", "s_m", "DWIJ", "VIJ"] =
    .ok ["HIJ", "VIJ", "XIJ", "R2IJ", "RIJ", "DWIJ"] := by decide +kernel

/-- a `d_*` name is never bound to the source and an `s_*` name never to the
destination, and each is bound to the array of its own name -/
theorem wiring_sound (t : Table Name) (eqs : List Eqn) :
    ∀ db ∈ wiring t eqs,
      (∀ a ∈ db.assigns, a.side = .dst ∧ isDstArr a.lhs = true ∧ a.prop = strip a.lhs) ∧
      (∀ sb ∈ db.srcs, ∀ a ∈ sb.assigns,
        a.side = .src ∧ isSrcArr a.lhs = true ∧ a.prop = strip a.lhs) := by
  intro db hdb
  obtain ⟨D, _, rfl⟩ := (mem_wiring t eqs db).mp hdb
  constructor
  · intro a ha
    rw [mkDestBlock_assigns, mem_destSetup] at ha
    obtain ⟨n, hn, rfl⟩ := ha
    exact ⟨rfl, hn.elim (·.2) fun ⟨_, _, hn⟩ => hn.2, rfl⟩
  · intro sb hsb a ha
    obtain ⟨s, _, rfl⟩ := (mem_mkDestBlock_srcs t eqs D sb).mp hsb
    rw [mkSrcBlock_assigns, mem_srcSetup] at ha
    obtain ⟨n, hn, rfl⟩ := ha
    exact ⟨rfl, hn.2, rfl⟩

/-- every destination array a method of an equation names is bound, in the block of
the equation's destination, before any method runs -/
theorem wiring_covers_dest (t : Table Name) (eqs : List Eqn) (e : Eqn) (he : e ∈ eqs)
    (x : Name) (hx : x ∈ e.allArgs) (hd : isDstArr x = true) :
    ∃ db ∈ wiring t eqs, db.dest = e.dest ∧ e ∈ db.allEqs ∧
      (⟨x, .dst, strip x⟩ : Assign) ∈ db.assigns := by
  refine ⟨_, mkDestBlock_mem t eqs e he, rfl, (mem_allEqsOf eqs e.dest e).mpr ⟨he, rfl⟩, ?_⟩
  cases hs : e.sources with
  | nil =>
    rw [mkDestBlock_assigns, mem_destSetup]
    exact ⟨x, Or.inl ⟨(mem_groupNames t _ x).mpr
      (Or.inl ⟨e, (mem_noSrcEqsOf eqs e.dest e).mpr ⟨⟨he, rfl⟩, hs⟩, hx⟩), hd⟩, rfl⟩
  | cons s ss =>
    have hse : s ∈ e.sources := hs ▸ List.mem_cons_self
    exact mem_destSetup_of_source t eqs e.dest s x
      ((mem_sourceList eqs e.dest s).mpr ⟨e, he, rfl, hse⟩)
      ((mem_groupNames t _ x).mpr
        (Or.inl ⟨e, (mem_eqsOfSource eqs e.dest s e).mpr ⟨he, rfl, hse⟩, hx⟩)) hd

/-- every source array a method names is bound in the block of each of the
equation's sources, where its loop runs -/
theorem wiring_covers_src (t : Table Name) (eqs : List Eqn) (e : Eqn) (he : e ∈ eqs)
    (s : Name) (hs : s ∈ e.sources) (x : Name) (hx : x ∈ e.allArgs) (hsrc : isSrcArr x = true) :
    ∃ db ∈ wiring t eqs, db.dest = e.dest ∧ ∃ sb ∈ db.srcs, sb.source = s ∧ e ∈ sb.eqs ∧
      (⟨x, .src, strip x⟩ : Assign) ∈ sb.assigns := by
  have hmem : e ∈ eqsOfSource eqs e.dest s := (mem_eqsOfSource eqs e.dest s e).mpr ⟨he, rfl, hs⟩
  refine ⟨_, mkDestBlock_mem t eqs e he, rfl, mkSrcBlock t eqs e.dest s,
    (mem_mkDestBlock_srcs t eqs e.dest _).mpr
      ⟨s, (mem_sourceList eqs e.dest s).mpr ⟨e, he, rfl, hs⟩, rfl⟩,
    rfl, (mkSrcBlock_eqs t eqs e.dest s).symm ▸ hmem, ?_⟩
  rw [mkSrcBlock_assigns, mem_srcSetup]
  exact ⟨x, ⟨(mem_groupNames t _ x).mpr (Or.inl ⟨e, hmem, hx⟩), hsrc⟩, rfl⟩

/-- the arrays the precomputed formulas of a source block read are bound too:
source arrays in that block, destination arrays in the enclosing block -/
theorem wiring_covers_precomputed (t : Table Name) (eqs : List Eqn) :
    ∀ db ∈ wiring t eqs, ∀ sb ∈ db.srcs, ∀ p ∈ groupPrecomp t sb.eqs, ∀ x ∈ t.syms p,
      (isSrcArr x = true → (⟨x, .src, strip x⟩ : Assign) ∈ sb.assigns) ∧
      (isDstArr x = true → (⟨x, .dst, strip x⟩ : Assign) ∈ db.assigns) := by
  intro db hdb sb hsb p hp x hx
  obtain ⟨D, _, rfl⟩ := (mem_wiring t eqs db).mp hdb
  obtain ⟨s, hs, rfl⟩ := (mem_mkDestBlock_srcs t eqs D sb).mp hsb
  rw [mkSrcBlock_eqs] at hp
  have hg : x ∈ groupNames t (eqsOfSource eqs D s) :=
    (mem_groupNames t _ x).mpr (Or.inr ⟨p, hp, hx⟩)
  constructor
  · intro hsrc
    rw [mkSrcBlock_assigns, mem_srcSetup]
    exact ⟨x, ⟨hg, hsrc⟩, rfl⟩
  · exact mem_destSetup_of_source t eqs D s x hs hg

/-- the declared C type of `d_p` / `s_p` is the C type of the property's carray,
provided all particle arrays that carry `p` agree on it (`hcons`; otherwise the
generated wrapper declares the attribute twice and does not compile) and a carray
class has one C type (`hfun`, true of cyarray by construction) -/
theorem wiring_types (pas : List PArr) (p cls cty : Name)
    (hex : ∃ pa ∈ pas, (p, cls, cty) ∈ pa.props)
    (hcons : ∀ pa ∈ pas, ∀ q ∈ pa.props, q.1 = p → q.2.2 = cty)
    (hfun : ∀ pa ∈ pas, ∀ q ∈ pa.props, ∀ pa' ∈ pas, ∀ q' ∈ pa'.props,
      q.2.1 = q'.2.1 → q.2.2 = q'.2.2) :
    lookupLast (knownTypes (allArrayNames pas)) ("d_" ++ p) = some (cty ++ "*") ∧
    lookupLast (knownTypes (allArrayNames pas)) ("s_" ++ p) = some (cty ++ "*") := by
  -- every assignment to `s_p` / `d_p` carries `cty*`: it comes from a carray class whose name list
  -- holds `p`, i.e. some array has `p` with that class; `hcons` gives that entry the type `cty`
  -- and `hfun` carries it over to the class (so the last assignment, whichever it is, is right)
  have hval : ∀ e ∈ knownTypes (allArrayNames pas),
      (e.1 = "s_" ++ p ∨ e.1 = "d_" ++ p) → e.2 = cty ++ "*" := by
    intro e he hkey
    obtain ⟨c, hc, arr', harr', hee⟩ := (mem_knownTypes _ e).mp he
    obtain ⟨q', hq', rfl⟩ := (mem_allArrayNames pas c).mp hc
    have harr'' : arr' = p := by
      rcases hee with rfl | rfl <;> rcases hkey with hk | hk
      · exact (String.append_right_inj _).mp hk
      · exact absurd hk (s_ne_d _ _)
      · exact absurd hk.symm (s_ne_d _ _)
      · exact (String.append_right_inj _).mp hk
    simp only [List.mem_eraseDups, List.mem_map, List.mem_filter, beq_iff_eq] at harr'
    obtain ⟨q, ⟨hq, hqc⟩, hqn⟩ := harr'
    obtain ⟨pa, hpa, hqpa⟩ := List.mem_flatMap.mp hq
    obtain ⟨pa', hpa', hqpa'⟩ := List.mem_flatMap.mp hq'
    have h1 : q.2.2 = cty := hcons pa hpa q hqpa (hqn.trans harr'')
    have h2 : q.2.2 = q'.2.2 := hfun pa hpa q hqpa pa' hpa' q' hqpa' hqc
    have h3 : q'.2.2 = cty := h2 ▸ h1
    rcases hee with rfl | rfl <;> simp only [h3]
  -- and at least one assignment to each of the two keys is made: the class `cls` lists `p`
  obtain ⟨pa, hpa, hp⟩ := hex
  have hall : (p, cls, cty) ∈ pas.flatMap (·.props) := List.mem_flatMap.mpr ⟨pa, hpa, hp⟩
  have hc := (mem_allArrayNames pas _).mpr ⟨(p, cls, cty), hall, rfl⟩
  have hnames : p ∈ (((pas.flatMap (·.props)).filter (fun r => r.2.1 == cls)).map
      (·.1)).eraseDups := by
    simp only [List.mem_eraseDups, List.mem_map, List.mem_filter, beq_iff_eq]
    exact ⟨(p, cls, cty), ⟨hall, rfl⟩, rfl⟩
  constructor
  · apply lookupLast_eq
    · exact ⟨("d_" ++ p, cty ++ "*"),
        (mem_knownTypes _ _).mpr ⟨_, hc, p, hnames, Or.inr rfl⟩, rfl⟩
    · exact fun e he hk => hval e he (Or.inr hk)
  · apply lookupLast_eq
    · exact ⟨("s_" ++ p, cty ++ "*"),
        (mem_knownTypes _ _).mpr ⟨_, hc, p, hnames, Or.inl rfl⟩, rfl⟩
    · exact fun e he hk => hval e he (Or.inl hk)

set_option linter.unusedVariables false in
/-- per-thread scratch vectors: the parts of two threads do not overlap and lie
inside the allocation -/
theorem scratch_disjoint (size n i j k l : Nat) (hi : i < n) (hj : j < n) (hij : i ≠ j)
    (hk : k < size) (hl : l < size) :
    scratchOffset size i + k ≠ scratchOffset size j + l ∧
    scratchOffset size i + k < scratchAlloc size n := by
  have hkA := Nat.lt_of_lt_of_le hk (le_aligned8 size)
  have hlA := Nat.lt_of_lt_of_le hl (le_aligned8 size)
  unfold scratchOffset scratchAlloc
  constructor
  · -- the part of the lower thread ends before the part of the higher one begins
    rcases Nat.lt_or_gt_of_ne hij with h | h
    · exact Nat.ne_of_lt (Nat.lt_of_lt_of_le (scratch_lt_next _ i j k h hkA) (Nat.le_add_right _ _))
    · exact Nat.ne_of_gt (Nat.lt_of_lt_of_le (scratch_lt_next _ j i l h hlA) (Nat.le_add_right _ _))
  · rw [Nat.mul_comm (aligned8 size) n]
    exact scratch_lt_next _ i n k hi hkA

example : (wiring symbolsTable
    [{ uid := 0, name := "E", dest := "f", sources := ["s"], mInit := none, mInitPair := none,
       mLoop := some ["d_idx", "s_idx", "d_au", "s_m", "WIJ"], mLoopAll := none,
       mPostLoop := none }]).map (fun db => (db.dest, db.assigns.map (·.lhs),
         db.srcs.map (fun sb => (sb.source, sb.assigns.map (·.lhs))))) =
    [("f", ["d_au", "d_h", "d_x", "d_y", "d_z"], [("s", ["s_h", "s_m", "s_x", "s_y", "s_z"])])] := by
  decide +kernel

/-! ## 5. the callables of a group are called for that group

Whether the equations of a group run at all is decided by ITS `condition(t, dt)`, and ITS
`pre` / `post` run before / after it: each call site in the generated `compute` must refer to
the group in whose text it stands. -/

/-- the group objects are pairwise distinct (they are: each `MegaGroup` is a fresh object) -/
def DistinctObjects (gs : List GTop) : Prop := ((allNodes gs).map (fun np => np.1.uid)).Nodup

/-- Every `….condition(t, dt)`, `….pre()`, `….post()` of the generated `compute` refers to
`self.groups[i]` / `self.groups[i].data[k]` with (i, k) the POSITION of the group in whose text
the call stands — for every list of groups and sub-groups, whatever their `name`s are (none,
unique, or the same label on several of them). -/
theorem callsites_own_group (gs : List GTop) (hd : DistinctObjects gs) :
    ∀ s ∈ callSites gs, s.target = some s.site :=
  callSitesBy_own GNode.uid gs hd

/-- …and every callable a group has is called there: a group at position `p` with a
`condition` / `pre` / `post` has the site `(kind, p, p)`. -/
theorem callsites_complete (gs : List GTop) (hd : DistinctObjects gs) (np : GNode × GPos)
    (hnp : np ∈ allNodes gs) :
    (np.1.hasCond = true → (⟨.cond, np.2, some np.2⟩ : CallSite) ∈ callSites gs) ∧
    (np.1.hasPre = true → (⟨.pre, np.2, some np.2⟩ : CallSite) ∈ callSites gs) ∧
    (np.1.hasPost = true → (⟨.post, np.2, some np.2⟩ : CallSite) ∈ callSites gs) :=
  callSitesBy_complete GNode.uid gs hd np hnp

/-- the positions the map hands out are the positions of the group tree: top-level groups are
numbered in order, the sub-groups of each in order -/
theorem group_positions (gs : List GTop) :
    (allNodes gs).map (·.2) =
      gs.zipIdx.flatMap (fun gt =>
        (⟨gt.2, none⟩ : GPos) :: (List.range gt.1.subs.length).map (fun k => ⟨gt.2, some k⟩)) := by
  unfold allNodes
  rw [List.map_flatMap]
  congr 1
  funext gt
  -- the sub-groups are numbered by `enumerate`
  rw [topNodes, List.map_cons, List.map_map, List.range_eq_range',
    ← List.zipIdx_map_snd 0 gt.1.subs, List.map_map]
  rfl

/-- Why the key must be the object: if the map were keyed by `group.name`, two groups with
the same label would share one entry (the later assignment wins) — the first group would be
run under the SECOND group's condition, between the second group's pre and post. -/
theorem name_keyed_map_misdispatches :
    callSitesBy GNode.name
      [⟨⟨0, "density", true, true, true⟩, []⟩, ⟨⟨1, "density", true, true, true⟩, []⟩] =
    [⟨.cond, ⟨0, none⟩, some ⟨1, none⟩⟩, ⟨.pre, ⟨0, none⟩, some ⟨1, none⟩⟩,
     ⟨.post, ⟨0, none⟩, some ⟨1, none⟩⟩,
     ⟨.cond, ⟨1, none⟩, some ⟨1, none⟩⟩, ⟨.pre, ⟨1, none⟩, some ⟨1, none⟩⟩,
     ⟨.post, ⟨1, none⟩, some ⟨1, none⟩⟩] := by decide +kernel

/-- two top-level groups labelled `density`, a parent whose sub-groups are both labelled `sweep`
and a sub-group labelled like a top-level group -/
def sameNameGroups : List GTop :=
  [⟨⟨0, "density", true, true, false⟩, []⟩, ⟨⟨1, "density", true, false, true⟩, []⟩,
   ⟨⟨2, "outer", false, true, true⟩,
    [⟨3, "sweep", true, true, false⟩, ⟨4, "sweep", true, false, true⟩,
     ⟨5, "density", false, true, false⟩]⟩]

/-- non-vacuity: distinct objects with shared names, and every site is its own -/
example : DistinctObjects sameNameGroups ∧
    callSites sameNameGroups =
      [⟨.cond, ⟨0, none⟩, some ⟨0, none⟩⟩, ⟨.pre, ⟨0, none⟩, some ⟨0, none⟩⟩,
       ⟨.cond, ⟨1, none⟩, some ⟨1, none⟩⟩, ⟨.post, ⟨1, none⟩, some ⟨1, none⟩⟩,
       ⟨.pre, ⟨2, none⟩, some ⟨2, none⟩⟩,
       ⟨.cond, ⟨2, some 0⟩, some ⟨2, some 0⟩⟩, ⟨.pre, ⟨2, some 0⟩, some ⟨2, some 0⟩⟩,
       ⟨.cond, ⟨2, some 1⟩, some ⟨2, some 1⟩⟩, ⟨.post, ⟨2, some 1⟩, some ⟨2, some 1⟩⟩,
       ⟨.pre, ⟨2, some 2⟩, some ⟨2, some 2⟩⟩,
       ⟨.post, ⟨2, none⟩, some ⟨2, none⟩⟩] :=
  ⟨by unfold DistinctObjects; decide +kernel, by decide +kernel⟩

/-! ## 6. the methods of a group run for the destination indices the group asks for

`Group(start_idx=a, stop_idx=b, real=r)`: every loop of the block of a destination runs over
`range(D_START_IDX, NP_DEST, 1)` with the two limits the generator emits. -/

/-- For every option value (integer — 0 and negative ones included —, name of a
property/constant, `None`), every destination and every run-time state: the indices the
generated loops visit are exactly the documented `range(start, stop)`. -/
theorem dest_range_is_documented_range (σ : RtEnv) (dest : Name) (real : Bool) (start : StartIdx)
    (stop : StopIdx) (i : Int) :
    i ∈ loopIndices σ dest real start stop ↔
      docStart σ dest start ≤ i ∧ i < docStop σ dest real stop := by
  rw [loopIndices_eq, mem_pyRange]

/-- each index of that range is visited once: the loop makes as many steps as the range is long -/
theorem dest_range_length (σ : RtEnv) (dest : Name) (real : Bool) (start : StartIdx) (stop : StopIdx) :
    (loopIndices σ dest real start stop).length =
      (docStop σ dest real stop - docStart σ dest start).toNat := by
  rw [loopIndices_eq, pyRange_length]

/-- `stop_idx` "works like a range stop parameter": a stop at or below the start — the integer
0 with the default start in particular — leaves the group without any destination particle -/
theorem stop_at_or_below_start_runs_nothing (σ : RtEnv) (dest : Name) (real : Bool)
    (start : StartIdx) (stop : StopIdx) (h : docStop σ dest real stop ≤ docStart σ dest start) :
    loopIndices σ dest real start stop = [] := by
  rw [loopIndices_eq, pyRange_eq_nil _ _ h]

/-- the instance a truth-value test gets wrong: `stop_idx=0` with the default start -/
theorem stop_zero_runs_nothing (σ : RtEnv) (dest : Name) (real : Bool) :
    loopIndices σ dest real (.num 0) (.num 0) = [] :=
  stop_at_or_below_start_runs_nothing σ dest real _ _ (Int.le_refl 0)

/-- the defaults: all (real) particles of the destination, each once -/
theorem default_limits_run_all (σ : RtEnv) (dest : Name) (real : Bool) :
    loopIndices σ dest real (.num 0) .all =
      (List.range (σ.size dest real)).map (fun (k : Nat) => (k : Int)) :=
  (loopIndices_eq σ dest real _ _).trans (pyRange_zero _)

/-- Why `is None` and not the truth value: a generator that tests `not stop_idx` agrees with
the real one on every option but the integer 0 — and there it runs the group over ALL particles
of the destination instead of none. -/
theorem falsy_stop_runs_everything :
    let σ : RtEnv := { first := fun _ _ => 0, size := fun _ _ => 3 }
    loopIndicesFalsy σ "fluid" true (.num 0) (.num 0) = [0, 1, 2] ∧
    loopIndices σ "fluid" true (.num 0) (.num 0) = [] := by decide +kernel

/-- …and the integer 0 is the only option value on which the two generators emit different limits -/
theorem falsy_stop_differs_only_at_zero (dest : Name) (real : Bool) (stop : StopIdx)
    (h : stop ≠ .num 0) : stopExprFalsy dest real stop = stopExpr dest real stop := by
  cases stop with
  | all => rfl
  | ref p => rfl
  | num n =>
    have : n ≠ 0 := fun hn => h (by rw [hn])
    simp [stopExprFalsy, stopExpr, this]

/-- non-vacuity: a limit given by a constant of the destination, a frozen front of 2 particles -/
example :
    let σ : RtEnv := { first := fun d p => if d = "fluid" ∧ p = "n_fixed" then 2 else 7,
                       size := fun _ _ => 5 }
    loopIndices σ "fluid" true (.num 0) (.ref "n_fixed") = [0, 1] ∧
    loopIndices σ "fluid" false (.ref "n_fixed") .all = [2, 3, 4] := by decide +kernel

/-! ## 7. an equation object is re-created in C with attribute types that hold its values

`self.<var> = <Cls>(**equations[i].__dict__)`: every instance of a class NAME goes through the
one `cdef class` generated for that name; a `cdef public long` attribute silently truncates a
Python float. -/

/-- (`declsMerge`: the generator with `_get_representative`, equation.py) A numeric scalar
attribute is declared with a C type that holds the value of THAT instance — whatever the other
instances of the same class name carry (the representative must carry a numeric scalar there
too). -/
theorem wrapper_decl_holds_every_instance (insts : List Inst) (e : Inst) (he : e ∈ insts)
    (a : Name) (t : PyTag) (n : Nat) (hta : tagIn e a = some t) (ht : t.rank = some n)
    (r : Inst) (hr : lastOf insts e.cls = some r) (u : PyTag) (hu : (a, u) ∈ r.attrs)
    (m : Nat) (hm : u.rank = some m) :
    ∃ ty, (a, ty) ∈ declsMerge insts e.cls ∧
      ty = detectType (mergedTag (instsOf insts e.cls) a u) ∧ holds ty t = true := by
  refine ⟨_, ?_, rfl, ?_⟩
  · unfold declsMerge
    rw [hr]
    exact List.mem_map.mpr ⟨(a, u), hu, rfl⟩
  · obtain ⟨c, hc, _, hall⟩ := mergedTag_rank (instsOf insts e.cls) a u m hm
    exact holds_of_rank_le _ _ c n hc ht
      (hall e ((mem_instsOf insts e.cls e).mpr ⟨he, rfl⟩) t hta n ht)

/-- where all instances of a name agree on the type of every attribute (what the upstream
generator silently assumes) `declsMerge` and the upstream generator emit the same class -/
theorem wrapper_policies_agree_when_uniform (insts : List Inst) (c : Name)
    (h : ∀ r, lastOf insts c = some r → ∀ kv ∈ r.attrs, ∀ e ∈ instsOf insts c,
      tagIn e kv.1 = some kv.2 ∨ tagIn e kv.1 = none) :
    declsMerge insts c = declsLast insts c := by
  unfold declsMerge declsLast
  cases hl : lastOf insts c with
  | none => rfl
  | some r =>
    apply List.map_congr_left
    intro kv hkv
    rw [mergedTag_of_uniform _ _ _ (h r hl kv hkv)]

/-- Why the representative must be widened: typed from the LAST instance alone (`declsLast`,
the upstream generator), `[Scale(k=0.5), Scale(k=1)]` declares `long k`, which does not hold 0.5. -/
theorem last_instance_policy_truncates :
    let insts : List Inst := [⟨"Scale", [("k", .float)]⟩, ⟨"Scale", [("k", .int)]⟩]
    declsLast insts "Scale" = [("k", "long")] ∧ holds "long" .float = false ∧
    declsMerge insts "Scale" = [("k", "double")] := by decide +kernel

/-- Why the class text must be generated per evaluator: with a process-wide memo keyed by the
class NAME the second evaluator of a process gets the declarations made for the first —
`Scale(k=2)` first, then `Scale(k=0.5)` is re-created with `long k`. -/
theorem class_name_cache_goes_stale :
    cachedRun [[⟨"Scale", [("k", .int)]⟩], [⟨"Scale", [("k", .float)]⟩]] [] =
      [[("Scale", [("k", "long")])], [("Scale", [("k", "long")])]] ∧
    wrapperDecls declsLast [⟨"Scale", [("k", .float)]⟩] = [("Scale", [("k", "double")])] := by
  decide +kernel

example : wrapperDecls declsMerge
    [⟨"B", [("ca", .float), ("dest", .str)]⟩, ⟨"A", [("on", .bool)]⟩,
     ⟨"B", [("ca", .int), ("dest", .str)]⟩] =
    [("A", [("on", "int")]), ("B", [("ca", "double"), ("dest", "str")])] := by decide +kernel

/-- The break test polls EVERY equation object of the group (sub-groups included), each once,
in order -- whichever class of its hierarchy defines `converged`. -/
theorem break_test_polls_every_equation (g : IterGroup) :
    polled g = g.equations.map (·.var) := by
  cases g with
  | leaf eqs => rfl
  | parent subs => exact List.map_flatten.symm

/-- The convergence factor of the generated break test is true exactly when the `converged()`
of each equation of the group is positive (Group docstring: "until each equation's
converged() ... returns with a positive value"). -/
theorem break_test_iff_each_converged (g : IterGroup) (st : Name → Bool) :
    allConverged (polled g) st = true ↔ ∀ e ∈ g.equations, st e.var = true := by
  rw [allConverged_iff, break_test_polls_every_equation]
  exact List.forall_mem_map

/-- The generated loop makes the documented number of sweeps: the FIRST sweep
`k ≥ max(1, min_iterations)` after which every equation reports convergence, and
`max_iterations` if there is none before; it never stops while an equation of the group
still reports `converged() < 0` unless `max_iterations` is reached. -/
theorem iterated_group_sweeps_documented (g : IterGroup) (mn mx : Nat)
    (st : Nat → Name → Bool) (h1 : 1 ≤ mx) (h2 : mn ≤ mx) :
    ∃ k, groupSweeps (polled g) mn mx st = some k ∧ 1 ≤ k ∧ mn ≤ k ∧ k ≤ mx ∧
      ((∀ e ∈ g.equations, st k e.var = true) ∨ k = mx) ∧
      ∀ j, 1 ≤ j → mn ≤ j → j < k → ∃ e ∈ g.equations, st j e.var = false := by
  obtain ⟨k, hk, a, b, c, d, e⟩ := groupSweeps_spec (polled g) mn mx st h1 h2
  rw [break_test_polls_every_equation] at d e
  refine ⟨k, hk, a, b, c, d.imp_left List.forall_mem_map.mp, fun j hj1 hj2 hj3 => ?_⟩
  obtain ⟨v, hv, hf⟩ := e j hj1 hj2 hj3
  obtain ⟨eq, heq, rfl⟩ := List.mem_map.mp hv
  exact ⟨eq, heq, hf⟩

/-- Why the break test must not be restricted to the equations whose OWN class body defines
`converged`: an equation that inherits `converged` from a base equation class (reports
convergence after the 3rd sweep) keeps the generated loop going for 3 sweeps; polling by the
class `__dict__` leaves after `min_iterations` = 1 sweep. -/
theorem own_dict_polling_stops_early :
    let g := IterGroup.leaf [⟨"relax_weighted0", false⟩]
    let st : Nat → Name → Bool := fun k _ => decide (3 ≤ k)
    groupSweeps (polled g) 1 6 st = some 3 ∧ groupSweeps (polledOwnDict g) 1 6 st = some 1 := by
  decide +kernel

example : groupSweeps (polled (.parent [[⟨"a0", true⟩], [⟨"b0", false⟩, ⟨"c0", true⟩]])) 2 4
    (fun k v => if v = "b0" then decide (3 ≤ k) else true) = some 3 := by decide +kernel

/-- After `update_particle_arrays` every property AND every constant of the new array is
bound to the new array, whatever the wrapper was bound to before. -/
theorem rebind_binds_props_and_consts (w : Wrapper) (pa : PArrObj) (k : Name)
    (h : k ∈ pa.props ∨ k ∈ pa.consts) : setArray w pa k = some pa.id := by
  rw [setArray_get]
  rcases h with h | h <;> simp [h]

/-- ... for any history of re-bindings: with arrays of the same property and constant names
(the documented precondition of `update_particle_arrays`) every attribute the wrapper has ever
bound refers into the LAST array passed -- nothing stays bound to an array of before. -/
theorem rebind_history_leaves_nothing_stale (first : PArrObj) (later : List PArrObj) (last : PArrObj)
    (hp : ∀ pa ∈ first :: later, ∀ k, (k ∈ pa.props ∨ k ∈ pa.consts) →
      (k ∈ last.props ∨ k ∈ last.consts)) (k : Name) (i : Nat)
    (hk : rebindHistory first (later ++ [last]) k = some i) : i = last.id := by
  unfold rebindHistory at hk
  rw [List.foldl_append, List.foldl_cons, List.foldl_nil, setArray_get] at hk
  split at hk
  · exact (Option.some.inj hk).symm
  · next hn =>
    -- `k` was bound by an earlier array, whose names are names of `last`
    rcases foldl_setArray_bound (first :: later) (fun _ => none) k i hk with h | ⟨pa, hpa, hb⟩
    · cases h
    · refine absurd ?_ hn
      rcases hb with hb | hb | hb
      · exact (hp pa hpa k (Or.inr hb)).elim (Or.inr ∘ Or.inl) Or.inl
      · exact (hp pa hpa k (Or.inl hb)).elim (Or.inr ∘ Or.inl) Or.inl
      · exact Or.inr (Or.inr hb)

/-- Why the constants must be bound in `set_array` and not once in `__init__`: after
`update_particle_arrays` the properties refer into the new array and the constant still into
the array the evaluator was built with -- reads see the old value, writes land in the old array. -/
theorem consts_bound_once_go_stale :
    let a0 : PArrObj := ⟨0, ["x", "rho"], ["fac"]⟩
    let a1 : PArrObj := ⟨1, ["x", "rho"], ["fac"]⟩
    rebindHistoryConstsOnce a0 [a1] "rho" = some 1 ∧ rebindHistoryConstsOnce a0 [a1] "fac" = some 0 ∧
    rebindHistory a0 [a1] "fac" = some 1 := by decide +kernel

example : rebindHistory ⟨0, ["x"], ["c0"]⟩ [⟨1, ["x"], ["c0"]⟩, ⟨2, ["x"], ["c0"]⟩] "c0" = some 2 := by
  decide +kernel

end PysphVerif.Props.C02
