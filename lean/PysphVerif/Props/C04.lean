import PysphVerif.Lemmas.Stepper
import PysphVerif.Lemmas.StepperHist
import PysphVerif.Lemmas.StepperSession
import PysphVerif.Lemmas.FoldInv
import PysphVerif.Gen.Timesteps
/-!
# C04 — the compiled integrator performs `one_timestep` exactly as written

The theorems are about `Model/Stepper.lean` — `step`/`runR` transcribe the class generated from
`integrator_cython.mako`, `literalStep`/`literalRun` are the property's reading
of the same `one_timestep` body — and about the programs in
`Gen/Timesteps.lean`, which `translate/timestep2lean.py` re-derives from the
`one_timestep` sources on every run.

The statements hold for EVERY program in the language {initialize, stage k,
compute_accelerations i upd, update_domain, do_post_stage e k} (not only the
shipped ones), every assignment of steppers to arrays, every world (state type
and the seven operations the generated code invokes, e.g. the real particle
arrays, or the event log of the tracers), every `t`, `dt`, every number type
(no arithmetic law is used) and every sequence of consecutive steps.
-/
namespace PysphVerif.C04
open PysphVerif.Stepper

variable {σ τ : Type}

/-- One step of the compiled integrator leaves the world in the state obtained
by executing `one_timestep` literally: every `stageN()`/`initialize()` runs,
per array, the Python hook and then the stepper method on exactly the
particles whose tag is 0, with the step's `dt` and the current stage time;
`compute_accelerations(i, upd)` refreshes neighbours iff `upd` and evaluates
set `i` at that time; the callback gets `(t + stage_dt, dt, stage)`.
The only hypothesis is C06's alignment invariant (real particles first),
which is what lets the generated loop run over `range(size(real=True))`. -/
theorem stepper_refines_literal (A : Arith τ) (W : World σ τ) (hW : WorldAligned W)
    (cfg : Cfg) (prog : Program) (t dt : τ) (s : σ) :
    step A W cfg prog t dt s = literalStep A W cfg prog t dt s :=
  stepR_eq_literalStep A W hW cfg prog t dt _

/-- one array, tags `[2, 0]`, one real particle: the generated loop steps slot 0,
a ghost -/
def misalignedWorld : World (List Nat) Nat where
  hook := fun _ _ _ _ s => s
  stepOne := fun _ _ i _ _ s => s ++ [i]
  nReal := fun _ _ => 1
  tags := fun _ _ => [2, 0]
  nnpsUpdate := id
  evalAcc := fun _ _ _ s => s
  updateDomain := id
  callback := fun _ _ _ s => s

def natArith : Arith Nat where
  add := (· + ·)
  sub := (· - ·)
  mul := (· * ·)
  div := (· / ·)
  neg := id
  lit := fun n _ => n.toNat

/-- The alignment hypothesis of `stepper_refines_literal` cannot be dropped: in a
world whose arrays are not aligned the generated loop and the literal reading
differ. -/
theorem alignment_is_necessary :
    ∃ (cfg : Cfg) (prog : Program),
      step natArith misalignedWorld cfg prog 0 0 [] ≠
      literalStep natArith misalignedWorld cfg prog 0 0 [] := by
  refine ⟨{ arrays := [{ name := "a", sig := { methods := [.stage 1], hooks := [] } }],
            hasCallback := false, nEvals := 1 }, [.stage 1], ?_⟩
  decide

/-- In the tracer world (any hook behaviour): a stage wrapper, for one array,
emits the hook event (if the stepper has the hook) and then exactly the step
events of indices `0, 1, …, nReal-1` in this order, `nReal` being read AFTER
the hook ran; nothing else — in particular no index `≥ nReal` (the ghosts) —
and the sizes change only through the hook. -/
theorem stage_touches_exactly_real (grow : String → Meth → Nat) (m : Meth) (t dt : τ)
    (s : TState τ) (a : ArrayCfg) :
    let W := traceWorld grow
    let s1 := if m ∈ a.sig.hooks then W.hook a.name m t dt s else s
    wrapperDest W m t dt s a =
      { events := s1.events ++
          (if m ∈ a.sig.methods then
            (List.range (W.nReal a.name s1)).map (fun i => Event.step a.name m i t dt) else []),
        sizes := s1.sizes } :=
  wrapperDest_trace grow m t dt s a

/-- every array that has a stepper is visited exactly once per stage call:
the destination order is a permutation of the integrator's steppers -/
theorem dest_order_perm (cfg : Cfg) : (destOrder cfg).Perm cfg.arrays :=
  OrderedInsert.foldr_perm insertByName_cons (fun _ => rfl) cfg.arrays

/-- … and the visits happen in sorted name order (`sorted(steppers.keys())`) -/
theorem dest_order_sorted (cfg : Cfg) : (destOrder cfg).Pairwise NameLe :=
  OrderedInsert.foldr_pairwise (R := NameLe) insertByName_cons (fun _ => rfl)
    String.le_trans String.not_lt.mp
    (fun h => Std.le_of_lt (Decidable.not_not.mp h)) cfg.arrays

/-- After any prefix `done` of the pasted body the registers of the compiled
object are: `orig_t = t`, `dt = dt`, and `t` = the argument of the last
`do_post_stage` executed (`t + stage_dt`), or the step's `t` if there was none.
Every stage wrapper, hook and evaluator reads `self.t`, `self.dt`. -/
theorem stage_time_is_last_post_stage (A : Arith τ) (W : World σ τ) (cfg : Cfg)
    (t dt : τ) (done : List Cmd) (s : σ) :
    let r := (done.foldl (execCmd A W cfg t dt) ({ origT := t, t := t, dt := dt }, s)).1
    r.origT = t ∧ r.dt = dt ∧ r.t = stageTime A done t dt :=
  -- the register part of `execCmd` does not look at the world: no alignment needed
  foldl_prefix_inv (execCmd A W cfg t dt) (fun st done => RegsTrack A done t dt st.1) done _
    ⟨rfl, rfl, rfl⟩ fun st done c _ _ h => execCmd_regs A W cfg t dt done st.1 st.2 c h

/-- nothing leaks from one step into the next: whatever the registers held
(the previous step's `orig_t, t, dt`), `step(t, dt)` overwrites them first -/
theorem step_ignores_stale_registers (A : Arith τ) (W : World σ τ) (cfg : Cfg)
    (prog : Program) (t dt : τ) (r1 r2 : Regs τ) (s : σ) :
    stepR A W cfg prog t dt (r1, s) = stepR A W cfg prog t dt (r2, s) := rfl

/-- `k` consecutive steps on one compiled object are the fold of single steps,
each of which is the literal execution: for every history `(t₁,dt₁), …` the
final state is `literalRun`. -/
theorem multi_step_compose (A : Arith τ) (W : World σ τ) (hW : WorldAligned W)
    (cfg : Cfg) (prog : Program) (steps : List (τ × τ)) (r : Regs τ) (s : σ) :
    (runR A W cfg prog steps (r, s)).2 = literalRun A W cfg prog steps s := by
  exact (List.foldl_hom Prod.snd (g₂ := fun s (x : τ × τ) => literalStep A W cfg prog x.1 x.2 s)
    fun st x => (stepR_eq_literalStep A W hW cfg prog x.1 x.2 st).symm).symm

/-- a sequence of steps may be cut anywhere: the second part starts from the registers and the
world the first part leaves -/
theorem run_append (A : Arith τ) (W : World σ τ) (cfg : Cfg) (prog : Program)
    (xs ys : List (τ × τ)) (st : Regs τ × σ) :
    runR A W cfg prog (xs ++ ys) st = runR A W cfg prog ys (runR A W cfg prog xs st) := by
  simp [runR, List.foldl_append]

/-- With tracer steppers whose hooks leave the sizes alone, the event log of
one step is, statement by statement, `cmdEvents` at the stage time determined
by the statements before it (`specEvents`): nothing is reordered, dropped or
repeated. -/
theorem trace_closed_form (A : Arith τ) (cfg : Cfg) (prog : Program) (t dt : τ)
    (s : TState τ) :
    step A staticWorld cfg prog t dt s =
      { events := s.events ++ specEvents A cfg s.sizes prog t dt, sizes := s.sizes } := by
  rw [stepper_refines_literal A staticWorld (traceWorld_aligned _)]
  exact litGo_static A cfg t dt prog [] s

/-- The post-stage callback fires exactly once per `do_post_stage` statement,
in program order, with arguments `(t + stage_dt, dt, stage)`; never when no
callback is set. -/
theorem callback_once_per_stage (A : Arith τ) (cfg : Cfg) (prog : Program) (t dt : τ)
    (s : TState τ) (hs : s.events = []) :
    callbacksOf (step A staticWorld cfg prog t dt s).events =
      if cfg.hasCallback then
        (posts prog).map (fun x => (A.add t (x.1.eval A t dt), dt, x.2))
      else [] := by
  rw [trace_closed_form, hs, List.nil_append]
  exact callbacksOf_specGo A cfg s.sizes t dt prog []

/-- Every `one_timestep` in the tree calls its stages in order 1..n, reports
each with exactly one `do_post_stage(_, k)` before the next stage, and ends
the step at `t + dt`.  (Re-checked against the regenerated table on every run;
an integrator that skips or duplicates a post-stage call breaks this.) -/
theorem shipped_programs_well_staged :
    ∀ x ∈ Gen.Timesteps.programs, wellStaged x.2.2 = true := by
  decide +kernel

/-- For a well-staged program (all shipped ones are, see above) with a callback
set: the callback fires exactly once per stage, with stage numbers
`1, 2, …, n` in this order, always with the step's `dt`, and the last call
reports time `t + dt`. -/
theorem well_staged_callbacks (A : Arith τ) (cfg : Cfg) (prog : Program) (t dt : τ)
    (s : TState τ) (hs : s.events = []) (hcb : cfg.hasCallback = true)
    (hw : wellStaged prog = true) :
    let cbs := callbacksOf (step A staticWorld cfg prog t dt s).events
    cbs.map (·.2.2) = List.range' 1 cbs.length ∧
    (∀ c ∈ cbs, c.2.1 = dt) ∧
    (stagePosts prog ≠ [] → (cbs.map (·.1)).getLast? = some (A.add t dt)) := by
  rw [callback_once_per_stage A cfg prog t dt s hs, if_pos hcb]
  exact wellStaged_callbacks A prog t dt hw

/-- every shipped program leaves the register `t` at `t + dt` -/
theorem shipped_programs_end_at_t_plus_dt (A : Arith τ) (t dt : τ) :
    ∀ x ∈ Gen.Timesteps.programs, stageTime A x.2.2 t dt = A.add t dt := by
  -- read off the table once: the last `do_post_stage` of every program has `stage_dt = dt`
  have key : ∀ x ∈ Gen.Timesteps.programs, lastPost x.2.2 = some Expr.dt := by decide +kernel
  exact fun x hx => stageTime_of_lastPost A (key x hx) t dt

/-! ## histories of public calls on one integrator object

`Model/StepperHist.lean`: between steps the user calls `set_nnps`,
`set_post_stage_callback`, `set_fixed_h` (and may add particles).  The NNPS
objects and callbacks are identified by numbers. -/

section History
open PysphVerif.StepperHist

/-- For EVERY history of public calls (steps interleaved with `set_nnps`,
`set_post_stage_callback`, `set_fixed_h`, particles added between steps) on
one integrator object, the particles end in the state obtained by reading the
history literally: each step executes `one_timestep` literally with "the
integrator's NNPS" = the argument of the most recent `set_nnps` in the history
text (`compute_accelerations` refreshes THAT object, `update_domain` re-creates
ghosts through THAT object) and the callback of the most recent
`set_post_stage_callback` (none after `None`); the setters themselves do not
touch the particles.  Nothing an earlier step looked up survives into a later
one. -/
theorem history_refines_literal (A : Arith τ) (H : HWorld σ τ)
    (hH : ∀ p, WorldAligned (H.view p)) (cfg : Cfg) (prog : Program) (p0 : PyRegs)
    (ops : List (Op τ)) (r : Regs τ) (s : σ) :
    (runHist A H cfg prog ops { py := p0, regs := r, world := s }).world =
      literalHist A H cfg prog p0 ops s :=
  runHist_eq_litHistGo A H hH cfg prog p0 ops [] _ (pyAfter_nil p0).symm

set_option linter.unusedVariables false in
/-- the attributes of the object after a history are the arguments of the
most recent setter calls in the history text -/
theorem hist_attributes_are_last_set (A : Arith τ) (H : HWorld σ τ)
    (hH : ∀ p, WorldAligned (H.view p)) (cfg : Cfg) (prog : Program) (p0 : PyRegs)
    (ops : List (Op τ)) (r : Regs τ) (s : σ) :
    (runHist A H cfg prog ops { py := p0, regs := r, world := s }).py = pyAfter p0 ops := by
  -- no use of `hH`: the attributes do not depend on what the world does
  exact foldl_prefix_inv (applyOp A H cfg prog) (fun st done => st.py = pyAfter p0 done) ops _
    (pyAfter_nil p0).symm fun _ _ op _ _ h => pyAfter_snoc A H cfg prog p0 h op

/-- In the tracer world: after ANY history `ops`, the events a further step
appends refresh (`nnps k`) and re-create ghosts through (`domain k`) no NNPS
object other than the one given to the most recent `set_nnps` of `ops` (the
initial one if there was none), and call no callback object other than the one
given to the most recent `set_post_stage_callback`. -/
theorem refresh_targets_last_set_nnps (A : Arith τ) (grow : String → Meth → Nat) (cfg : Cfg)
    (prog : Program) (p0 : PyRegs) (ops : List (Op τ)) (r : Regs τ) (s : HState τ) (t dt : τ) :
    let st := runHist A (htraceWorld grow) cfg prog ops { py := p0, regs := r, world := s }
    ∃ new, (applyOp A (htraceWorld grow) cfg prog st (.step t dt)).world.events =
        st.world.events ++ new ∧
      (∀ k ∈ nnpsTargets new, k = (lastNnps ops).getD p0.nnps) ∧
      (∀ c ∈ callbackTargets new, some c = (lastCallback ops).getD p0.callback) := by
  intro st
  have hpy : st.py = pyAfter p0 ops :=
    hist_attributes_are_last_set A _ (htraceWorld_aligned grow) cfg prog p0 ops r s
  obtain ⟨new, hn, hp⟩ := step_onlyTargets A grow cfg prog st t dt
  rw [hpy] at hp
  exact ⟨new, hn, List.forall_mem_filterMap.mpr fun e he => (hp e he).1,
    List.forall_mem_filterMap.mpr fun e he => (hp e he).2⟩

/-- `set_fixed_h` has no influence on what a step does: histories that differ
only in their `set_fixed_h` calls (and the initial flag) leave the same
particles.  (An `update_domain` that is skipped "because h is fixed" breaks
this.) -/
theorem fixed_h_is_irrelevant_to_steps (A : Arith τ) (H : HWorld σ τ) (cfg : Cfg) (prog : Program)
    (ops : List (Op τ)) (st st' : HSt σ τ)
    (h1 : st.py.nnps = st'.py.nnps) (h2 : st.py.callback = st'.py.callback)
    (h3 : st.regs = st'.regs) (h4 : st.world = st'.world) :
    (runHist A H cfg prog ops st).world =
      (runHist A H cfg prog (ops.filter (fun o => o.fixedH?.isNone)) st').world :=
  (runHist_agree A H cfg prog ops ⟨h1, h2, h3, h4⟩).2.2.2

end History

/-! ## sessions: several integrators compiled one after the other in one process

What survives from one `SPHCompiler.compile()` to the next is the set of
extension modules already built, keyed by a digest of the WHOLE generated text
(`Model/StepperSession.lean`); `get_timestep_code` itself reads the text of the
object's own `one_timestep` and nothing else. -/

open PysphVerif.StepperHist PysphVerif.StepperSession

/-- In EVERY session -- any classes, in any order, whatever their `__module__`
and `__qualname__` (equal names included), starting from any consistent set of
modules built earlier -- every class gets the module rendered from ITS OWN
`one_timestep` text, provided the digest under which built modules are found
does not identify two different texts. -/
theorem session_compiles_own_text {κ ρ : Type} [DecidableEq κ] (digest : GenText ρ → κ)
    (hinj : ∀ a b, digest a = digest b → a = b) (built : Built κ ρ)
    (hb : Consistent digest built) (cs : List (IClass ρ)) :
    compileSession digest built cs = cs.map render := by
  induction cs generalizing built with
  | nil => rfl
  | cons c cs ih =>
    unfold compileSession compileOne
    rw [loadModule_fst digest hinj built hb, List.map_cons,
      ih _ (loadModule_consistent digest built hb _)]

/-- ... hence member `i` of any session, over any history of public calls,
leaves the particles in the state of the literal execution of the `one_timestep`
written in (or inherited by) ITS class: what was compiled before it in the
process is irrelevant. -/
theorem session_member_refines_literal {κ ρ : Type} [DecidableEq κ] (digest : GenText ρ → κ)
    (hinj : ∀ a b, digest a = digest b → a = b) (built : Built κ ρ)
    (hb : Consistent digest built) (cs : List (IClass ρ)) (i : Nat) (c : IClass ρ)
    (m : GenText ρ) (hc : cs[i]? = some c) (hm : (compileSession digest built cs)[i]? = some m)
    (A : Arith τ) (H : HWorld σ τ) (hH : ∀ p, WorldAligned (H.view p)) (cfg : Cfg)
    (p0 : PyRegs) (ops : List (Op τ)) (r : Regs τ) (s : σ) :
    (runHist A H cfg m.body ops { py := p0, regs := r, world := s }).world =
      literalHist A H cfg c.ownText p0 ops s := by
  rw [session_compiles_own_text digest hinj built hb, List.getElem?_map, hc] at hm
  cases hm
  exact history_refines_literal A H hH cfg c.ownText p0 ops r s

/-- the module a class gets does not depend on the session before it -/
theorem session_independent_of_earlier_members {κ ρ : Type} [DecidableEq κ]
    (digest : GenText ρ → κ) (hinj : ∀ a b, digest a = digest b → a = b)
    (built built' : Built κ ρ) (hb : Consistent digest built) (hb' : Consistent digest built')
    (pre pre' : List (IClass ρ)) (c : IClass ρ) :
    (compileSession digest built (pre ++ [c])).getLast? =
      (compileSession digest built' (pre' ++ [c])).getLast? := by
  rw [session_compiles_own_text digest hinj built hb,
    session_compiles_own_text digest hinj built' hb']
  simp

/-- The hypothesis is about something: remembering the body of `one_timestep`
per `(cls.__module__, cls.__qualname__)` -- a key that does identify different
texts -- gives the second of two equally named classes the first one's body. -/
theorem keying_by_class_name_is_unsound :
    ∃ c1 c2 : IClass Unit, c1.modName = c2.modName ∧ c1.qualName = c2.qualName ∧
      (sessionNameKeyed [] [c1, c2]).map GenText.body ≠ [c1.ownText, c2.ownText] := by
  refine ⟨⟨"m", "make.<locals>.GenIntegrator", [.stage 2, .stage 1], ()⟩,
    ⟨"m", "make.<locals>.GenIntegrator", [.stage 1, .stage 2], ()⟩, rfl, rfl, ?_⟩
  decide +kernel

/-- a concrete run: PEC integrator, two arrays (keyword order `b, a`), `b`
with a `py_stage1` hook, callback set -/
def exCfg : Cfg :=
  { arrays := [{ name := "b", sig := { methods := [.initialize, .stage 1, .stage 2],
                                       hooks := [.stage 1] } },
               { name := "a", sig := { methods := [.stage 1, .stage 2], hooks := [] } }],
    hasCallback := true, nEvals := 1 }

def exState : TState Rat := { events := [], sizes := [("b", 2, 1), ("a", 1, 2)] }

example : wellFormed exCfg Gen.Timesteps.prog_pysph_sph_integrator_PECIntegrator = true := by
  decide

example :
    callbacksOf (step Arith.rat staticWorld exCfg
      Gen.Timesteps.prog_pysph_sph_integrator_PECIntegrator 1 (1/4) exState).events =
      [((9 : Rat)/8, (1 : Rat)/4, 1), ((5 : Rat)/4, (1 : Rat)/4, 2)] := by
  decide +kernel

example : (step Arith.rat staticWorld exCfg
      Gen.Timesteps.prog_pysph_sph_integrator_PECIntegrator 1 (1/4) exState).events.length = 15 := by
  decide +kernel

example : WorldAligned (traceWorld (τ := Rat) (fun _ _ => 1)) := traceWorld_aligned _

/-- a concrete history: step, replace the NNPS (object 0 -> 7) and the callback
(object 0 -> 3), step again: the second step refreshes object 7 only -/
example :
    open PysphVerif.StepperHist in
    nnpsTargets (runHist Arith.rat (htraceWorld (fun _ _ => 0)) exCfg
      Gen.Timesteps.prog_pysph_sph_integrator_PECIntegrator
      [.step 1 (1/4), .setNnps 7, .setCallback (some 3), .setFixedH true, .step (5/4) (1/4)]
      { py := { nnps := 0, callback := some 0, fixedH := false },
        regs := { origT := 0, t := 0, dt := 0 },
        world := { events := [], sizes := [("b", 2, 1), ("a", 1, 2)] } }).world.events = [0, 0, 0, 7, 7, 7] := by
  decide +kernel

example :
    open PysphVerif.StepperHist in
    callbackTargets (runHist Arith.rat (htraceWorld (fun _ _ => 0)) exCfg
      Gen.Timesteps.prog_pysph_sph_integrator_PECIntegrator
      [.step 1 (1/4), .setNnps 7, .setCallback (some 3), .step (5/4) (1/4), .setCallback none,
       .step (3/2) (1/4)]
      { py := { nnps := 0, callback := some 0, fixedH := false },
        regs := { origT := 0, t := 0, dt := 0 },
        world := { events := [], sizes := [("b", 2, 1), ("a", 1, 2)] } }).world.events = [0, 0, 3, 3] := by
  decide +kernel

/-- a session of three classes, two of them with equal names and different
texts, the third inheriting the text of the first; modules found by the text
itself (`digest = id`); one module of another text already built -/
example :
    (compileSession (κ := GenText Unit) id
        [({ body := [.stage 3], rest := () }, { body := [.stage 3], rest := () })]
        [⟨"m", "f.<locals>.I", [.stage 2, .stage 1], ()⟩,
         ⟨"m", "f.<locals>.I", [.stage 1, .stage 2], ()⟩,
         ⟨"m", "J", [.stage 2, .stage 1], ()⟩]).map GenText.body =
      ([[.stage 2, .stage 1], [.stage 1, .stage 2], [.stage 2, .stage 1]] : List (List Cmd)) := by
  decide

end PysphVerif.C04

