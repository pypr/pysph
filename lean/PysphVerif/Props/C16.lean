import PysphVerif.Lemmas.InletOutlet
import PysphVerif.Lemmas.InletOutletMirror
import Mathlib.Tactic.Ring
import Mathlib.Algebra.Order.Field.Basic
import PysphVerif.Lemmas.OrderChain
/-!
# C16 — inlets and outlets move each particle across exactly once

Property theorems about `Model/InletOutlet.lean`, for every state, every zone
(any refpoint, normal, length, tolerance), every number type carrying the
operations the code uses, every `props_to_copy` mask and default values.
Lists are particle arrays; `l₁.Perm l₂` ("the same particles up to slot
order") is how "exactly once / nothing created, duplicated or lost" is said.
-/
set_option linter.unusedSectionVars false

namespace PysphVerif.Props.C16
open PysphVerif.InletOutlet List

variable {α : Type} [Add α] [Sub α] [Mul α] [Neg α] [LT α] [DecidableLT α]
  [OfNat α 1] [OfNat α 2]

/-- the inlet / fluid / outlet array as `IOEvaluate` leaves it (only the working
properties `disp`, `ioid` change) -/
def inletEval (zn : Zone α) (s : State α) : List (Particle α) := s.inlet.map (evalOne zn zn.len)
def fluidEval (zn : Zone α) (s : State α) : List (Particle α) := s.fluid.map (evalOne zn zn.big)
def outletEval (zn : Zone α) (s : State α) : List (Particle α) := s.outlet.map (evalOne zn zn.len)

/-- the inlet particles that left the inlet zone on the fluid side: in the
real-particle view, zone id 0 -/
def crossing (zn : Zone α) (s : State α) : List (Particle α) :=
  (realView (inletEval zn s)).filter (ioidIs 0)

/-- the fluid particles beyond the outlet plane: real-particle view, zone id 1 -/
def leaving (zn : Zone α) (s : State α) : List (Particle α) :=
  (realView (fluidEval zn s)).filter (ioidIs 1)

/-- what the inlet update does to one particle of the real-particle view -/
def recycle (zn : Zone α) (p : Particle α) : Particle α := if ioidIs 0 p then shiftUp zn p else p

/-- the update of the inlet's own coordinates cannot raise (`modifyAt_self`); the one of its ghost can -/
theorem inletBody_spec (zn : Zone α) (dF : Particle α) (s s' : State α)
    (h : inletBody zn dF s = some s') :
    s'.fluid = extractInto Mask.all dF (inletEval zn s)
        (whereFrom (ioidIs 0) 0 (realView (inletEval zn s))) (fluidEval zn s) ∧
    s'.inlet = (realView (inletEval zn s)).map (recycle zn)
        ++ (inletEval zn s).drop (nReal (inletEval zn s)) ∧
    s'.outlet = s.outlet ∧ s'.ghostOut = s.ghostOut ∧
    s'.urefIn = s.urefIn ∧ s'.urefFluid = s.urefFluid ∧
    (match s.ghostIn with
     | none => s'.ghostIn = none
     | some g => ∃ g2, modifyAt (shiftDown zn)
         (whereFrom (ioidIs 0) 0 (realView (inletEval zn s))) g = some g2 ∧
         s'.ghostIn = some g2) := by
  unfold inletBody at h
  simp only [modifyAt_self] at h
  cases hg : s.ghostIn with
  | none =>
    rw [hg] at h; simp only at h; cases h
    -- projections first, or the unifier evaluates `extractInto` on the open arrays
    dsimp only
    exact ⟨rfl, rfl, rfl, rfl, rfl, rfl, rfl⟩
  | some g =>
    rw [hg] at h; simp only at h
    split at h
    · cases h
    · rename_i g2 hg2
      cases h
      dsimp only
      exact ⟨rfl, rfl, rfl, rfl, rfl, rfl, g2, hg2, rfl⟩

/-- **A particle leaving the inlet zone appears exactly once in the fluid with
its properties copied**: after the update the fluid array is, up to slot
order, the old fluid array plus one whole-record copy of every crossing inlet
particle — nothing else is created, duplicated or lost. -/
theorem inlet_copy_exactly_once_per_crossing (zn : Zone α) (dF : Particle α) (s s' : State α)
    (h : inletBody zn dF s = some s') :
    s'.fluid.Perm (fluidEval zn s ++ crossing zn s) := by
  rw [(inletBody_spec zn dF s s' h).1]
  have := extractInto_perm Mask.all dF (ioidIs 0) (inletEval zn s) (fluidEval zn s)
  rwa [List.map_id'' (copyInto_all dF)] at this

/-- **… while its inlet original is recycled one zone length upstream**: the
inlet array keeps every slot; exactly the crossing particles are translated by
`+length·normal`, everything else (other particles, other properties) stays. -/
theorem inlet_recycled_one_length (zn : Zone α) (dF : Particle α) (s s' : State α)
    (h : inletBody zn dF s = some s') :
    s'.inlet = (realView (inletEval zn s)).map (recycle zn)
        ++ (inletEval zn s).drop (nReal (inletEval zn s)) :=
  (inletBody_spec zn dF s s' h).2.1

/-- the inlet never gains or loses a particle -/
theorem inlet_count_constant (zn : Zone α) (dF : Particle α) (s s' : State α)
    (h : inletBody zn dF s = some s') : s'.inlet.length = s.inlet.length := by
  -- the recycled view and the untouched rest are `take` and `drop` of the evaluated array
  rw [inlet_recycled_one_length zn dF s s' h, length_append, length_map, ← length_append, realView,
    take_append_drop, inletEval, length_map]

/-- the ghost of the inlet is shifted by `-length·normal` in exactly the slots
whose inlet particle was recycled (needs the ghost array to cover the view) -/
theorem inlet_ghost_recycled (zn : Zone α) (dF : Particle α) (s s' : State α)
    (g : List (Particle α)) (hg : s.ghostIn = some g) (hlen : s.inlet.length ≤ g.length)
    (h : inletBody zn dF s = some s') :
    s'.ghostIn = some (List.zipWith (fun p q => if ioidIs 0 p then shiftDown zn q else q)
        (realView (inletEval zn s)) (g.take (nReal (inletEval zn s)))
        ++ g.drop (nReal (inletEval zn s))) := by
  have hs := (inletBody_spec zn dF s s' h).2.2.2.2.2.2
  rw [hg] at hs
  obtain ⟨g2, hg2, hs'⟩ := hs
  rw [hs']
  have hn : nReal (inletEval zn s) ≤ g.length := by
    have h1 := nReal_le_length (inletEval zn s)
    have h2 : (inletEval zn s).length = s.inlet.length := by simp [inletEval]
    omega
  rw [modifyAt_other (ioidIs 0) (shiftDown zn) (inletEval zn s) g g2 hn hg2]

/-- the inlet update does not touch the outlet side -/
theorem inlet_nothing_else_changes (zn : Zone α) (dF : Particle α) (s s' : State α)
    (h : inletBody zn dF s = some s') :
    s'.outlet = s.outlet ∧ s'.ghostOut = s.ghostOut ∧ s'.urefIn = s.urefIn ∧
    s'.urefFluid = s.urefFluid :=
  let t := inletBody_spec zn dF s s' h
  ⟨t.2.2.1, t.2.2.2.1, t.2.2.2.2.1, t.2.2.2.2.2.1⟩

/-- without a ghost array the inlet update never raises (with one, `modifyAt` on the ghost
returns `none` when a selected index lies beyond the ghost's real-particle view: numpy's
`IndexError`) -/
theorem inlet_no_ghost_succeeds (zn : Zone α) (dF : Particle α) (s : State α)
    (hg : s.ghostIn = none) : ∃ s', inletBody zn dF s = some s' := by
  unfold inletBody
  simp only [modifyAt_self, hg]
  exact ⟨_, rfl⟩

/-- an update at an inactive stage changes nothing -/
theorem inactive_stage_is_identity (zn : Zone α) (m : Mask) (dF dO dG : Particle α) (s : State α) :
    inletUpdate zn dF false s = some s ∧ outletUpdate zn m dO false s = some s ∧
    mirrorOutletUpdate zn m dO dG false s = some s := ⟨rfl, rfl, rfl⟩

/-- hybrid `Inlet.update`: the same bookkeeping on the same arrays; only the
fluid's `uref` constant is averaged first -/
theorem hybrid_inlet_same_bookkeeping (half : α) (zn : Zone α) (dF : Particle α) (s s' : State α)
    (h : hybridInletUpdate half zn dF true s = some s') :
    s'.fluid.Perm (fluidEval zn s ++ crossing zn s) ∧
    s'.inlet = (realView (inletEval zn s)).map (recycle zn)
        ++ (inletEval zn s).drop (nReal (inletEval zn s)) ∧
    s'.outlet = s.outlet ∧ s'.urefFluid = half * (s.urefIn + s.urefFluid) := by
  unfold hybridInletUpdate at h
  simp only [if_true] at h
  have h1 := inlet_copy_exactly_once_per_crossing zn dF _ s' h
  have h2 := inlet_recycled_one_length zn dF _ s' h
  have h3 := inlet_nothing_else_changes zn dF _ s' h
  exact ⟨h1, h2, h3.1, h3.2.2.2⟩

/-- the outlet array after the arrivals, before the far-end deletion -/
def outletMid (zn : Zone α) (m : Mask) (dO : Particle α) (s : State α) : List (Particle α) :=
  extractInto m dO (fluidEval zn s) (whereFrom (ioidIs 1) 0 (realView (fluidEval zn s)))
    (outletEval zn s)

/-- the outlet particles deleted at the far end: real-particle view, zone id 2 -/
def deleted (zn : Zone α) (m : Mask) (dO : Particle α) (s : State α) : List (Particle α) :=
  (realView (outletMid zn m dO s)).filter (ioidIs 2)

/-- the base outlet update never raises: both `remove_particles` calls get `np.where`
indices of the array they shrink -/
theorem outletBody_eq (zn : Zone α) (m : Mask) (dO : Particle α) (s : State α) :
    outletBody zn m dO s = some { s with fluid := removeWhere (ioidIs 1) (fluidEval zn s),
                                          outlet := removeWhere (ioidIs 2) (outletMid zn m dO s) } := by
  simp only [outletBody, removeParticles_where]
  rfl

theorem outletBody_spec (zn : Zone α) (m : Mask) (dO : Particle α) (s s' : State α)
    (h : outletBody zn m dO s = some s') :
    removeParticles (whereFrom (ioidIs 1) 0 (realView (fluidEval zn s))) (fluidEval zn s)
      = some s'.fluid ∧
    removeParticles (whereFrom (ioidIs 2) 0 (realView (outletMid zn m dO s))) (outletMid zn m dO s)
      = some s'.outlet ∧
    s'.inlet = s.inlet ∧ s'.ghostIn = s.ghostIn ∧ s'.ghostOut = s.ghostOut ∧
    s'.urefIn = s.urefIn ∧ s'.urefFluid = s.urefFluid := by
  rw [outletBody_eq] at h
  cases h
  -- projections first: the unifier would otherwise evaluate `removeWhere` on the open arrays
  dsimp only
  exact ⟨removeParticles_where _ _, removeParticles_where _ _, rfl, rfl, rfl, rfl, rfl⟩

/-- **A fluid particle crossing the outlet plane moves exactly once to the
outlet array** (fluid side): the old fluid array is, up to order, the new
fluid array plus the leaving particles — they are gone from the fluid, nothing
else is. -/
theorem outlet_move_exactly_once_fluid (zn : Zone α) (m : Mask) (dO : Particle α) (s s' : State α)
    (h : outletBody zn m dO s = some s') :
    (s'.fluid ++ leaving zn s).Perm (fluidEval zn s) :=
  removeParticles_perm (ioidIs 1) _ _ (outletBody_spec zn m dO s s' h).1

/-- (outlet side) the outlet array after the update plus what was deleted at
its far end is, up to order, the old outlet array plus exactly one copy
(`props_to_copy` from the particle, the rest the outlet's defaults) of every
leaving fluid particle. -/
theorem outlet_move_exactly_once (zn : Zone α) (m : Mask) (dO : Particle α) (s s' : State α)
    (h : outletBody zn m dO s = some s') :
    (s'.outlet ++ deleted zn m dO s).Perm
      (outletEval zn s ++ (leaving zn s).map (copyInto m dO)) :=
  (removeParticles_perm (ioidIs 2) _ _ (outletBody_spec zn m dO s s' h).2.1).trans
    (extractInto_perm m dO (ioidIs 1) (fluidEval zn s) (outletEval zn s))

/-- **A particle leaving the far end of the outlet zone is deleted**: every
deleted particle was in the outlet's real-particle view with zone id 2, and no
such particle survives in the view's image: the survivors and the deleted
partition the outlet array. -/
theorem outlet_delete_far (zn : Zone α) (m : Mask) (dO : Particle α) (s s' : State α)
    (h : outletBody zn m dO s = some s') :
    (∀ p ∈ deleted zn m dO s, p ∈ realView (outletMid zn m dO s) ∧ p.ioid = 2) ∧
    (s'.outlet ++ deleted zn m dO s).Perm (outletMid zn m dO s) := by
  refine ⟨?_, removeParticles_perm (ioidIs 2) _ _ (outletBody_spec zn m dO s s' h).2.1⟩
  intro p hp
  have := List.mem_filter.mp hp
  exact ⟨this.1, by simpa [ioidIs] using this.2⟩

/-- the outlet update does not touch the inlet side -/
theorem outlet_nothing_else_changes (zn : Zone α) (m : Mask) (dO : Particle α) (s s' : State α)
    (h : outletBody zn m dO s = some s') :
    s'.inlet = s.inlet ∧ s'.ghostIn = s.ghostIn ∧ s'.ghostOut = s.ghostOut ∧
    s'.urefIn = s.urefIn ∧ s'.urefFluid = s.urefFluid :=
  (outletBody_spec zn m dO s s' h).2.2

/-- the base outlet update never raises -/
theorem outlet_succeeds (zn : Zone α) (m : Mask) (dO : Particle α) (s : State α) :
    ∃ s', outletBody zn m dO s = some s' :=
  ⟨_, outletBody_eq zn m dO s⟩

/-- sharp form of **deleted at the far end**: when the outlet array is aligned
on entry (its real-particle view is its Local particles) and no arriving copy
carries zone id 2, the deleted particles are exactly the old Local outlet
particles beyond the far end — the arrivals of this very call are never
deleted, and no other outlet particle is. -/
theorem outlet_deletes_exactly_far_local (zn : Zone α) (m : Mask) (dO : Particle α) (s : State α)
    (hal : (realView (outletEval zn s)).Perm ((outletEval zn s).filter isLocal))
    (hnew : ∀ p ∈ leaving zn s, ioidIs 2 (copyInto m dO p) = false) :
    (deleted zn m dO s).Perm
      ((outletEval zn s).filter (fun p => ioidIs 2 p && isLocal p)) :=
  extractInto_far_filter m dO (ioidIs 1) (ioidIs 2) (fluidEval zn s) (outletEval zn s) hal hnew

/-- with `ioid` among `props_to_copy` the arrivals carry zone id 1, so the
side condition of `outlet_deletes_exactly_far_local` holds -/
theorem arrivals_not_far_when_ioid_copied (zn : Zone α) (m : Mask) (dO : Particle α) (s : State α)
    (hm : m.ioid = true) : ∀ p ∈ leaving zn s, ioidIs 2 (copyInto m dO p) = false := by
  intro p hp
  have h1 : p.ioid = 1 := by
    have := (List.mem_filter.mp hp).2
    simpa [ioidIs] using this
  simp [ioidIs, copyInto, hm, h1]

/-- what the mirror outlet appends to the outlet array: `arrivals (ioidIs 1)
(copyInto m { dO with tag := 0 }) (fluidEval zn s)` of `Lemmas/InletOutletMirror.lean` written
out, so that `mirrorOutletBody` unfolds to it; the lemmas on `arrivals` apply by unfolding -/
def mirrorArrivals (zn : Zone α) (m : Mask) (dO : Particle α) (s : State α) : List (Particle α) :=
  if (whereFrom (ioidIs 1) 0 (realView (fluidEval zn s))).length = 0 then []
  else realView (align ((gather (whereFrom (ioidIs 1) 0 (realView (fluidEval zn s)))
      (fluidEval zn s)).map (copyInto m { dO with tag := 0 })))

/-- the outlet array after the arrivals, before the far-end deletion (mirror family) -/
def mirrorMid (zn : Zone α) (m : Mask) (dO : Particle α) (s : State α) : List (Particle α) :=
  addParticles (mirrorArrivals zn m dO s) (outletEval zn s)

/-- the outlet particles the mirror outlet deletes at the far end -/
def mirrorDeleted (zn : Zone α) (m : Mask) (dO : Particle α) (s : State α) : List (Particle α) :=
  (realView (mirrorMid zn m dO s)).filter (ioidIs 2)

/-- the ghost array apart (`mirrorOutletBody_ghost_spec`); the update can raise on the ghost side only -/
theorem mirrorOutletBody_spec (zn : Zone α) (m : Mask) (dO dG : Particle α) (s s' : State α)
    (h : mirrorOutletBody zn m dO dG s = some s') :
    removeParticles (whereFrom (ioidIs 1) 0 (realView (fluidEval zn s))) (fluidEval zn s)
      = some s'.fluid ∧
    removeParticles (whereFrom (ioidIs 2) 0 (realView (mirrorMid zn m dO s))) (mirrorMid zn m dO s)
      = some s'.outlet ∧
    s'.inlet = s.inlet ∧ s'.ghostIn = s.ghostIn ∧
    s'.urefIn = s.urefIn ∧ s'.urefFluid = s.urefFluid := by
  unfold mirrorOutletBody at h
  -- the removals from fluid and outlet cannot raise
  simp only [removeParticles_where] at h
  split at h
  · cases h
  · split at h
    · cases h
      dsimp only
      exact ⟨removeParticles_where _ _, removeParticles_where _ _, rfl, rfl, rfl, rfl⟩
    · split at h
      · cases h
      · cases h
        dsimp only
        exact ⟨removeParticles_where _ _, removeParticles_where _ _, rfl, rfl, rfl, rfl⟩

/-- mirror family, fluid side: the leaving particles are gone from the fluid,
nothing else is -/
theorem mirror_outlet_move_exactly_once_fluid (zn : Zone α) (m : Mask) (dO dG : Particle α)
    (s s' : State α) (h : mirrorOutletBody zn m dO dG s = some s') :
    (s'.fluid ++ leaving zn s).Perm (fluidEval zn s) :=
  removeParticles_perm (ioidIs 1) _ _ (mirrorOutletBody_spec zn m dO dG s s' h).1

theorem addParticles_perm (given l : List (Particle α)) :
    (addParticles given l).Perm (l ++ given) := by
  unfold addParticles
  split
  · exact align_perm _
  · exact List.Perm.refl _

theorem copyInto_tag0_local (m : Mask) (dO p : Particle α) (hp : isLocal p = true) :
    isLocal (copyInto m { dO with tag := 0 } p) = true := by
  -- the tag is the default, `0`, or the particle's own
  unfold isLocal copyInto
  cases m.tag
  · rfl
  · exact hp

private theorem mirror_outlet_delete_far (zn : Zone α) (m : Mask) (dO dG : Particle α)
    (s s' : State α) (h : mirrorOutletBody zn m dO dG s = some s') :
    (s'.outlet ++ mirrorDeleted zn m dO s).Perm (outletEval zn s ++ mirrorArrivals zn m dO s) :=
  (removeParticles_perm (ioidIs 2) _ _ (mirrorOutletBody_spec zn m dO dG s s' h).2.1).trans
    (addParticles_perm _ _)

/-- mirror family, outlet side: provided the leaving particles are Local (they
are whenever the fluid array is aligned), the outlet gains exactly one copy of
each and loses exactly what is deleted at the far end. -/
theorem mirror_outlet_move_exactly_once (zn : Zone α) (m : Mask) (dO dG : Particle α)
    (s s' : State α) (h : mirrorOutletBody zn m dO dG s = some s')
    (hloc : ∀ p ∈ leaving zn s, isLocal p = true) :
    (s'.outlet ++ mirrorDeleted zn m dO s).Perm
      (outletEval zn s ++ (leaving zn s).map (copyInto m { dO with tag := 0 })) := by
  refine (mirror_outlet_delete_far zn m dO dG s s' h).trans (List.Perm.append_left _ ?_)
  -- every arrival is Local, so the real view of the aligned temporary array is all of it
  exact (arrivals_perm (ioidIs 1) _ (fluidEval zn s)).trans (List.Perm.of_eq (List.filter_eq_self.mpr
    (List.forall_mem_map.mpr (fun p hp => copyInto_tag0_local m dO p (hloc p hp)))))

/-- the outlet's ghost array after the reflected arrivals were appended, before
the far-end deletion (`ghost_pa.add_particles(**pa_add.get_property_arrays())`
under `if len(all_idx) > 0`) -/
def mirrorGhostMid (zn : Zone α) (m : Mask) (dG : Particle α) (s : State α)
    (g : List (Particle α)) : List (Particle α) :=
  if (whereFrom (ioidIs 1) 0 (realView (fluidEval zn s))).length > 0 then
    addParticles (realView (align ((gather (whereFrom (ioidIs 1) 0 (realView (fluidEval zn s)))
      (fluidEval zn s)).map (fun p => copyInto m { dG with tag := 0 } (reflect zn p))))) g
  else g

/-- with a ghost array a successful mirror update leaves a ghost array: the one
after the arrivals with the SAME index list removed that was removed from the
outlet array -/
theorem mirrorOutletBody_ghost_spec (zn : Zone α) (m : Mask) (dO dG : Particle α) (s s' : State α)
    (g : List (Particle α)) (hg : s.ghostOut = some g)
    (h : mirrorOutletBody zn m dO dG s = some s') :
    ∃ g', s'.ghostOut = some g' ∧
      removeParticles (whereFrom (ioidIs 2) 0 (realView (mirrorMid zn m dO s)))
        (mirrorGhostMid zn m dG s g) = some g' := by
  unfold mirrorOutletBody at h
  simp only [hg, removeParticles_where] at h
  split at h
  · cases h
  · rename_i gh2 hgh
    -- with a ghost array the update either raises or goes on with the ghost array after the arrivals
    have hg2 : gh2 = some (mirrorGhostMid zn m dG s g) := by
      unfold mirrorGhostMid fluidEval
      split at hgh
      · rename_i hpos
        rw [if_pos hpos]
        split at hgh
        · exact (Option.some.inj hgh).symm
        · cases hgh
      · rename_i hpos
        rw [if_neg hpos]
        exact (Option.some.inj hgh).symm
    subst hg2
    dsimp only at h
    split at h
    · cases h
    · rename_i g3 hg3
      cases h
      exact ⟨g3, rfl, hg3⟩

/-- **The mirror family's ghost array stays index-aligned with the outlet
array** (same length, slot `k` of the ghost carries the label of slot `k` of the
outlet) through `mirrorOutletBody`, given it is aligned on entry, every particle
of fluid, outlet and ghost is Local and `lbl` is among `props_to_copy`.
Why: both arrays get the arrivals appended in the same order (the reflection
keeps the label), then `remove_particles` is called with one index list on
both, and the swap-remove performs a slot permutation that depends on the index
list and the array length only (`removeRows_map`); with all
particles Local `align_particles` makes no move.
Neither `m.x = m.y = m.z = m.u = true` nor `g.length = s.outlet.length` is
assumed: if `x y z u` are not all copied and a particle arrives, the update
raises, contradicting `h`; equal length follows from equal labels. -/
theorem mirror_ghost_stays_aligned (zn : Zone α) (m : Mask) (dO dG : Particle α) (s s' : State α)
    (g g' : List (Particle α))
    (hg : s.ghostOut = some g)
    (hloc : ∀ p ∈ s.fluid ++ s.outlet ++ g, isLocal p = true)
    (hl : m.lbl = true)
    (hal : List.map (·.lbl) g = List.map (·.lbl) s.outlet)
    (h : mirrorOutletBody zn m dO dG s = some s') (hg' : s'.ghostOut = some g') :
    List.map (·.lbl) g' = List.map (·.lbl) s'.outlet ∧ g'.length = s'.outlet.length := by
  have hF : ∀ p ∈ fluidEval zn s, isLocal p = true :=
    evalOne_all_local zn _ _ (fun p hp => hloc p (List.mem_append_left _ (List.mem_append_left _ hp)))
  have hO : ∀ p ∈ outletEval zn s, isLocal p = true :=
    evalOne_all_local zn _ _ (fun p hp => hloc p (List.mem_append_left _ (List.mem_append_right _ hp)))
  have hG : ∀ p ∈ g, isLocal p = true := fun p hp => hloc p (List.mem_append_right _ hp)
  obtain ⟨g3, hg3, hr⟩ := mirrorOutletBody_ghost_spec zn m dO dG s s' g hg h
  rw [hg'] at hg3
  cases hg3
  have hO' := labels_after_arrivals_removal (ioidIs 1) _ (fluidEval zn s) (outletEval zn s) _ _ hF hO
    (copyInto_tag0_local m dO) (fun p => copyInto_lbl m _ p hl)
    (mirrorOutletBody_spec zn m dO dG s s' h).2.1
  rw [mirrorGhostMid, addParticles_arrivals_guarded] at hr
  have hG' := labels_after_arrivals_removal (ioidIs 1) _ (fluidEval zn s) g _ _ hF hG
    (fun p hp => copyInto_tag0_local m dG (reflect zn p) hp)
    (fun p => copyInto_lbl m _ (reflect zn p) hl) hr
  have : List.map (·.lbl) g' = List.map (·.lbl) s'.outlet := by
    rw [hO', hG', hal, outletEval, map_lbl_evalOne]
  exact ⟨this, by simpa using congrArg List.length this⟩

/-- one inlet/outlet pair: zones, default values of fluid / outlet / outlet-ghost
arrays, `props_to_copy`, the `0.5` of the hybrid family -/
structure Cfg (α : Type) where
  zin : Zone α
  zout : Zone α
  dF : Particle α
  dO : Particle α
  dG : Particle α
  mask : Mask
  half : α

/-- whatever happens to the particles between two update calls (integrator
stages, other equations, a user callback): an arbitrary slot-wise change of
every property of every array — displacement fields of any size included -/
structure Motion (α : Type) where
  inlet : Nat → Particle α → Particle α
  ghostIn : Nat → Particle α → Particle α
  fluid : Nat → Particle α → Particle α
  outlet : Nat → Particle α → Particle α
  ghostOut : Nat → Particle α → Particle α

def Motion.apply (mv : Motion α) (s : State α) : State α :=
  { s with inlet := s.inlet.mapIdx mv.inlet,
           ghostIn := s.ghostIn.map (fun g => g.mapIdx mv.ghostIn),
           fluid := s.fluid.mapIdx mv.fluid,
           outlet := s.outlet.mapIdx mv.outlet,
           ghostOut := s.ghostOut.map (fun g => g.mapIdx mv.ghostOut) }

inductive Op (α : Type) where
  | move (mv : Motion α)
  | inlet (active : Bool)          -- InletBase.update (four families)
  | hybridInlet (active : Bool)    -- hybrid Inlet.update
  | outlet (active : Bool)         -- OutletBase.update (four families)
  | mirrorOutlet (active : Bool)   -- mirror Outlet.update

/-- the account the property speaks of: how many particles entered the fluid
through the inlet, how many left it through the outlet plane — counted on the
state *before* each update by the geometric criterion, not by the bookkeeping -/
structure Acct where
  entered : Nat
  left : Nat

def stepOp (c : Cfg α) (op : Op α) (sa : State α × Acct) : Option (State α × Acct) :=
  match op with
  | .move mv => some (mv.apply sa.1, sa.2)
  | .inlet act => (inletUpdate c.zin c.dF act sa.1).map (fun s' =>
      (s', { sa.2 with entered := sa.2.entered + if act then (crossing c.zin sa.1).length else 0 }))
  | .hybridInlet act => (hybridInletUpdate c.half c.zin c.dF act sa.1).map (fun s' =>
      (s', { sa.2 with entered := sa.2.entered + if act then (crossing c.zin sa.1).length else 0 }))
  | .outlet act => (outletUpdate c.zout c.mask c.dO act sa.1).map (fun s' =>
      (s', { sa.2 with left := sa.2.left + if act then (leaving c.zout sa.1).length else 0 }))
  | .mirrorOutlet act => (mirrorOutletUpdate c.zout c.mask c.dO c.dG act sa.1).map (fun s' =>
      (s', { sa.2 with left := sa.2.left + if act then (leaving c.zout sa.1).length else 0 }))

/-- a history: any sequence of moves and update calls; `none` = an update raised -/
def run (c : Cfg α) : List (Op α) → State α × Acct → Option (State α × Acct)
  | [], sa => some sa
  | op :: ops, sa => (stepOp c op sa).bind (run c ops)

/-! The harness stores a unique label in the passive property `lbl`.  The particles
"in the flow" are those of the fluid and outlet arrays (an inlet particle is a
template: its crossing is COPIED into the fluid while the original is recycled
and keeps living in the inlet array). -/

def labels (s : State α) : List Int := (s.fluid ++ s.outlet).map (·.lbl)

/-- **the base outlet update creates no label**: the labels in the flow after
the call are, with multiplicity, among those before (the moved particles keep
theirs, the deleted ones disappear) -/
theorem outlet_creates_no_label (zn : Zone α) (m : Mask) (dO : Particle α) (s s' : State α)
    (hl : m.lbl = true) (h : outletBody zn m dO s = some s') :
    (labels s').Subperm (labels s) := by
  have h1 := outlet_move_exactly_once_fluid zn m dO s s' h
  have h2 := outlet_move_exactly_once zn m dO s s' h
  have h3 : (((leaving zn s).map (copyInto m dO)).map (·.lbl)).Subperm
      ((leaving zn s).map (·.lbl)) := by
    rw [map_lbl_of _ (fun p => copyInto_lbl m dO p hl)]
  simpa only [labels, List.map_append, fluidEval, outletEval, map_lbl_evalOne] using
    labels_step_subperm h1 h2 h3

/-- the mirror outlet update creates no label either — for every state, aligned
or not, Local or not -/
theorem mirror_outlet_creates_no_label (zn : Zone α) (m : Mask) (dO dG : Particle α)
    (s s' : State α) (hl : m.lbl = true) (h : mirrorOutletBody zn m dO dG s = some s') :
    (labels s').Subperm (labels s) := by
  have h1 := mirror_outlet_move_exactly_once_fluid zn m dO dG s s' h
  have h2 := mirror_outlet_delete_far zn m dO dG s s' h
  have h3 : ((mirrorArrivals zn m dO s).map (·.lbl)).Subperm ((leaving zn s).map (·.lbl)) := by
    -- the arrivals are, up to order, a sublist of the copies of the leaving particles
    have a := ((arrivals_perm (ioidIs 1) (copyInto m { dO with tag := 0 }) (fluidEval zn s)).map
      (·.lbl)).subperm.trans (List.filter_sublist.map _).subperm
    rwa [map_lbl_of _ (fun p => copyInto_lbl m _ p hl)] at a
  simpa only [labels, List.map_append, fluidEval, outletEval, map_lbl_evalOne] using
    labels_step_subperm h1 h2 h3

/-- the inlet adds to the flow exactly the labels of the crossing particles
(whole-record copies; the originals stay in the inlet array) -/
theorem inlet_adds_crossing_labels (zn : Zone α) (dF : Particle α) (s s' : State α)
    (h : inletBody zn dF s = some s') :
    (labels s').Perm (labels s ++ (crossing zn s).map (·.lbl)) := by
  have h1 := (inlet_copy_exactly_once_per_crossing zn dF s s' h).map (·.lbl)
  have h2 := (inlet_nothing_else_changes zn dF s s' h).1
  unfold labels
  rw [List.map_append, List.map_append, h2]
  rw [List.map_append, fluidEval, map_lbl_evalOne] at h1
  refine (h1.append_right _).trans ?_
  rw [List.append_assoc, List.append_assoc]
  exact List.Perm.append_left _ List.perm_append_comm

def Motion.keepsLabels (mv : Motion α) : Prop :=
  (∀ i p, (mv.fluid i p).lbl = p.lbl) ∧ (∀ i p, (mv.outlet i p).lbl = p.lbl)

/-- side condition of one operation for label uniqueness: a move relabels no
fluid/outlet particle; the particles an active inlet update copies into the
fluid carry pairwise distinct labels not yet in the flow (the recycled original
keeps its label in the inlet array — the harness relabels it after the call,
which in this model is a `move` on the inlet array); the outlet updates need
nothing -/
def freshAt (c : Cfg α) (op : Op α) (s : State α) : Prop :=
  match op with
  | .move mv => mv.keepsLabels
  | .inlet act => act = true → (labels s ++ (crossing c.zin s).map (·.lbl)).Nodup
  | .hybridInlet act => act = true → (labels s ++ (crossing c.zin s).map (·.lbl)).Nodup
  | .outlet _ => True
  | .mirrorOutlet _ => True

/-- the side condition holds before every operation of the history -/
def FreshRun (c : Cfg α) : List (Op α) → State α × Acct → Prop
  | [], _ => True
  | op :: ops, sa => freshAt c op sa.1 ∧ ∀ sa', stepOp c op sa = some sa' → FreshRun c ops sa'

/-- What one operation does to the flow and to the account: a move, an update at an inactive
stage, an active inlet update (base or hybrid), an active outlet update (base or mirror). -/
private theorem stepOp_cases (c : Cfg α) (op : Op α) (s s' : State α) (a a' : Acct)
    (h : stepOp c op (s, a) = some (s', a')) :
    (∃ mv, op = .move mv ∧ s' = mv.apply s ∧ a' = a) ∨
    (s'.fluid = s.fluid ∧ s'.outlet = s.outlet ∧ s'.inlet = s.inlet ∧ a' = a) ∨
    (s'.fluid.Perm (fluidEval c.zin s ++ crossing c.zin s) ∧ s'.inlet.length = s.inlet.length ∧
      (labels s').Perm (labels s ++ (crossing c.zin s).map (·.lbl)) ∧
      a' = { a with entered := a.entered + (crossing c.zin s).length } ∧
      (freshAt c op s → (labels s ++ (crossing c.zin s).map (·.lbl)).Nodup)) ∨
    ((s'.fluid ++ leaving c.zout s).Perm (fluidEval c.zout s) ∧ s'.inlet = s.inlet ∧
      (c.mask.lbl = true → (labels s').Subperm (labels s)) ∧
      a' = { a with left := a.left + (leaving c.zout s).length }) := by
  cases op with
  | move mv => cases h; exact Or.inl ⟨mv, rfl, rfl, rfl⟩
  | inlet act | hybridInlet act =>
    obtain ⟨_, hs, he⟩ := Option.map_eq_some_iff.mp h
    cases he
    cases act with
    | false => cases hs; exact Or.inr (Or.inl ⟨rfl, rfl, rfl, rfl⟩)
    | true =>
      simp only [inletUpdate, hybridInletUpdate, if_pos] at hs
      -- the hybrid body runs on `s` with the fluid's `uref` averaged; the arrays are those of `s`
      have e1 := inlet_copy_exactly_once_per_crossing _ _ _ s' hs
      have e2 := inlet_count_constant _ _ _ s' hs
      have e3 := inlet_adds_crossing_labels _ _ _ s' hs
      exact Or.inr (Or.inr (Or.inl ⟨e1, e2, e3, rfl, fun hf => hf rfl⟩))
  | outlet act =>
    obtain ⟨_, hs, he⟩ := Option.map_eq_some_iff.mp h
    cases he
    cases act with
    | false => cases hs; exact Or.inr (Or.inl ⟨rfl, rfl, rfl, rfl⟩)
    | true =>
      rw [outletUpdate, if_pos rfl] at hs
      exact Or.inr (Or.inr (Or.inr ⟨outlet_move_exactly_once_fluid _ _ _ s s' hs,
        (outlet_nothing_else_changes _ _ _ s s' hs).1,
        fun hl => outlet_creates_no_label _ _ _ s s' hl hs, rfl⟩))
  | mirrorOutlet act =>
    obtain ⟨_, hs, he⟩ := Option.map_eq_some_iff.mp h
    cases he
    cases act with
    | false => cases hs; exact Or.inr (Or.inl ⟨rfl, rfl, rfl, rfl⟩)
    | true =>
      rw [mirrorOutletUpdate, if_pos rfl] at hs
      exact Or.inr (Or.inr (Or.inr ⟨mirror_outlet_move_exactly_once_fluid _ _ _ _ s s' hs,
        (mirrorOutletBody_spec _ _ _ _ s s' hs).2.2.1,
        fun hl => mirror_outlet_creates_no_label _ _ _ _ s s' hl hs, rfl⟩))

/-- the balance `fluid + left = fluid₀ + entered`, written without subtraction -/
theorem step_count (c : Cfg α) (op : Op α) (sa sa' : State α × Acct)
    (h : stepOp c op sa = some sa') :
    sa'.1.fluid.length + sa'.2.left + sa.2.entered
      = sa.1.fluid.length + sa'.2.entered + sa.2.left ∧
    sa'.1.inlet.length = sa.1.inlet.length := by
  obtain ⟨s, a⟩ := sa
  obtain ⟨s', a'⟩ := sa'
  show s'.fluid.length + a'.left + a.entered = s.fluid.length + a'.entered + a.left ∧
    s'.inlet.length = s.inlet.length
  rcases stepOp_cases c op s s' a a' h with ⟨mv, -, rfl, rfl⟩ | ⟨h1, -, h2, rfl⟩ |
    ⟨h1, h2, -, rfl, -⟩ | ⟨h1, h2, -, rfl⟩
  · refine ⟨?_, List.length_mapIdx⟩
    show (s.fluid.mapIdx mv.fluid).length + _ + _ = _
    rw [List.length_mapIdx]
    exact Nat.add_right_comm _ _ _
  · rw [h1, h2]
    exact ⟨Nat.add_right_comm _ _ _, rfl⟩
  · have hp := h1.length_eq
    rw [List.length_append, fluidEval, List.length_map] at hp
    refine ⟨?_, h2⟩
    show s'.fluid.length + a.left + a.entered
      = s.fluid.length + (a.entered + (crossing c.zin s).length) + a.left
    omega
  · have hp := h1.length_eq
    rw [List.length_append, fluidEval, List.length_map] at hp
    refine ⟨?_, congrArg List.length h2⟩
    show s'.fluid.length + (a.left + (leaving c.zout s).length) + a.entered
      = s.fluid.length + a.entered + a.left
    omega

theorem run_count (c : Cfg α) (ops : List (Op α)) (sa sa' : State α × Acct)
    (h : run c ops sa = some sa') :
    sa'.1.fluid.length + sa'.2.left + sa.2.entered
      = sa.1.fluid.length + sa'.2.entered + sa.2.left ∧
    sa'.1.inlet.length = sa.1.inlet.length := by
  induction ops generalizing sa with
  | nil => cases h; exact ⟨Nat.add_right_comm _ _ _, rfl⟩
  | cons op ops ih =>
    obtain ⟨mid, h1, h2⟩ := Option.bind_eq_some_iff.mp h
    obtain ⟨a1, a2⟩ := step_count c op sa mid h1
    obtain ⟨b1, b2⟩ := ih mid h2
    exact ⟨by omega, b2.trans a2⟩

/-- **fluid count = initial + entered − left at all times**: after any history
of moves (arbitrary displacement fields, several particles crossing at once,
particles crossing and returning) and update calls of any of the update
classes, at active or inactive stages. -/
theorem count_conservation (c : Cfg α) (ops : List (Op α)) (s0 s : State α) (a : Acct)
    (h : run c ops (s0, ⟨0, 0⟩) = some (s, a)) :
    s.fluid.length + a.left = s0.fluid.length + a.entered :=
  (run_count c ops _ _ h).1

/-- the inlet buffer keeps its size through every history (originals are
recycled, never consumed) -/
theorem inlet_size_invariant (c : Cfg α) (ops : List (Op α)) (s0 s : State α) (a0 a : Acct)
    (h : run c ops (s0, a0) = some (s, a)) : s.inlet.length = s0.inlet.length :=
  (run_count c ops _ _ h).2

theorem step_keeps_labels_nodup (c : Cfg α) (hl : c.mask.lbl = true) (op : Op α)
    (sa sa' : State α × Acct) (hf : freshAt c op sa.1) (h : stepOp c op sa = some sa')
    (hd : (labels sa.1).Nodup) : (labels sa'.1).Nodup := by
  obtain ⟨s, a⟩ := sa
  obtain ⟨s', a'⟩ := sa'
  rcases stepOp_cases c op s s' a a' h with ⟨mv, rfl, rfl, -⟩ | ⟨h1, h2, -, -⟩ |
    ⟨-, -, h1, -, h2⟩ | ⟨-, -, h1, -⟩
  · have hf : mv.keepsLabels := hf
    have : labels (mv.apply s) = labels s := by
      simp only [labels, Motion.apply, List.map_append, map_lbl_mapIdx _ _ hf.1,
        map_lbl_mapIdx _ _ hf.2]
    exact this ▸ hd
  · show ((s'.fluid ++ s'.outlet).map (·.lbl)).Nodup
    rw [h1, h2]
    exact hd
  · exact h1.nodup_iff.mpr (h2 hf)
  · exact nodup_of_subperm (h1 hl) hd

/-- **No particle is ever duplicated**: if the labels of the particles in the
flow (fluid ∪ outlet) are pairwise distinct, they are after any history of
moves and update calls of all five classes at active or inactive stages,
provided `lbl` is among `props_to_copy`, no move relabels a fluid/outlet
particle, and each particle entering through an inlet carries a label new to
the flow (`FreshRun`; the outlet updates need no side condition — they never
create a label). -/
theorem labels_never_duplicated (c : Cfg α) (hl : c.mask.lbl = true) (ops : List (Op α))
    (sa sa' : State α × Acct) (hf : FreshRun c ops sa) (h : run c ops sa = some sa')
    (hd : (labels sa.1).Nodup) : (labels sa'.1).Nodup := by
  induction ops generalizing sa with
  | nil => cases h; exact hd
  | cons op ops ih =>
    obtain ⟨mid, h1, h2⟩ := Option.bind_eq_some_iff.mp h
    exact ih mid (hf.2 mid h1) h2 (step_keeps_labels_nodup c hl op sa mid hf.1 h1 hd)

/-- the operations that cannot add a particle to the flow: label-keeping moves
and the two outlet updates -/
def outletSide : Op α → Prop
  | .move mv => mv.keepsLabels
  | .outlet _ => True
  | .mirrorOutlet _ => True
  | .inlet _ => False
  | .hybridInlet _ => False

theorem freshRun_of_outletSide (c : Cfg α) (ops : List (Op α)) (h : ∀ op ∈ ops, outletSide op)
    (sa : State α × Acct) : FreshRun c ops sa := by
  induction ops generalizing sa with
  | nil => trivial
  | cons op ops ih =>
    refine ⟨?_, fun sa' _ => ih (fun o ho => h o (by simp [ho])) sa'⟩
    have := h op (by simp)
    cases op with
    | move mv => exact this
    | inlet _ | hybridInlet _ => exact this.elim
    | outlet _ | mirrorOutlet _ => trivial

/-- unconditional form for the outlet side: any history of label-keeping moves
and (mirror) outlet updates keeps the labels in the flow pairwise distinct -/
theorem outlet_history_never_duplicates (c : Cfg α) (hl : c.mask.lbl = true) (ops : List (Op α))
    (h : ∀ op ∈ ops, outletSide op) (sa sa' : State α × Acct) (hr : run c ops sa = some sa')
    (hd : (labels sa.1).Nodup) : (labels sa'.1).Nodup :=
  labels_never_duplicated c hl ops sa sa' (freshRun_of_outletSide c ops h sa) hr hd

section field
open scoped PysphVerif.OrderChain
variable {K : Type} [Field K] [LinearOrder K] [IsStrictOrderedRing K]

/-- zone id 0 ("in the fluid") means: not beyond the interface by more than the
tolerance — or, a quirk of the `if/elif/else`, exactly `length + tolerance`
beyond it (neither `<` nor `>` holds there) -/
theorem zoneId_eq_zero_iff (eps L d : K) (hL : 0 ≤ L) :
    zoneId eps L d = 0 ↔ d ≤ eps ∨ d - L = eps := by
  unfold zoneId
  split_ifs with h1 h2
  · refine ⟨fun h => absurd h one_ne_zero, fun h => h.elim (fun h => ?_) (fun h => ?_)⟩
    · exact absurd h1.1 (not_lt.mpr h)
    · exact absurd h1.2 (not_lt.mpr (le_of_eq h.symm))
  · refine ⟨fun h => absurd h two_ne_zero, fun h => h.elim (fun h => ?_) (fun h => ?_)⟩
    · exact absurd (lt_of_lt_of_le h2 (sub_le_self d hL)) (not_lt.mpr h)
    · exact absurd h2 (not_lt.mpr (le_of_eq h))
  · refine ⟨fun _ => ?_, fun _ => rfl⟩
    by_cases h3 : eps < d
    · exact Or.inr (le_antisymm (not_lt.mp h2) (not_lt.mp (fun hh => h1 ⟨h3, hh⟩)))
    · exact Or.inl (not_lt.mp h3)

theorem zoneId_eq_one_iff (eps L d : K) : zoneId eps L d = 1 ↔ eps < d ∧ d - L < eps := by
  unfold zoneId
  split_ifs with h1 h2
  · exact ⟨fun _ => h1, fun _ => rfl⟩
  · exact ⟨fun h => absurd h (by decide), fun h => absurd h h1⟩
  · exact ⟨fun h => absurd h zero_ne_one, fun h => absurd h h1⟩

-- `hL` is not needed here (it is in `zoneId_eq_zero_iff`)
set_option linter.unusedVariables false in
theorem zoneId_eq_two_iff (eps L d : K) (hL : 0 ≤ L) : zoneId eps L d = 2 ↔ eps < d - L := by
  unfold zoneId
  split_ifs with h1 h2
  · exact ⟨fun h => absurd h (by decide), fun h => absurd h1.2 (lt_asymm h)⟩
  · exact ⟨fun _ => h2, fun _ => rfl⟩
  · exact ⟨fun h => absurd h (by decide), fun h => absurd h h2⟩

theorem signedDist_shiftUp (zn : Zone K) (p : Particle K) :
    signedDist zn (shiftUp zn p)
      = signedDist zn p + zn.len * (zn.nx * zn.nx + zn.ny * zn.ny + zn.nz * zn.nz) := by
  simp only [signedDist, shiftUp]; ring

/-- **recycled one zone length upstream**: an inlet particle that crossed the
interface by less than one zone length is, after recycling, back inside the
inlet zone (unit normal) -/
theorem recycled_back_inside (zn : Zone K) (p : Particle K)
    (hn : zn.nx * zn.nx + zn.ny * zn.ny + zn.nz * zn.nz = 1)
    (hlo : zn.eps - zn.len < signedDist zn p) (hhi : signedDist zn p < zn.eps) :
    (evalOne zn zn.len (shiftUp zn p)).ioid = 1 := by
  show zoneId zn.eps zn.len (signedDist zn (shiftUp zn p)) = 1
  rw [zoneId_eq_one_iff, signedDist_shiftUp, hn, mul_one, add_sub_cancel_right]
  exact ⟨sub_lt_iff_lt_add.mp hlo, hhi⟩

/-- **moved more than one zone length in a step** (stated separately, as the
property does): the recycled original is still on the fluid side, so the next
update call copies it again — one copy per update call, each copy of a
"new" recycled particle -/
theorem overshoot_still_outside (zn : Zone K) (p : Particle K) (hL : 0 ≤ zn.len)
    (hn : zn.nx * zn.nx + zn.ny * zn.ny + zn.nz * zn.nz = 1)
    (h : signedDist zn p + zn.len ≤ zn.eps) :
    (evalOne zn zn.len (shiftUp zn p)).ioid = 0 := by
  show zoneId zn.eps zn.len (signedDist zn (shiftUp zn p)) = 0
  rw [zoneId_eq_zero_iff _ _ _ hL, signedDist_shiftUp, hn, mul_one]
  exact Or.inl h

/-- the ghost of the inlet stays the mirror image of its inlet particle when
both are recycled (unit normal): reflecting the recycled original gives the
ghost shifted by `-length·normal` -/
theorem ghost_stays_mirror_image (zn : Zone K) (p : Particle K)
    (hn : zn.nx * zn.nx + zn.ny * zn.ny + zn.nz * zn.nz = 1) :
    (reflect zn (shiftUp zn p)).x = (shiftDown zn (reflect zn p)).x ∧
    (reflect zn (shiftUp zn p)).y = (shiftDown zn (reflect zn p)).y ∧
    (reflect zn (shiftUp zn p)).z = (shiftDown zn (reflect zn p)).z := by
  have key : signedDist zn (shiftUp zn p) = signedDist zn p + zn.len := by
    rw [signedDist_shiftUp, hn, mul_one]
  have coord : ∀ x n : K, x + zn.len * n - 2 * (signedDist zn p + zn.len) * n
      = x - 2 * signedDist zn p * n - zn.len * n := fun x n => by ring
  simp only [reflect, shiftDown, key]
  exact ⟨coord _ _, coord _ _, coord _ _⟩

end field

/-! ## non-vacuity: concrete states meeting the hypotheses (tests, not claims) -/
section examples

/-- inlet zone `-1/2 < x < 0` (normal `-x`), outlet zone `1 < x < 3/2` -/
def exZin : Zone Rat := ⟨0, 0, 0, -1, 0, 0, 1/2, 1/1000000, 1000⟩
def exZout : Zone Rat := ⟨1, 0, 0, 1, 0, 0, 1/2, 1/1000000, 1000⟩
def exP (x : Rat) (lbl : Int) (tag : Int := 0) : Particle Rat := ⟨x, 0, 0, 1, 0, 0, tag, lbl, 7⟩
def exCfg : Cfg Rat := ⟨exZin, exZout, exP 0 0, exP 0 0, exP 0 0, Mask.all, 1/2⟩
def exState : State Rat :=
  { inlet := [exP (-3/8) 1, exP (1/8) 2, exP (1/4) 3, exP (1/16) 4 2],
    ghostIn := some [exP (3/8) 1, exP (-1/8) 2, exP (-1/4) 3, exP (-1/16) 4],
    fluid := [exP (1/2) 11, exP (9/8) 12, exP (3/4) 14, exP (5/4) 13 2],
    outlet := [exP (5/4) 21, exP (13/8) 22], ghostOut := none, urefIn := 1, urefFluid := 0 }

/-- two Local inlet particles cross together (the ghost-tagged one does not
count); they are copied once each and recycled by `length` -/
example : (inletBody exZin (exP 0 0) exState).map
      (fun s => (s.fluid.map (·.lbl), s.inlet.map (·.x), (s.ghostIn.getD []).map (·.x)))
    = some ([11, 12, 14, 2, 3, 13], [-3/8, -3/8, -1/4, 1/16], [3/8, 3/8, 1/4, -1/16]) := by
  decide +kernel

example : (crossing exZin exState).map (·.lbl) = [2, 3] := by decide +kernel

/-- one fluid particle moves to the outlet, one outlet particle is deleted -/
example : (outletBody exZout Mask.all (exP 0 0) exState).map
      (fun s => (s.fluid.map (·.lbl), s.outlet.map (·.lbl)))
    = some ([11, 14, 13], [21, 12]) := by
  decide +kernel

example : (leaving exZout exState).map (·.lbl) = [12] ∧
    (deleted exZout Mask.all (exP 0 0) exState).map (·.lbl) = [22] := by decide +kernel

/-- a history with a move, both updates, an inactive stage and the hybrid and
mirror classes: the account is non-trivial -/
example : (run exCfg [.inlet true, .outlet true, .move ⟨fun _ p => p, fun _ p => p,
        fun _ p => { p with x := p.x + 1/2 }, fun _ p => p, fun _ p => p⟩,
        .outlet false, .mirrorOutlet true, .hybridInlet true] (exState, ⟨0, 0⟩)).map
      (fun sa => (sa.1.fluid.length, sa.2.entered, sa.2.left))
    = some (4, 2, 2) := by
  decide +kernel

/-- overshoot: moved more than a zone length, still outside after recycling -/
example : (evalOne exZin exZin.len (shiftUp exZin (exP (3/4) 5))).ioid = 0 := by decide +kernel

/-- mirror family with a ghost array, every particle Local, ghost index-aligned
with the outlet: two fluid particles arrive, one outlet particle (slot 1, label
22) is deleted by swap-remove — the hypotheses of `mirror_ghost_stays_aligned`
hold and the slot order really changes -/
def exMirror : State Rat :=
  { inlet := [], ghostIn := none,
    fluid := [exP (1/2) 11, exP (9/8) 12, exP (3/4) 14, exP (5/4) 13],
    outlet := [exP (5/4) 21, exP (13/8) 22, exP (11/8) 23],
    ghostOut := some [exP (3/4) 21, exP (3/8) 22, exP (5/8) 23],
    urefIn := 1, urefFluid := 0 }

example : (∀ p ∈ exMirror.fluid ++ exMirror.outlet ++ (exMirror.ghostOut.getD []),
      isLocal p = true) ∧
    List.map (·.lbl) (exMirror.ghostOut.getD []) = List.map (·.lbl) exMirror.outlet ∧
    (mirrorOutletBody exZout Mask.all (exP 0 0) (exP 0 0) exMirror).map
      (fun s => (s.fluid.map (·.lbl), s.outlet.map (·.lbl), (s.ghostOut.getD []).map (·.lbl),
        (s.ghostOut.getD []).map (·.x)))
    = some ([11, 14], [21, 13, 23, 12], [21, 13, 23, 12], [3/4, 3/4, 5/8, 7/8]) := by
  decide +kernel

/-- `removeRows` with one index list on two arrays = on the zipped array -/
example : removeRows [1, 3] (List.zip [10, 11, 12, 13, 14] ['a', 'b', 'c', 'd', 'e'])
    = List.zip (removeRows [1, 3] [10, 11, 12, 13, 14]) (removeRows [1, 3] ['a', 'b', 'c', 'd', 'e'])
    ∧ removeRows [1, 3] [10, 11, 12, 13, 14] = [10, 14, 12] := by decide

/-- label uniqueness: the demo state has pairwise distinct labels in the flow,
the crossing inlet particles carry new ones, so `FreshRun` holds for an inlet
call; and an outlet-side history (with a label-keeping move) is non-trivial -/
example : (labels exState).Nodup ∧ FreshRun exCfg [.inlet true] (exState, ⟨0, 0⟩) :=
  ⟨by decide +kernel, fun _ => by decide +kernel, fun _ _ => trivial⟩

example : (∀ op ∈ ([.outlet true, .move ⟨fun _ p => p, fun _ p => p,
        fun _ p => { p with x := p.x + 1/2 }, fun _ p => p, fun _ p => p⟩,
        .mirrorOutlet true] : List (Op Rat)), outletSide op) ∧
    (run exCfg [.outlet true, .move ⟨fun _ p => p, fun _ p => p,
        fun _ p => { p with x := p.x + 1/2 }, fun _ p => p, fun _ p => p⟩,
        .mirrorOutlet true] (exState, ⟨0, 0⟩)).map (fun sa => labels sa.1)
      = some [11, 13, 21, 12, 14] := by
  refine ⟨?_, by decide +kernel⟩
  intro op hop
  simp only [List.mem_cons, List.not_mem_nil, or_false] at hop
  rcases hop with rfl | rfl | rfl
  · trivial
  · exact ⟨fun _ _ => rfl, fun _ _ => rfl⟩
  · trivial

end examples

end PysphVerif.Props.C16
