import PysphVerif.Lemmas.AdaptDt
import PysphVerif.Lemmas.FoldInv
/-!
# C19 — the adaptive time step is the documented minimum over all particles

Property theorems about `Model/AdaptDt.lean`, which transcribes
`Integrator.compute_time_step` and friends and is tied to the code by bit-exact differential
execution.  The minimum and maximum arguments (`IsExtMin`, `factor_spec`) live in
`Lemmas/AdaptDt.lean`.

All statements hold over every linearly ordered field `α`, every list of
arrays (any number, some empty, some lacking properties), every `cfl`, with
`sqrt` an arbitrary function that is positive on positives and monotone on
non-negatives.
-/
set_option linter.unusedSectionVars false
namespace PysphVerif.C19
open PysphVerif.AdaptDt

open scoped PysphVerif.OrderChain

variable {α : Type} [Field α] [LinearOrder α] [IsStrictOrderedRing α]

def adaptVals (arrs : List (Arr α)) : List α := critVals Arr.dtAdapt arrs

/-- `compute_h_minimum` returns +inf exactly when there is no particle at all,
and otherwise a smoothing length that occurs and is ≤ every other one. -/
theorem hmin_is_smallest_h (arrs : List (Arr α)) (hwf : WF arrs) :
    match hMinimum arrs with
    | none => allH arrs = []
    | some h => h ∈ allH arrs ∧ ∀ x ∈ allH arrs, h ≤ x :=
  hMinimum_isExtMin arrs hwf

/-- `_get_explicit_dt_adapt`: when some array carries `dt_adapt`, the result is
the minimum of `dt_adapt` over the real particles of all arrays if that is
positive, `None` if it is not, `inf` if no real particle carries the property;
it never raises.  Without the property the result is `None`. -/
theorem explicit_spec (arrs : List (Arr α)) :
    (arrs.any (fun pa => pa.dtAdapt.isSome) = false → explicitDtAdapt arrs = Res.none) ∧
    (arrs.any (fun pa => pa.dtAdapt.isSome) = true →
      (adaptVals arrs = [] ∧ explicitDtAdapt arrs = Res.inf) ∨
      (∃ m, m ∈ adaptVals arrs ∧ (∀ x ∈ adaptVals arrs, m ≤ x) ∧
        explicitDtAdapt arrs = if 0 < m then Res.val m else Res.none)) := by
  refine ⟨fun h => ?_, fun h => ?_⟩
  · unfold explicitDtAdapt hasDtAdapt
    rw [h]
    rfl
  · obtain ⟨e, he, hr⟩ := explicitDtAdaptWith_true arrs
    unfold explicitDtAdapt hasDtAdapt
    rw [h, hr]
    cases e with
    | none => exact .inl ⟨he, rfl⟩
    | some m => exact .inr ⟨m, he.1, he.2, rfl⟩

/-- The explicit value, when there is one, is what `compute_time_step` returns. -/
theorem explicit_override (sqrt : α → α) (arrs : List (Arr α)) (cfl d : α)
    (fixedH : Option (Ext α)) (h : explicitDtAdapt arrs = Res.val d) :
    computeTimeStep sqrt arrs cfl fixedH = Res.val d := by
  simp [computeTimeStep, computeTimeStepFrom, h]

/-- the candidate steps of the criteria that are present and positive -/
def candidates (sqrt : α → α) (arrs : List (Arr α)) (h : α) : List α :=
  (if 0 < (factors arrs).1 then [h / (factors arrs).1] else []) ++
  (if 0 < (factors arrs).2.1 then [sqrt (h / sqrt (factors arrs).2.1)] else []) ++
  (if 0 < (factors arrs).2.2 then [h / (factors arrs).2.2] else [])

theorem mem_candidates {sqrt : α → α} {arrs : List (Arr α)} {h c : α} :
    c ∈ candidates sqrt arrs h ↔ 0 < (factors arrs).1 ∧ c = h / (factors arrs).1 ∨
      0 < (factors arrs).2.1 ∧ c = sqrt (h / sqrt (factors arrs).2.1) ∨
      0 < (factors arrs).2.2 ∧ c = h / (factors arrs).2.2 := by
  simp only [candidates, List.mem_append, List.mem_ite_nil_right, List.mem_singleton, or_assoc]

/-- `compute_time_step` without an explicit `dt_adapt`: the result is `None`
when no criterion is present and positive, and otherwise `cfl` times the
smallest of `hmin/max(dt_cfl)`, `sqrt(hmin/sqrt(max(dt_force)))`,
`hmin/max(dt_visc)` over the criteria that are present and positive (`None`
again if that minimum is not positive). -/
theorem formula (sqrt : α → α) (arrs : List (Arr α)) (cfl h : α)
    (hexp : explicitDtAdapt arrs = Res.none) (hh : hMinimum arrs = some h) :
    (candidates sqrt arrs h = [] ∧ computeTimeStep sqrt arrs cfl none = Res.none) ∨
    (∃ m, m ∈ candidates sqrt arrs h ∧ (∀ c ∈ candidates sqrt arrs h, m ≤ c) ∧
      computeTimeStep sqrt arrs cfl none = if m ≤ 0 then Res.none else Res.val (cfl * m)) := by
  -- Python's three-way `min` over the criteria present is the minimum of `candidates`
  obtain ⟨e, he, hct⟩ : ∃ e, IsExtMin e (candidates sqrt arrs h) ∧
      computeTimeStep sqrt arrs cfl none =
        match e with
        | none => Res.none
        | some m => if m ≤ 0 then Res.none else Res.val (cfl * m) :=
    ⟨_, ((isExtMin_ite _ _).append (isExtMin_ite _ _)).append (isExtMin_ite _ _), by
      simp only [computeTimeStep, computeTimeStepFrom, hexp, hh]
      rfl⟩
  cases e with
  | none => exact .inl ⟨he, hct⟩
  | some m => exact .inr ⟨m, he.1, he.2, hct⟩

/-- The maxima entering the formula are taken over *all* arrays that have the
criterion: each factor dominates every real particle's value and is either
`-1` (criterion absent / no particle) or one of those values. -/
theorem factors_are_maxima (arrs : List (Arr α)) :
    ((∀ x ∈ critVals Arr.dtCfl arrs, x ≤ (factors arrs).1) ∧
      ((factors arrs).1 = -1 ∨ (factors arrs).1 ∈ critVals Arr.dtCfl arrs)) ∧
    ((∀ x ∈ critVals Arr.dtForce arrs, x ≤ (factors arrs).2.1) ∧
      ((factors arrs).2.1 = -1 ∨ (factors arrs).2.1 ∈ critVals Arr.dtForce arrs)) ∧
    ((∀ x ∈ critVals Arr.dtVisc arrs, x ≤ (factors arrs).2.2) ∧
      ((factors arrs).2.2 = -1 ∨ (factors arrs).2.2 ∈ critVals Arr.dtVisc arrs)) :=
  ⟨factor_spec _ arrs, factor_spec _ arrs, factor_spec _ arrs⟩

/-- Every particle `i` (smoothing length `hi`, anywhere) and every positive
criterion value `v` of any real particle bound the step:
`dt ≤ cfl·hi/v` (CFL and viscous criteria), `dt ≤ cfl·sqrt(hi/sqrt v)` (force). -/
theorem never_exceeds_any_particle (sqrt : α → α)
    (sqrt_pos : ∀ x, 0 < x → 0 < sqrt x)
    (sqrt_mono : ∀ x y, 0 ≤ x → x ≤ y → sqrt x ≤ sqrt y)
    (arrs : List (Arr α)) (hwf : WF arrs) (cfl d : α) (hcfl : 0 ≤ cfl)
    (hpos : ∀ x ∈ allH arrs, 0 ≤ x)
    (hexp : explicitDtAdapt arrs = Res.none)
    (hres : computeTimeStep sqrt arrs cfl none = Res.val d) :
    ∀ hi ∈ allH arrs,
      (∀ v ∈ critVals Arr.dtCfl arrs, 0 < v → d ≤ cfl * (hi / v)) ∧
      (∀ v ∈ critVals Arr.dtForce arrs, 0 < v → d ≤ cfl * sqrt (hi / sqrt v)) ∧
      (∀ v ∈ critVals Arr.dtVisc arrs, 0 < v → d ≤ cfl * (hi / v)) := by
  intro hi hhi
  have hmin := hmin_is_smallest_h arrs hwf
  cases hh : hMinimum arrs with
  | none =>
    simp only [computeTimeStep, computeTimeStepFrom, hexp, hh] at hres
    cases hres
  | some h =>
    rw [hh] at hmin
    obtain ⟨hmem, hle⟩ := hmin
    have hh0 : 0 ≤ h := hpos h hmem
    have hhi' : h ≤ hi := hle hi hhi
    obtain ⟨⟨c1, _⟩, ⟨f1, _⟩, ⟨v1, _⟩⟩ := factors_are_maxima arrs
    rcases formula sqrt arrs cfl h hexp hh with ⟨_, hnone⟩ | ⟨m, hm, hmle, hval⟩
    · rw [hnone] at hres; cases hres
    · rw [hval] at hres
      split at hres <;> cases hres
      -- a criterion with a positive value has a positive maximum, so its candidate is present;
      -- `m` is below it, and it is below what `hi` and `v` allow
      have hdiv : ∀ {F v : α}, 0 < v → v ≤ F → h / F ≤ hi / v := fun hv0 hfv =>
        div_le_div₀ (le_trans hh0 hhi') hhi' hv0 hfv
      have hfin : ∀ {c b : α}, c ∈ candidates sqrt arrs h → c ≤ b → cfl * m ≤ cfl * b :=
        fun hc hb => mul_le_mul_of_nonneg_left ((hmle _ hc).trans hb) hcfl
      refine ⟨fun v hv hv0 => ?_, fun v hv hv0 => ?_, fun v hv hv0 => ?_⟩
      · exact hfin (mem_candidates.mpr (.inl ⟨hv0.trans_le (c1 v hv), rfl⟩)) (hdiv hv0 (c1 v hv))
      · have hfv := f1 v hv
        have hf0 := hv0.trans_le hfv
        exact hfin (mem_candidates.mpr (.inr (.inl ⟨hf0, rfl⟩)))
          (sqrt_mono _ _ (div_nonneg hh0 (sqrt_pos _ hf0).le)
            (hdiv (sqrt_pos _ hv0) (sqrt_mono _ _ hv0.le hfv)))
      · exact hfin (mem_candidates.mpr (.inr (.inr ⟨hv0.trans_le (v1 v hv), rfl⟩)))
          (hdiv hv0 (v1 v hv))

/-- With an explicit `dt_adapt` the step is ≤ every real particle's value. -/
theorem explicit_never_exceeds (sqrt : α → α) (arrs : List (Arr α)) (cfl d : α)
    (fixedH : Option (Ext α)) (h : explicitDtAdapt arrs = Res.val d) :
    computeTimeStep sqrt arrs cfl fixedH = Res.val d ∧ ∀ x ∈ adaptVals arrs, d ≤ x := by
  refine ⟨explicit_override sqrt arrs cfl d fixedH h, ?_⟩
  obtain ⟨h1, h2⟩ := explicit_spec arrs
  cases hany : arrs.any (fun pa => pa.dtAdapt.isSome) with
  | false => rw [h1 hany] at h; cases h
  | true =>
    rcases h2 hany with ⟨_, hinf⟩ | ⟨m, _, hle, hval⟩
    · rw [hinf] at h; cases h
    · rw [hval] at h
      split at h <;> cases h
      exact hle

/-- When no criterion applies the solver keeps the fixed (undamped) step. -/
theorem fallback_when_none (sqrt : α → α) (arrs : List (Arr α)) (cfl und : α)
    (fixedH : Option (Ext α)) (h : computeTimeStep sqrt arrs cfl fixedH = Res.none) :
    solverTimestep sqrt arrs cfl und fixedH = Res.val und := by
  simp [solverTimestep, solverTimestepOf, h]

/-- and otherwise exactly what the integrator proposed. -/
theorem solver_uses_integrator_value (sqrt : α → α) (arrs : List (Arr α)) (cfl und d : α)
    (fixedH : Option (Ext α)) (h : computeTimeStep sqrt arrs cfl fixedH = Res.val d) :
    solverTimestep sqrt arrs cfl und fixedH = Res.val d := by
  simp [solverTimestep, solverTimestepOf, h]

/-- As long as the set of arrays carrying `dt_adapt` is what it was when the
flag was cached (particles may come and go, the property does not), a later
call returns exactly what a first call on the current arrays would: the cache
never makes the step depend on the history of the particle data. -/
theorem cached_flag_harmless (sqrt : α → α) (arrs0 arrs : List (Arr α)) (cfl : α)
    (fixedH : Option (Ext α)) (h : hasDtAdapt arrs = hasDtAdapt arrs0) :
    computeTimeStepCached (hasDtAdapt arrs0) sqrt arrs cfl fixedH =
      computeTimeStep sqrt arrs cfl fixedH := by
  simp [computeTimeStepCached, computeTimeStep, explicitDtAdapt, h]

/-! ## whole histories: the integrator as a state machine

`set_fixed_h` and `compute_time_step` are called many times in a run, on
arrays that change in between.  The theorems below say that the state the
integrator carries (`_has_dt_adapt`, `fixed_h`, `h_minimum`) never makes a
step depend on anything but (i) the arrays *now*, (ii) the smallest `h` at the
latest `set_fixed_h(True)` while it is in force, and (iii) whether some array
carried `dt_adapt` at the first call. -/

theorem irun_snoc (sqrt : α → α) (ops : List (IOp α)) (op : IOp α) :
    irun sqrt (ops ++ [op]) = (istep sqrt (irun sqrt ops) op).1 := by
  simp [irun, List.foldl_append]

theorem lastFixed_snoc (ops : List (IOp α)) (op : IOp α) :
    lastFixed (ops ++ [op]) = lastFixedStep (lastFixed ops) op := by
  simp [lastFixed, List.foldl_append]

theorem flagOf_snoc (ops : List (IOp α)) (op : IOp α) :
    flagOf (ops ++ [op]) = flagStep (flagOf ops) op := by
  simp [flagOf, List.foldl_append]

def Tracks (s : IState α) (ops : List (IOp α)) : Prop :=
  s.flag = flagOf ops ∧
  (s.fixedH = true → ∃ h, s.hMin = some h ∧ lastFixed ops = some h) ∧
  (s.fixedH = false → lastFixed ops = none)

theorem tracks_step (sqrt : α → α) (s : IState α) (ops : List (IOp α)) (op : IOp α)
    (h : Tracks s ops) : Tracks (istep sqrt s op).1 (ops ++ [op]) := by
  obtain ⟨hf, ht, hn⟩ := h
  unfold Tracks
  rw [lastFixed_snoc, flagOf_snoc]
  cases op with
  | setFixedH b arrs =>
    refine ⟨hf, fun hb => ?_, fun hb => ?_⟩
    · obtain rfl : b = true := hb
      exact ⟨hMinimum arrs, rfl, rfl⟩
    · obtain rfl : b = false := hb
      rfl
  | cts arrs cfl =>
    obtain ⟨cf, cx, cm⟩ := cts_state sqrt s arrs cfl
    refine ⟨by rw [flagStep_cts, ← hf]; exact cf, fun hfx => ?_, fun hfx => hn (cx ▸ hfx)⟩
    obtain ⟨h, hh, hl⟩ := ht (cx ▸ hfx)
    exact ⟨h, (cm (cx ▸ hfx)).trans hh, hl⟩

theorem tracks_foldl (sqrt : α → α) (ops : List (IOp α)) (s : IState α) (ops0 : List (IOp α))
    (h : Tracks s ops0) :
    Tracks (ops.foldl (fun s op => (istep sqrt s op).1) s) (ops0 ++ ops) :=
  foldl_prefix_inv _ (fun s done => Tracks s (ops0 ++ done)) ops s (by rwa [List.append_nil])
    fun s done op _ _ h => by rw [← List.append_assoc]; exact tracks_step sqrt s _ op h

theorem tracks_run (sqrt : α → α) (ops : List (IOp α)) : Tracks (irun sqrt ops) ops := by
  have h0 : Tracks (IState.init : IState α) [] :=
    ⟨rfl, fun hc => by simp [IState.init] at hc, fun _ => rfl⟩
  simpa [irun] using tracks_foldl sqrt ops IState.init [] h0

/-- **Any call of any history.**  After an arbitrary sequence `pre` of
`set_fixed_h` / `compute_time_step` calls on arbitrary (changing) arrays, the
next `compute_time_step` on `arrs` returns what the stateless formula gives for
`arrs`, with `hmin` the smallest `h` recorded at the latest `set_fixed_h(True)`
still in force (else the smallest `h` of `arrs`), and with the `dt_adapt` flag
of the first call. -/
theorem history_cts (sqrt : α → α) (pre : List (IOp α)) (arrs : List (Arr α)) (cfl : α) :
    ((irun sqrt pre).cts sqrt arrs cfl).2 =
      computeTimeStepCached ((flagOf pre).getD (hasDtAdapt arrs)) sqrt arrs cfl
        (lastFixed pre) := by
  obtain ⟨hf, ht, hn⟩ := tracks_run sqrt pre
  generalize irun sqrt pre = s at hf ht hn ⊢
  simp only [IState.cts, computeTimeStepCached, hf]
  generalize (flagOf pre).getD (hasDtAdapt arrs) = fl
  cases hex : explicitDtAdaptWith fl arrs with
  | none =>
    simp only
    cases hfx : s.fixedH with
    | true =>
      obtain ⟨h, hh, hl⟩ := ht hfx
      simp only [hh, if_true, hl]
    | false =>
      simp only [Bool.false_eq_true, if_false, hn hfx]
  | val d => rfl
  | inf => rfl
  | error => rfl

/-- **The caches are harmless.**  If the set of arrays carrying `dt_adapt` is
what it was at the first call, any later call of any history returns exactly
what a *fresh* integrator (one `set_fixed_h`, one `compute_time_step`) returns
on the current arrays — so every theorem above about `computeTimeStep` holds at
every step of every run. -/
theorem history_cts_fresh (sqrt : α → α) (pre : List (IOp α)) (arrs : List (Arr α)) (cfl : α)
    (hflag : ∀ b, flagOf pre = some b → b = hasDtAdapt arrs) :
    ((irun sqrt pre).cts sqrt arrs cfl).2 = computeTimeStep sqrt arrs cfl (lastFixed pre) := by
  rw [history_cts]
  cases hfo : flagOf pre with
  | none => rfl
  | some b => rw [hflag b hfo]; rfl

/-- `set_fixed_h(True)` always refreshes `h_minimum`: whatever happened before
(including an earlier `set_fixed_h(True)` on other smoothing lengths), the next
step uses the smallest `h` of the arrays given to the latest call. -/
theorem refix_refreshes (sqrt : α → α) (pre : List (IOp α)) (arrs' arrs : List (Arr α))
    (cfl : α) :
    ((irun sqrt (pre ++ [IOp.setFixedH true arrs'])).cts sqrt arrs cfl).2 =
      computeTimeStepCached ((flagOf pre).getD (hasDtAdapt arrs)) sqrt arrs cfl
        (some (hMinimum arrs')) := by
  rw [history_cts, lastFixed_snoc, flagOf_snoc]; rfl

/-- `set_fixed_h(False)` drops the cached value for good: the next step uses
the smallest `h` of the current arrays. -/
theorem unfix_recomputes (sqrt : α → α) (pre : List (IOp α)) (arrs' arrs : List (Arr α))
    (cfl : α) :
    ((irun sqrt (pre ++ [IOp.setFixedH false arrs'])).cts sqrt arrs cfl).2 =
      computeTimeStepCached ((flagOf pre).getD (hasDtAdapt arrs)) sqrt arrs cfl none := by
  rw [history_cts, lastFixed_snoc, flagOf_snoc]; rfl

/-- the `AttributeError` branch of the model (`fixed_h` set, `h_minimum` never
assigned) is unreachable -/
theorem fixed_has_hmin (sqrt : α → α) (ops : List (IOp α))
    (h : (irun sqrt ops).fixedH = true) : ((irun sqrt ops).hMin).isSome = true := by
  obtain ⟨h', hh, _⟩ := (tracks_run sqrt ops).2.1 h
  simp [hh]

/-- non-vacuity: a history with two `set_fixed_h(True)` calls on different `h` -/
example :
    let a : Arr ℚ := { nAll := 1, hAll := [2], dtAdapt := none,
                        dtCfl := some [1], dtForce := none, dtVisc := none }
    let b : Arr ℚ := { nAll := 1, hAll := [1], dtAdapt := none,
                        dtCfl := some [1], dtForce := none, dtVisc := none }
    ((irun (fun x => x) [IOp.setFixedH true [a], IOp.cts [a] 1, IOp.setFixedH true [b]]).cts
        (fun x => x) [b] 1).2 = Res.val 1 := by decide +kernel

/-! ## order independence

"The minimum over all particles" does not depend on how the particles are
split over arrays, on the order of the arrays, or on the order of the particles
inside an array: `hmin` and the explicit `dt_adapt` step are functions of the
*multiset* of values only.  (A scan that stopped early, skipped the first
array or compared only neighbours would break these.) -/

theorem extMin_unique_of_perm {e e' : Ext α} {l l' : List α}
    (he : IsExtMin e l) (he' : IsExtMin e' l') (hp : l.Perm l') : e = e' :=
  he.unique he' fun _ => hp.mem_iff

/-- `compute_h_minimum` depends only on the multiset of smoothing lengths. -/
theorem hmin_multiset_only (arrs arrs' : List (Arr α)) (hwf : WF arrs) (hwf' : WF arrs')
    (hp : (allH arrs).Perm (allH arrs')) : hMinimum arrs = hMinimum arrs' :=
  extMin_unique_of_perm (hMinimum_isExtMin arrs hwf) (hMinimum_isExtMin arrs' hwf') hp

/-- ... in particular not on the order in which the arrays are visited. -/
theorem hmin_array_order_independent (arrs arrs' : List (Arr α)) (hwf : WF arrs)
    (hp : arrs.Perm arrs') : hMinimum arrs = hMinimum arrs' := by
  refine hmin_multiset_only arrs arrs' hwf ?_ ?_
  · intro pa hpa; exact hwf pa (hp.mem_iff.mpr hpa)
  · exact List.Perm.flatMap_right _ hp

/-- `_get_explicit_dt_adapt` depends only on the multiset of `dt_adapt` values of
the real particles (given that some array carries the property in both). -/
theorem explicit_multiset_only (arrs arrs' : List (Arr α))
    (h : arrs.any (fun pa => pa.dtAdapt.isSome) = true)
    (h' : arrs'.any (fun pa => pa.dtAdapt.isSome) = true)
    (hp : (adaptVals arrs).Perm (adaptVals arrs')) :
    explicitDtAdapt arrs = explicitDtAdapt arrs' := by
  unfold explicitDtAdapt hasDtAdapt
  rw [h, h']
  exact explicitDtAdaptWith_perm true hp

/-- ... in particular not on the order in which the arrays are visited. -/
theorem explicit_array_order_independent (arrs arrs' : List (Arr α)) (hp : arrs.Perm arrs') :
    explicitDtAdapt arrs = explicitDtAdapt arrs' := by
  unfold explicitDtAdapt hasDtAdapt
  rw [hp.any_eq]
  exact explicitDtAdaptWith_perm _ (hp.flatMap_right _)

/-- the three criterion maxima do not depend on the order of the arrays -/
theorem factors_array_order_independent (arrs arrs' : List (Arr α)) (hp : arrs.Perm arrs') :
    factors arrs = factors arrs' := by
  simp only [factors, factor_multiset_only _ arrs arrs' (hp.flatMap_right _)]

/-- **The whole of `compute_time_step` is independent of the order in which the
particle arrays are handed to the integrator.** -/
theorem compute_time_step_array_order_independent (sqrt : α → α) (arrs arrs' : List (Arr α))
    (cfl : α) (fixedH : Option (Ext α)) (hwf : WF arrs) (hp : arrs.Perm arrs') :
    computeTimeStep sqrt arrs cfl fixedH = computeTimeStep sqrt arrs' cfl fixedH := by
  simp only [computeTimeStep, computeTimeStepFrom,
    explicit_array_order_independent arrs arrs' hp,
    factors_array_order_independent arrs arrs' hp,
    hmin_array_order_independent arrs arrs' hwf hp]

/-- More particles never raise `hmin`: if every smoothing length present in
`arrs` is also present in `arrs'` (particles were added, arrays were split or
merged), the new minimum exists and is ≤ the old one.  (A scan that stops
early or skips an array breaks this.) -/
theorem hmin_antitone_in_particles (arrs arrs' : List (Arr α)) (hwf : WF arrs) (hwf' : WF arrs')
    (hsub : ∀ x ∈ allH arrs, x ∈ allH arrs') (h : α) (hh : hMinimum arrs = some h) :
    ∃ h', hMinimum arrs' = some h' ∧ h' ≤ h :=
  (hh ▸ hMinimum_isExtMin arrs hwf).antitone (hMinimum_isExtMin arrs' hwf') hsub

/-- non-vacuity: the same five particles split and ordered in two ways -/
example :
    let a : Arr ℚ := { nAll := 3, hAll := [3, 1, 2], dtAdapt := some [5, 4, 6],
                        dtCfl := none, dtForce := none, dtVisc := none }
    let b : Arr ℚ := { nAll := 2, hAll := [7, 9], dtAdapt := some [8, 7],
                        dtCfl := none, dtForce := none, dtVisc := none }
    let c : Arr ℚ := { nAll := 4, hAll := [9, 2, 7, 1], dtAdapt := some [7, 6, 8, 4],
                        dtCfl := none, dtForce := none, dtVisc := none }
    let d : Arr ℚ := { nAll := 1, hAll := [3], dtAdapt := some [5],
                        dtCfl := none, dtForce := none, dtVisc := none }
    (allH [a, b]).Perm (allH [c, d]) ∧ hMinimum [a, b] = some 1 ∧ hMinimum [c, d] = some 1 ∧
    explicitDtAdapt [a, b] = Res.val 4 ∧ explicitDtAdapt [d, c] = Res.val 4 := by
  refine ⟨by decide, ?_, ?_, ?_, ?_⟩ <;> decide +kernel

/-- `Allreduce(MIN)` of finite offers is the smallest of them -/
theorem reduceMin_spec (a : α) (others : List α) :
    ∃ m, reduceMin (some a) others = some m ∧ m ∈ a :: others ∧ ∀ o ∈ a :: others, m ≤ o := by
  have h := reduceMin_isExtMin (isExtMin_singleton a) others
  cases hr : reduceMin (some a) others with
  | none => rw [hr] at h; exact absurd h (List.cons_ne_nil a others)
  | some m => rw [hr] at h; exact ⟨m, rfl, h⟩

/-- the offer of a rank whose `compute_time_step` returned `None` or a value -/
def offerOf (big : α) : Res α → α
  | Res.val d => d
  | _ => big

/-- **Parallel run = minimum over the ranks that have a constraint, else the fixed step.**
With `offers` = this rank's offer followed by the other ranks' (each a positive step or the
sentinel): if some rank offers less than the sentinel the result is the smallest offer (so it
never exceeds what any rank's particles allow); if none does, no criterion applies anywhere
and the fixed step is kept. -/
theorem par_is_min_or_fixed (big und : α) (loc : Res α) (others : List α)
    (hloc : loc = Res.none ∨ ∃ d, loc = Res.val d) :
    ∃ m, m ∈ offerOf big loc :: others ∧ (∀ o ∈ offerOf big loc :: others, m ≤ o) ∧
      solverTimestepPar big und loc others = if big ≤ m then Res.val und else Res.val m := by
  have hoff : parOffer big loc = some (some (offerOf big loc)) := by
    rcases hloc with rfl | ⟨d, rfl⟩ <;> rfl
  obtain ⟨m, hm, hmem, hle⟩ := reduceMin_spec (offerOf big loc) others
  exact ⟨m, hmem, hle, by simp [solverTimestepPar, solverTimestepParOrig, hoff, hm]⟩

/-- no rank has a constraint ⇒ the fixed step is kept: the comparison of the reduced value with
the sentinel at the end of `Solver._compute_timestep` (pysph commit ed9627f), which
`solverTimestepParOrig` lacks -/
theorem par_no_rank_constrained_keeps_fixed (big und : α) (others : List α)
    (h : ∀ o ∈ others, big ≤ o) :
    solverTimestepPar big und Res.none others = Res.val und := by
  obtain ⟨m, hmem, _, hres⟩ := par_is_min_or_fixed big und Res.none others (Or.inl rfl)
  rw [hres, if_pos (List.forall_mem_cons.mpr ⟨le_refl big, h⟩ m hmem)]

/-- a single rank behaves like the serial solver (steps below the sentinel) -/
theorem par_single_rank_eq_serial (big und : α) (loc : Res α)
    (hloc : loc = Res.none ∨ ∃ d, loc = Res.val d ∧ d < big) :
    solverTimestepPar big und loc [] = solverTimestepOf loc und := by
  rcases hloc with rfl | ⟨d, rfl, hd⟩
  · simp [solverTimestepPar, solverTimestepParOrig, parOffer, reduceMin, solverTimestepOf]
  · simp [solverTimestepPar, solverTimestepParOrig, parOffer, reduceMin, solverTimestepOf,
      not_le.mpr hd]

/-- without that comparison (`solverTimestepParOrig`, pysph before commit ed9627f) the fixed step
is lost: with no constraint on any rank the sentinel itself is proposed (the run then jumps to
`tf` in one step) -/
theorem par_orig_loses_fixed_step :
    solverTimestepParOrig (100 : ℚ) Res.none [100] = Res.val 100 := by decide +kernel

example : solverTimestepPar (100 : ℚ) (1/100) Res.none [100] = Res.val (1/100) ∧
    solverTimestepPar (100 : ℚ) (1/100) Res.none [3/1000, 100] = Res.val (3/1000) ∧
    solverTimestepPar (100 : ℚ) (1/100) (Res.val (1/500)) [3/1000, 100] = Res.val (1/500) := by
  decide +kernel

/-! ## non-vacuity: concrete states meeting the hypotheses (over ℚ) -/

/-- two arrays, the second empty, `h` above one: the step is `cfl·hmin/max` -/
example :
    let a1 : Arr ℚ := { nAll := 2, hAll := [2, 4], dtAdapt := none,
                        dtCfl := some [1, 2], dtForce := none, dtVisc := none }
    let a2 : Arr ℚ := { nAll := 0, hAll := [], dtAdapt := none,
                        dtCfl := some [], dtForce := none, dtVisc := some [] }
    WF [a1, a2] ∧ explicitDtAdapt [a1, a2] = Res.none ∧ hMinimum [a1, a2] = some 2 ∧
    computeTimeStep (fun x => x) [a1, a2] (1/4) none = Res.val (1/4) := by
  refine ⟨?_, ?_, ?_, ?_⟩
  · intro pa hpa; simp at hpa; rcases hpa with rfl | rfl <;> rfl
  · decide +kernel
  · decide +kernel
  · decide +kernel

example :
    let a1 : Arr ℚ := { nAll := 2, hAll := [2, 4], dtAdapt := some [1/100, 1/50],
                        dtCfl := some [1, 2], dtForce := none, dtVisc := none }
    explicitDtAdapt [a1] = Res.val (1/100) := by decide +kernel

end PysphVerif.C19
