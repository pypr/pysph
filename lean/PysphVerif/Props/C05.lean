import PysphVerif.Lemmas.Determinism
import PysphVerif.Lemmas.TreeReduce
import PysphVerif.Lemmas.DisciplineTable
import Mathlib.Tactic.NormNum
/-!
# C05 — results do not depend on neighbour algorithm, cache, threads or re-ordering

The theorems are about `Model/Determinism.lean` (the generated
pair loop of `acceleration_eval_cython.mako` as micro-steps "row `dst` absorbs
row `src`", threads as per-thread programs, a schedule as ANY partition of the
destinations among threads plus ANY interleaving, `_sort_neighbors`,
`spatially_order_particles`), and about the table of read/write sets that
`translate/c05_rw_sets.py` extracts from every shipped `Equation` subclass
(`Gen/C05Discipline.lean`).

All statements hold for every row type `ρ`, every pair function `f`, every state,
every neighbour function, every number of threads, every partition and every
interleaving (no size bounds).  What is NOT covered: IEEE rounding (equality "up
to summation order" is equality for a right-commutative `f`, i.e. in an exact
field), OpenMP's memory model, and whether each NNPS returns the exact neighbour
set (that is C01) - here it is the hypothesis `(nb₁ i).Perm (nb₂ i)`.
-/
namespace PysphVerif.C05
open PysphVerif.Determinism

variable {ρ κ : Type}

/-- **Schedule independence.**  If the pair function keeps the own-row discipline
(it reads of the source row only a part that no loop body writes), then for every
assignment of destinations to threads (each destination handed out at most once)
and every interleaving of the threads' micro-steps, the parallel loop leaves
exactly the state of the sequential reference: each destination row is the fold
over its neighbour list, in list order, reading the state before the loop. -/
theorem own_row_schedule_independence {f : ρ → ρ → ρ} {rd : ρ → κ} (D : Discipline f rd)
    (nb : Nat → List Nat) (parts : List (List Nat)) (sched : List Nat) (st : List ρ)
    (hpart : parts.flatten.Nodup) :
    runLoop f nb parts sched st = evalAll f nb parts.flatten st :=
  runLoop_eq_evalAll D nb parts sched st hpart

theorem evalAll_congr_dests (f : ρ → ρ → ρ) (nb : Nat → List Nat) (d₁ d₂ : List Nat)
    (st : List ρ) (h : ∀ i, i ∈ d₁ ↔ i ∈ d₂) : evalAll f nb d₁ st = evalAll f nb d₂ st :=
  evalAll_congr f st h fun _ _ _ => rfl

/-- **Thread count, OpenMP on/off, chunking and timing are irrelevant**: two runs of
the same loop with different numbers of threads (`parts₁.length`, `parts₂.length`;
a serial run is one thread), different hand-outs of the same destinations and
different interleavings end in the same state. -/
theorem thread_configuration_irrelevant {f : ρ → ρ → ρ} {rd : ρ → κ} (D : Discipline f rd)
    (nb : Nat → List Nat) (parts₁ parts₂ : List (List Nat)) (sched₁ sched₂ : List Nat)
    (st : List ρ) (h₁ : parts₁.flatten.Nodup) (h₂ : parts₂.flatten.Nodup)
    (hsame : parts₁.flatten.Perm parts₂.flatten) :
    runLoop f nb parts₁ sched₁ st = runLoop f nb parts₂ sched₂ st := by
  rw [own_row_schedule_independence D nb parts₁ sched₁ st h₁,
    own_row_schedule_independence D nb parts₂ sched₂ st h₂]
  exact evalAll_congr_dests f nb _ _ st (fun i => hsame.mem_iff)

/-- Without the discipline the claim is false: a pair function that reads what the
loop writes gives different states under two interleavings of two threads. -/
theorem schedule_matters_without_discipline :
    ∃ (f : Nat → Nat → Nat) (nb : Nat → List Nat) (parts : List (List Nat))
      (s₁ s₂ : List Nat) (st : List Nat),
      parts.flatten.Nodup ∧ runLoop f nb parts s₁ st ≠ runLoop f nb parts s₂ st :=
  ⟨fun r s => r + s, fun i => if i = 0 then [1] else [0], [[0], [1]], [0, 1], [1, 0], [1, 2],
    by decide +kernel, by decide +kernel⟩

/-- **Sorted neighbours: bit-identical.**  Two neighbour searches (different NNPS
classes, cache on or off) that return the same neighbour set for every destination,
in whatever order, give the same state once the lists are sorted by a key that is
distinct on each list (`--sort-gids`) - for ANY pair function, commutative or not,
so also in floating point. -/
theorem eval_depends_on_nbr_set_when_sorted (f : ρ → ρ → ρ) (key : Nat → Nat)
    (nb₁ nb₂ : Nat → List Nat) (dests : List Nat) (st : List ρ)
    (hset : ∀ i ∈ dests, (nb₁ i).Perm (nb₂ i))
    (hkey : ∀ i ∈ dests, ∀ a ∈ nb₁ i, ∀ b ∈ nb₁ i, key a = key b → a = b) :
    evalAll f (fun i => sortNbrs key (nb₁ i)) dests st =
      evalAll f (fun i => sortNbrs key (nb₂ i)) dests st :=
  evalAll_congr f st (fun _ => Iff.rfl) fun i h r => by
    rw [sortNbrs_eq_of_perm key _ _ (hset i h) (hkey i h)]

/-- the two previous results together: with sorted neighbours the state after a loop
is the same for every exact neighbour search, every thread count, every hand-out and
every interleaving -/
theorem sorted_loop_configuration_independent {f : ρ → ρ → ρ} {rd : ρ → κ}
    (D : Discipline f rd) (key : Nat → Nat) (nb₁ nb₂ : Nat → List Nat)
    (parts₁ parts₂ : List (List Nat)) (sched₁ sched₂ : List Nat) (st : List ρ)
    (h₁ : parts₁.flatten.Nodup) (h₂ : parts₂.flatten.Nodup)
    (hsame : parts₁.flatten.Perm parts₂.flatten)
    (hset : ∀ i ∈ parts₁.flatten, (nb₁ i).Perm (nb₂ i))
    (hkey : ∀ i ∈ parts₁.flatten, ∀ a ∈ nb₁ i, ∀ b ∈ nb₁ i, key a = key b → a = b) :
    runLoop f (fun i => sortNbrs key (nb₁ i)) parts₁ sched₁ st =
      runLoop f (fun i => sortNbrs key (nb₂ i)) parts₂ sched₂ st := by
  rw [own_row_schedule_independence D _ parts₁ sched₁ st h₁,
    own_row_schedule_independence D _ parts₂ sched₂ st h₂,
    eval_depends_on_nbr_set_when_sorted f key nb₁ nb₂ _ st hset hkey]
  exact evalAll_congr_dests f _ _ _ st (fun i => hsame.mem_iff)

/-- **Unsorted neighbours: equal up to summation order.**  If absorbing two sources
commutes (sums in an exact field), the order in which a neighbour search lists the
neighbours does not matter either. -/
theorem eval_indep_of_nbr_order_of_comm {f : ρ → ρ → ρ}
    (hcomm : ∀ r a b, f (f r a) b = f (f r b) a) (nb₁ nb₂ : Nat → List Nat) (dests : List Nat)
    (st : List ρ) (hset : ∀ i ∈ dests, (nb₁ i).Perm (nb₂ i)) :
    evalAll f nb₁ dests st = evalAll f nb₂ dests st :=
  evalAll_congr f st (fun _ => Iff.rfl) fun i h r => evalRow_perm hcomm st r (hset i h)

set_option linter.unusedVariables false in
/-- **Permutation equivariance.**  Re-order the particles (`new[k] = old[idx[k]]` for
every property) and let the neighbour search on the re-ordered arrays return, for
new index `k`, the re-labelled neighbours of old index `idx[k]` in any order.  Then
evaluating the loop on the re-ordered state is the re-ordering of the evaluation on
the original state: the same value per particle identity, as multisets of summands
(`hcomm`: exact field).  `hrange` is not needed (`evalAll_gather`): a neighbour index
outside `idx` is skipped on both sides. -/
theorem perm_equivariance {f : ρ → ρ → ρ} (hcomm : ∀ r a b, f (f r a) b = f (f r b) a)
    (idx : List Nat) (st : List ρ) (hin : ∀ j ∈ idx, j < st.length)
    (nb nb' : Nat → List Nat) (dests dests' : List Nat)
    (hrange : ∀ k, ∀ a ∈ nb' k, a < idx.length)
    (hnb : ∀ k j, idx[k]? = some j → ((nb' k).filterMap (fun a => idx[a]?)).Perm (nb j))
    (hd : ∀ k j, idx[k]? = some j → (k ∈ dests' ↔ j ∈ dests)) :
    evalAll f nb' dests' (gather idx st) = gather idx (evalAll f nb dests st) :=
  evalAll_gather hcomm idx st hin nb nb' dests dests' hnb hd

/-- **Re-ordering with sorted neighbours: bit-identical.**  If neighbours are sorted
by a key that travels with the particle (`key' a = key idx[a]`, the gid) and is
distinct on each list, the fold order per particle identity is the same before and
after the re-ordering, so no commutativity is needed. -/
theorem sorted_order_travels_with_particles (key key' : Nat → Nat) (idx : List Nat)
    (l' l : List Nat)
    (hkey : ∀ a j, idx[a]? = some j → key' a = key j)
    (hp : (l'.filterMap (fun a => idx[a]?)).Perm l)
    (hinj : ∀ a ∈ l, ∀ b ∈ l, key a = key b → a = b) :
    (sortNbrs key' l').filterMap (fun a => idx[a]?) = sortNbrs key l := by
  refine eq_sortNbrs key (((sortNbrs_perm key' l').filterMap _).trans hp) ?_ hinj
  -- the images are sorted by `key` because `key'` is `key` read through `idx`
  rw [List.pairwise_filterMap]
  refine (sortNbrs_sorted key' l').imp ?_
  intro a b hab ja hja jb hjb
  simp only [keyLe, decide_eq_true_eq] at hab ⊢
  rw [← hkey a ja hja, ← hkey b jb hjb]
  exact hab

def Disciplined (f : ρ → ρ → ρ) : Prop := ∃ (κ : Type) (rd : ρ → κ), Discipline f rd

/-- two configurations of one loop that the property regards as "the same simulation" -/
def CfgEquiv (key : Nat → Nat) (c₁ c₂ : LoopCfg) : Prop :=
  c₁.parts.flatten.Nodup ∧ c₂.parts.flatten.Nodup ∧ c₁.parts.flatten.Perm c₂.parts.flatten ∧
    (∀ i ∈ c₁.parts.flatten, (c₁.nb i).Perm (c₂.nb i)) ∧
    (∀ i ∈ c₁.parts.flatten, ∀ a ∈ c₁.nb i, ∀ b ∈ c₁.nb i, key a = key b → a = b)

def StagesEquiv (key : Nat → Nat) :
    List ((ρ → ρ → ρ) × LoopCfg) → List ((ρ → ρ → ρ) × LoopCfg) → Prop
  | [], [] => True
  | a :: l₁, b :: l₂ => a.1 = b.1 ∧ CfgEquiv key a.2 b.2 ∧ StagesEquiv key l₁ l₂
  | _, _ => False

/-- **A whole simulation with sorted neighbours is configuration independent.**  Any
number of loops (all equations, all stages, all time steps), each run under its own
neighbour search, thread count, hand-out and interleaving: if stage by stage the two
runs use the same pair function and equivalent configurations, the final states are
identical - for any pair functions, so bit for bit. -/
theorem sorted_simulation_configuration_independent (key : Nat → Nat)
    (s₁ s₂ : List ((ρ → ρ → ρ) × LoopCfg)) (st : List ρ)
    (hdisc : ∀ x ∈ s₁, Disciplined x.1) (heq : StagesEquiv key s₁ s₂) :
    runStages key s₁ st = runStages key s₂ st := by
  fun_induction StagesEquiv key s₁ s₂ generalizing st with
  | case1 => rfl
  | case2 a l₁ b l₂ ih =>
    obtain ⟨f, c₁⟩ := a
    obtain ⟨g, c₂⟩ := b
    obtain ⟨rfl, ⟨h₁, h₂, hsame, hset, hkey⟩, hrest⟩ := heq
    obtain ⟨κ, rd, D⟩ := hdisc (f, c₁) List.mem_cons_self
    show runStages key l₁ _ = runStages key l₂ _
    rw [sorted_loop_configuration_independent D key c₁.nb c₂.nb c₁.parts c₂.parts c₁.sched
      c₂.sched st h₁ h₂ hsame hset hkey]
    exact ih _ (fun x hx => hdisc x (List.mem_cons_of_mem _ hx)) hrest
  | case3 => exact heq.elim

/-! ## the neighbour search itself: threaded tree build, pruning, pair filter

`Model/TreeReduce.lean`.  The structures the neighbour searches build are threaded
too (octree build: whenever the environment offers threads, whatever `--openmp`
says), and options such as `--fixed-h` reach the pair filter.  What the search
returns must not depend on either. -/

section tree
open PysphVerif.TreeReduce

/-- **The level-1 `hmax` table of the parallel octree build is schedule independent
and equals the serial build's.**  For every number of threads, every hand-out of
the particles to the threads (`chunks`, any permutation of `0..n-1`, not only
OpenMP's static chunks), and every interleaving of the loop iterations, merging the
per-thread tables gives, for every octant, what the single loop of the serial build
computes. -/
theorem level1_hmax_schedule_independent {α : Type} [LinearOrder α] (zero : α)
    (oct : Nat → Nat) (h : Nat → α) (n : Nat) (chunks : List (List Nat)) (sched : List Nat)
    (hperm : chunks.flatten.Perm (List.range n)) :
    parHmax zero oct h n chunks sched = serialHmax zero oct h (List.range n) := by
  have hc : ∀ c ∈ chunks, ∀ p ∈ c, p < n := by
    intro c hcm p hp
    exact List.mem_range.mp (hperm.mem_iff.mp (List.mem_flatten.mpr ⟨c, hcm, hp⟩))
  funext o
  unfold parHmax mergeTables
  rw [parTables_take zero oct h n chunks sched hc,
    merge_chunks zero oct h chunks _ (fun _ => le_refl _) o, serialHmax_apply]
  exact octMax_perm oct h o zero hperm

/-- two parallel builds (different thread counts, chunkings, timings) agree -/
theorem level1_hmax_thread_configuration_irrelevant {α : Type} [LinearOrder α] (zero : α)
    (oct : Nat → Nat) (h : Nat → α) (n : Nat) (chunks₁ chunks₂ : List (List Nat))
    (sched₁ sched₂ : List Nat) (h₁ : chunks₁.flatten.Perm (List.range n))
    (h₂ : chunks₂.flatten.Perm (List.range n)) :
    parHmax zero oct h n chunks₁ sched₁ = parHmax zero oct h n chunks₂ sched₂ := by
  rw [level1_hmax_schedule_independent zero oct h n chunks₁ sched₁ h₁,
    level1_hmax_schedule_independent zero oct h n chunks₂ sched₂ h₂]

/-- the table is an upper bound of the `h` of every particle of the octant - what
the pruning test needs (`prune_sound`) -/
theorem level1_hmax_bounds_octant {α : Type} [LinearOrder α] (zero : α) (oct : Nat → Nat)
    (h : Nat → α) (n : Nat) (chunks : List (List Nat)) (sched : List Nat)
    (hperm : chunks.flatten.Perm (List.range n)) (p : Nat) (hp : p < n) :
    h p ≤ parHmax zero oct h n chunks sched (oct p) := by
  rw [level1_hmax_schedule_independent zero oct h n chunks sched hperm, serialHmax_apply]
  exact le_octMax_of_mem oct h _ zero _ p (List.mem_range.mpr hp) rfl

/-- **Accumulating into ONE shared table is not schedule independent**: with the
read-modify-write `hmax_children[o] = fmax(hmax_children[o], h[p])` executed by two
threads there is an interleaving that loses the larger value (thread 1 loads, thread
0 loads and stores 5, thread 1 stores 1). -/
theorem shared_hmax_lost_update :
    ∃ (oct : Nat → Nat) (h : Nat → Nat) (chunks : List (List Nat)) (sched : List Nat),
      chunks.flatten.Perm (List.range 2) ∧
      racyHmax 0 oct h chunks sched 0 < serialHmax 0 oct h (List.range 2) 0 :=
  ⟨fun _ => 0, fun p => if p = 0 then 5 else 1, [[0], [1]], [1, 0, 0, 1], by decide +kernel, by decide +kernel⟩

/-- ... while ONE thread on the shared table (the serial path, `OMP_NUM_THREADS=1`)
computes the serial table under every schedule -/
theorem shared_hmax_single_thread_ok {α : Type} [Max α] (zero : α) (oct : Nat → Nat)
    (h : Nat → α) (c : List Nat) (sched : List Nat) :
    racyHmax zero oct h [c] sched = serialHmax zero oct h c := by
  unfold racyHmax serialHmax
  simp only [racyProgs, interleave_single]
  exact racy_fold_single oct h c _

/-- **Pruning is sound when the node's `hmax` bounds the `h` of its particles.**  A
particle `x` of a node (within `half` of the centre `c` on every axis) with
`h_j ≤ hmax` is NOT a neighbour (gather or scatter) of a query point `q` for which
the tree walk skips the node. -/
theorem prune_sound {α : Type} [Field α] [LinearOrder α] [IsStrictOrderedRing α]
    (half k hq hj hmax : α) (c q x : α × α × α) (hk : 0 ≤ k) (hhq : 0 ≤ hq) (hhj : 0 ≤ hj)
    (hle : hj ≤ hmax)
    (hin : |x.1 - c.1| ≤ half ∧ |x.2.1 - c.2.1| ≤ half ∧ |x.2.2 - c.2.2| ≤ half)
    (hp : pruned half k hq hmax c q) : ¬ isNbr k (dist2 x q) hq hj := by
  obtain ⟨d1, d2, d3⟩ := dist2_ge_axes x q
  rcases hp with hp | hp | hp
  · exact not_isNbr_of_pruned_axis half k hq hj hmax c.1 q.1 x.1 _ hk hhq hhj hle hin.1 hp d1
  · exact not_isNbr_of_pruned_axis half k hq hj hmax c.2.1 q.2.1 x.2.1 _ hk hhq hhj hle hin.2.1 hp d2
  · exact not_isNbr_of_pruned_axis half k hq hj hmax c.2.2 q.2.2 x.2.2 _ hk hhq hhj hle hin.2.2 hp d3

/-- ... and unsound when `hmax` under-estimates (a lost update): the node is skipped
although it holds a particle whose scatter radius reaches the query point -/
theorem prune_unsound_if_hmax_underestimated :
    ∃ (half k hq hj hmax : Rat) (c q x : Rat × Rat × Rat),
      0 ≤ k ∧ 0 ≤ hq ∧ 0 ≤ hj ∧ hmax < hj ∧
      (|x.1 - c.1| ≤ half ∧ |x.2.1 - c.2.1| ≤ half ∧ |x.2.2 - c.2.2| ≤ half) ∧
      pruned half k hq hmax c q ∧ isNbr k (dist2 x q) hq hj :=
  ⟨1, 2, 1, 5, 1, (0, 0, 0), (5, 0, 0), (1, 0, 0), by norm_num, by norm_num, by norm_num,
    by norm_num, by norm_num, Or.inl (by norm_num [prunedOnAxis]),
    Or.inr (by norm_num [dist2])⟩

theorem isNbr_symm {α : Type} [Mul α] [LT α] (k d2 hi hj : α) :
    isNbr k d2 hi hj ↔ isNbr k d2 hj hi := Or.comm

/-- with a spatially uniform `h` the gather radius alone selects the same pairs ... -/
theorem gather_only_eq_of_uniform_h {α : Type} [Mul α] [LT α] (k d2 h : α) :
    isNbrGather k d2 h ↔ isNbr k d2 h h := (or_self_iff).symm

/-- ... but "constant in time" (`--fixed-h`) is not "uniform in space": with
`h_i < h_j` the gather radius alone loses the pairs inside the scatter radius, and
is not symmetric -/
theorem gather_only_misses_scatter :
    ∃ (k d2 hi hj : Nat), isNbr k d2 hi hj ∧ ¬ isNbrGather k d2 hi ∧ isNbrGather k d2 hj :=
  ⟨2, 9, 1, 2, by simp [isNbr], by simp [isNbrGather], by simp [isNbrGather]⟩

end tree

/-- **Every shipped equation keeps the own-row discipline** (or is one of the listed,
reasoned exceptions): every per-particle hook writes destination properties only at
`[d_idx]` (strided: within the row of `d_idx`), never writes a source property, hands
no array to a helper, and reads neither from the source array nor from another
destination row a property that it writes itself.  The rule (`hookOk`) is applied hook
by hook: hooks, and equations of one group, whose bodies share a `prange` are not
compared with each other.  The table is re-extracted from `/repo` on every run
(`translate/c05_rw_sets.py`). -/
theorem own_row_discipline_table :
    PysphVerif.Gen.C05Discipline.table.all PysphVerif.Gen.C05Discipline.rowOk = true :=
  all_ok_or_listed PysphVerif.Gen.C05Discipline.exceptions_eq

/-- every exception that is tolerated is still an equation of the table that violates
the syntactic rule - the exception list carries no stale names -/
theorem exceptions_are_real :
    PysphVerif.Gen.C05Discipline.exceptions.all
      PysphVerif.Gen.C05Discipline.exceptionIsReal = true :=
  listed_break_rule PysphVerif.Gen.C05Discipline.exceptions_eq

/-- a concrete discipline: rows `(payload, accumulator)`, `f` adds the source payload
times ten into the accumulator (so `f` is not right-commutative) -/
example : Discipline (fun (r s : Nat × Nat) => (r.1, 10 * r.2 + s.1)) Prod.fst :=
  ⟨fun _ _ _ h => by simp [h], fun _ _ => rfl⟩

/-- a three-thread schedule with a non-trivial interleaving on five rows -/
example :
    runLoop (fun (r s : Nat × Nat) => (r.1, 10 * r.2 + s.1))
      (fun i => if i = 0 then [1, 2, 4] else if i = 1 then [0, 3] else if i = 3 then [4, 0, 1] else [])
      [[3], [0, 2], [1]] [1, 0, 2, 2, 1, 0, 0, 1, 7, 0] [(1, 0), (2, 0), (3, 0), (4, 0), (5, 0)]
    = [(1, 235), (2, 14), (3, 0), (4, 512), (5, 0)] := by decide +kernel

example : sortNbrs (fun j => 100 - j) [3, 9, 4, 7] = [9, 7, 4, 3] :=
  (eq_sortNbrs _ (by decide) (by decide) (by decide)).symm

/-- the hypotheses of `eval_depends_on_nbr_set_when_sorted` are satisfiable by lists
in different orders -/
example : sortNbrs (fun j => 100 - j) [3, 9, 4, 7] = sortNbrs (fun j => 100 - j) [7, 4, 3, 9] :=
  sortNbrs_eq_of_perm _ _ _ (by decide) (by decide)

/-- three threads, a non-trivial interleaving, four octants: the parallel table -/
example :
    (List.range 4).map (PysphVerif.TreeReduce.parHmax 0 (fun p => p % 4)
      (fun p => (7 * p + 3) % 11) 9 [[0, 1, 2], [3, 4, 5], [6, 7, 8]] [2, 0, 1, 1, 2, 0, 0, 5]) =
    (List.range 4).map (PysphVerif.TreeReduce.serialHmax 0 (fun p => p % 4)
      (fun p => (7 * p + 3) % 11) (List.range 9)) := by decide +kernel

example : gather [2, 0, 1] ["a", "b", "c"] = ["c", "a", "b"] := by decide

end PysphVerif.C05
