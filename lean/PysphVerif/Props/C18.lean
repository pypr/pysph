import PysphVerif.Lemmas.ControllerStarve
import PysphVerif.Lemmas.ControllerFair
/-!
# C18 — the solver controller never loses a command or a wake-up

Property theorems about `Model/Controller.lean`, the small-step model of
`pysph/solver/controller.py` at synchronisation-primitive granularity (tied to
the real `CommandManager` by forced-schedule differential execution,
harness/c18.py).

Quantifiers: every theorem over `Reachable cfg progs s` holds for **every**
protocol variant `cfg` (the original protocol `Cfg.orig`, the repaired one
`Cfg.fixed`, and the mixtures), **any number** of interface threads running
**arbitrary** operation lists `progs`, and **every** schedule (reachability is
closed under steps of any enabled thread).

The `…_reachable` theorems exhibit, in the original protocol
(`Cfg.orig`), the schedules that block threads forever; the harness replays
them on the real code.
-/
namespace PysphVerif.C18
open PysphVerif.Controller

/-- At every reachable state the ids ever appended to `queue` are exactly: the
executed ones (in execution order), then the one the solver has popped and is
about to run, then the ones still queued — no id is lost, duplicated or
reordered; in particular no command is executed twice. -/
theorem queue_exactly_once (cfg : Cfg) (progs : Tid → List Op) (s : State)
    (hr : Reachable cfg progs s) :
    s.queuedLog = execIds s ++ inflight s ++ s.queue ∧
    s.queuedLog.Nodup ∧ (execIds s).Nodup := by
  have h := (reachable_inv hr).1
  refine ⟨h.fifo, h.nodup, ?_⟩
  have hn := h.nodup
  rw [h.fifo] at hn
  exact (List.nodup_append.mp (List.nodup_append.mp hn).1).1

/-- A command runs only in the solver thread, inside `run_queued_commands`
(i.e. at a control point, under `qlock` and `res_lock`), and what is logged is
the popped id with the solver's current `count` and the command's result. -/
theorem executed_only_at_control_point (cfg : Cfg) (s s' : State) (t : Tid) (evs : List Ev)
    (hs : step cfg s t = some (s', evs)) (hne : s'.execLog ≠ s.execLog) :
    t = 0 ∧ ∃ ctx id c, s.spc = SPc.runAcqRes ctx id c ∧
      s'.execLog = s.execLog ++ [(id, s.count, cmdVal c s.count)] := by
  unfold step at hs
  split at hs
  · exact ⟨‹t = 0›, (stepSolver_execLog hs).resolve_left hne⟩
  · exact absurd (stepIface_execLog hs).1 hne

/-- An id still in `queue` was queued and has not been executed.  (The order is in
`queue_exactly_once`: `queue` is the not-yet-popped tail of `queuedLog`.) -/
theorem queue_is_fifo (cfg : Cfg) (progs : Tid → List Op) (s : State)
    (hr : Reachable cfg progs s) (id : Nat) (hid : id ∈ s.queue) :
    id ∈ s.queuedLog ∧ id ∉ execIds s :=
  queue_facts (reachable_inv hr).1 hid

/-- What `get_result` hands out for task `k` is the value computed by the one
execution of `k`, and it is handed out at most once per task. -/
theorem result_delivered_is_execution_result (cfg : Cfg) (progs : Tid → List Op) (s : State)
    (hr : Reachable cfg progs s) :
    (∀ k v, (k, v) ∈ s.delivered → ∃ n, (k, n, v) ∈ s.execLog) ∧
    (s.delivered.map (·.1)).Nodup ∧
    (∀ k v, (k, v) ∈ s.results → ∃ n, (k, n, v) ∈ s.execLog) := by
  have h := (reachable_inv hr).1
  exact ⟨fun k v hk => h.res k v (Or.inr hk), (List.nodup_append.mp h.resNodup).2.1,
    fun k v hk => h.res k v (Or.inl hk)⟩

/-- `get_result(k)` gets past the per-command lock only after `k` has run. -/
theorem get_result_blocks_until_run (cfg : Cfg) (progs : Tid → List Op) (s : State)
    (hr : Reachable cfg progs s) (t : Tid) (k : Nat) (hk : holding (s.th t).pc = some k) :
    k ∈ execIds s :=
  (reachable_inv hr).1.holds t k hk

/-- …and a task that was queued and has not run yet still has its lock held, so
`get_result` blocks on it. -/
theorem unexecuted_command_lock_is_held (cfg : Cfg) (progs : Tid → List Op) (s : State)
    (hr : Reachable cfg progs s) (k : Nat) (hq : k ∈ s.queuedLog) (hx : k ∉ execIds s) :
    k ∈ s.cLocked :=
  ((reachable_inv hr).1.locked k hq).resolve_right hx

/-- Once the solver has honoured thread `t`'s pause request (`t ∈ paused`; in
the repaired code this is what `wait()` waits for), `t` is still in `pause`, the
solver sits inside the `while self.pause` loop of `wait_for_cmd`, and no step of
any thread makes the solver progress (`count` is unchanged) or takes `t` out of
`paused` — except `t`'s own `cont()`. -/
theorem paused_solver_makes_no_progress_until_cont (cfg : Cfg) (progs : Tid → List Op)
    (s : State) (hr : Reachable cfg progs s) (t : Tid) (ht : t ∈ s.paused) :
    t ∈ s.pause ∧ InLoop s.spc ∧
    ∀ u s' evs, step cfg s u = some (s', evs) →
      s'.count = s.count ∧ (t ∈ s'.paused ∨ (u = t ∧ (s.th t).pc = IPc.cAcqP)) := by
  have hp := reachable_pinv hr
  have hl : InLoop s.spc := hp.loop (List.ne_nil_of_mem ht)
  refine ⟨hp.sub t ht, hl, ?_⟩
  intro u s' evs hs
  unfold step at hs
  split at hs
  · have := stepSolver_count hs
    refine ⟨this.1 ?_, Or.inl (this.2 t ht)⟩
    intro e; rw [e] at hl; exact hl
  · refine ⟨(stepIface_execLog hs).2, ?_⟩
    rcases (stepIface_cases hs).pause with ⟨_, e⟩ | ⟨_, e⟩ | ⟨_, hpc, e⟩
    · left; rw [e]; exact ht
    · left; rw [e]; exact ht
    · by_cases hut : t = u
      · right; subst hut; exact ⟨rfl, hpc⟩
      · left; rw [e]; simp [ht, hut]

/-- In the repaired code a `wait()` issued under an active `pause_on_next`
returns only when the solver has honoured the request (hence, by the previous
theorem, sits at a control point and stays there until `cont()`). -/
theorem wait_returns_only_when_honoured (cfg : Cfg) (hw : cfg.waitPred = true) (s s' : State)
    (t : Tid) (evs : List Ev) (ht0 : t ≠ 0) (hs : step cfg s t = some (s', evs))
    (hpc : (s.th t).pc = IPc.wAcqP ∨ (s.th t).pc = IPc.wReacqP)
    (hret : (s'.th t).pc = IPc.wRelP) (hp : t ∈ s.pause) : t ∈ s.paused := by
  unfold step at hs
  rw [if_neg ht0] at hs
  unfold stepIface at hs
  -- at both program counters the thread takes `plock` and goes on by the predicate of `wait()`
  have hnew : (s'.th t).pc = if mustWait s t = true then IPc.wWaitP else IPc.wRelP := by
    rcases hpc with hpc | hpc <;> rw [hpc] at hs <;> simp only [hw, if_true] at hs <;>
      split at hs <;> cases hs <;> exact setPc_th_same ..
  rw [hret] at hnew
  split at hnew
  · cases hnew
  · simpa [mustWait, hp] using ‹¬ mustWait s t = true›

/-- Repaired `wait()` (any variant with the predicate loop and the un-nested
`cont()`): a thread sitting un-notified in `plock`'s wait set has an active
pause request that the solver has NOT yet honoured — or the solver is exactly at
its `notify_all`.  So the state of `lost_wakeup_reachable` (waiter blocked, its
request already served, solver past the notify) is unreachable. -/
theorem wait_wakeup_not_lost (cfg : Cfg) (hw : cfg.waitPred = true) (hn : cfg.contNested = false)
    (progs : Tid → List Op) (s : State) (hr : Reachable cfg progs s) (u : Tid)
    (hu : u ∈ s.pWait) :
    (s.th u).pc = IPc.wBlocked ∧ u ∈ s.pause ∧ (u ∉ s.paused ∨ s.spc = SPc.ntaP) :=
  ⟨(reachable_w hw hn hr).waiting u hu, (reachable_w hw hn hr).kept u hu⟩

/-- `plock` is held by at most one thread: two interface threads at program
counters where the code holds `plock` are the same thread (repaired `wait`/`cont`). -/
theorem plock_mutual_exclusion (cfg : Cfg) (hw : cfg.waitPred = true) (hn : cfg.contNested = false)
    (progs : Tid → List Op) (s : State) (hr : Reachable cfg progs s) (u v : Tid)
    (hu : holdsP (s.th u).pc = true) (hv : holdsP (s.th v).pc = true) : u = v := by
  have h := reachable_w hw hn hr
  have := (h.owner u hu).symm.trans (h.owner v hv)
  exact Option.some.inj this

/-- The solver thread never reaches `crashed`: `self.queue_dict[lock_id]` always finds its entry, and
`self.queue_lock_map[lock_id].release()` always finds the lock, held (the
two places where `run_queued_commands` could raise and end the solver thread). -/
theorem solver_never_raises (cfg : Cfg) (progs : Tid → List Op) (s : State)
    (hr : Reachable cfg progs s) :
    s.spc ≠ SPc.crashed ∧
    (∀ id ∈ s.queue, (lookupCmd s.qdict id).isSome = true) ∧
    (∀ ctx id, s.spc = SPc.runRelC ctx id → id ∈ s.cLocked ∧ id ∈ s.lockmap) := by
  have hS := reachable_safe hr
  have hI := (reachable_inv hr).1
  exact ⟨hS.alive, hS.qd, fun _ _ hspc => hS.relc_locked hI hspc⟩

/-- `get_result(k)` gets past the per-command lock only after the solver has
RELEASED it (not merely run the command): the solver's `release()` never
races with a `get_result` holding the same lock. -/
theorem get_result_holds_lock_only_after_release (cfg : Cfg) (progs : Tid → List Op) (s : State)
    (hr : Reachable cfg progs s) (t : Tid) (k : Nat) (hk : holding (s.th t).pc = some k)
    (ctx : Ctx) : s.spc ≠ SPc.runRelC ctx k := by
  intro e
  exact (reachable_safe hr).hold t k hk (by rw [e]; rfl)

/-- Repaired protocol: the dispatch lock, `res_lock` and `qlock` are each held
by at most one thread, exactly at the program counters where the code holds
them (both directions); for `plock` only the direction owner → program counter
(last clause). -/
theorem lock_ownership (progs : Tid → List Op) (s : State)
    (hr : Reachable Cfg.fixed progs s) :
    (∀ u, ownsD (s.th u).pc = true ↔ s.dlock = some u) ∧
    (∀ u, ownsRes (s.th u).pc = true → s.resLock = some u) ∧
    (sOwnsRes s.spc = true → s.resLock = some 0) ∧
    (∀ v, s.resLock = some v → (v = 0 ∧ sOwnsRes s.spc = true) ∨ ownsRes (s.th v).pc = true) ∧
    (∀ u, ownsQ (s.th u).pc = true → s.qOwner = some u) ∧
    (sOwnsQ s.spc = true → s.qOwner = some 0) ∧
    (∀ v, s.qOwner = some v → (v = 0 ∧ sOwnsQ s.spc = true) ∨ ownsQ (s.th v).pc = true) ∧
    (∀ v, s.pOwner = some v →
      (v = 0 ∧ (s.spc = SPc.ntaP ∨ s.spc = SPc.relP)) ∨ holdsP (s.th v).pc = true) := by
  have h := reachable_locks hr
  exact ⟨fun u => ⟨h.ld.fwd u, fun hd => (h.ld.bwd u hd).resolve_left fun h => h.2⟩, h.lr.fwd,
    h.lr.sfwd, h.lr.bwd, h.lq.fwd, h.lq.sfwd, h.lq.bwd, h.lp.bwd⟩

/-- A held per-command lock belongs to the dispatching thread that is about
to queue the task, or to a `get_result` call that got past it, or else the
task is queued and the solver has not released its lock yet. -/
theorem command_lock_ownership (progs : Tid → List Op) (s : State)
    (hr : Reachable Cfg.fixed progs s) (k : Nat) (hk : k ∈ s.cLocked) :
    (∃ v c, (s.th v).pc = IPc.qAcqQ c k) ∨ (∃ v, holding (s.th v).pc = some k) ∨
    (k ∈ s.queuedLog ∧ (k ∉ execIds s ∨ ∃ ctx, s.spc = SPc.runRelC ctx k)) := by
  apply Classical.byContradiction
  intro hc
  simp only [not_or, not_exists] at hc
  obtain ⟨h1, h2, h3⟩ := hc
  obtain ⟨hq, hx⟩ := (reachable_locks hr).co.cown k hk h1 h2
  refine h3 ⟨hq, hx.imp_right fun hx => ?_⟩
  cases hspc : s.spc <;> simp [hspc, relcId] at hx
  exact ⟨_, by rw [hx]⟩

/-- Repaired `dispatch`/`wait_for_cmd`: the solver goes to sleep in
`qlock.wait()` only with an empty queue, and while it sleeps un-notified the
queue is empty unless the thread holding `qlock` is the dispatcher that has
just appended and is about to `notify_all()` — the wake-up of a command queued
while the solver is paused cannot be lost (cf.
`get_result_while_paused_deadlock_reachable` for the original protocol `Cfg.orig`). -/
theorem dispatch_wakeup_not_lost (progs : Tid → List Op) (s : State)
    (hr : Reachable Cfg.fixed progs s) :
    (s.spc = SPc.waitQ → s.queue = []) ∧
    (s.spc = SPc.blocked → s.qWaiting = true) ∧
    (s.spc = SPc.blocked → s.queue ≠ [] →
      ∃ u id, s.qOwner = some u ∧ (s.th u).pc = IPc.qNtaQ id) := by
  have h := (reachable_locks hr).qs
  refine ⟨h.wq, h.bw, ?_⟩
  intro hb hne
  apply Classical.byContradiction
  intro hc
  apply hne
  apply h.nq hb
  intro u hu
  cases hpc : (s.th u).pc <;> simp only [isQNta]
  exact absurd ⟨u, _, hu, hpc⟩ hc

/-- **No deadlock, repaired protocol, all operations.**  Any number of
interface threads; programs are arbitrary lists over `get`, blocking `set`,
queued (non-blocking) commands, `get_result` of ARBITRARY task ids (own,
foreign, never issued, already fetched), `pause_on_next`, `wait`, `cont` in any
order and nesting — the only requirement (`WF`) is that no program ENDS inside
a pause section (after its last `pause_on_next` a thread eventually calls
`cont`).  Then in every reachable state, under every schedule, some thread can
take a step.  In particular `get_result` between `pause_on_next` and `cont`
(the deadlock `get_result_while_paused_deadlock_reachable` of the original protocol `Cfg.orig`)
is fine after the repair. -/
theorem no_deadlock (ps : List (List Op)) (hwf : ∀ p ∈ ps, WF false p = true) (s : State)
    (hr : Reachable Cfg.fixed (progsOf ps) s) :
    ∃ t, t ≤ ps.length ∧ enabled Cfg.fixed s t = true :=
  full_not_stuck (reachable_good hwf hr)

/-- …and whenever the solver itself is blocked, it is an *interface* thread
that can move (so a blocked solver is always released by its controllers). -/
theorem blocked_solver_has_enabled_controller (ps : List (List Op))
    (hwf : ∀ p ∈ ps, WF false p = true) (s : State)
    (hr : Reachable Cfg.fixed (progsOf ps) s) (hb : enabled Cfg.fixed s 0 = false) :
    ∃ t, 1 ≤ t ∧ t ≤ ps.length ∧ enabled Cfg.fixed s t = true := by
  obtain ⟨t, ht, he⟩ := no_deadlock ps hwf s hr
  refine ⟨t, ?_, ht, he⟩
  cases t with
  | zero => rw [hb] at he; cases he
  | succ k => exact Nat.succ_le_succ (Nat.zero_le _)

/-- The requirement cannot be dropped: a program that ends inside a pause
section leaves the solver asleep for good with nobody left to wake it. -/
theorem unbalanced_pause_blocks_solver :
    let sched := [1, 1, 1, 1, 0, 0, 0, 0, 0, 0, 0, 0]
    let s := run Cfg.fixed (init (progsOf [[Op.pause]])) sched
    WF false [Op.pause] = false ∧
    runs Cfg.fixed (init (progsOf [[Op.pause]])) sched = true ∧ s.spc = SPc.blocked ∧
    (s.th 1).pc = IPc.idle ∧ (s.th 1).prog = [] ∧
    enabled Cfg.fixed s 0 = false ∧ enabled Cfg.fixed s 1 = false := by
  decide

/-- the pause fragment (programs over `get`, blocking `set`, balanced
`pause_on_next … wait … cont`) as a special case -/
theorem no_deadlock_pause_fragment (ps : List (List Op))
    (hwf : ∀ p ∈ ps, WFp false p = true) (s : State)
    (hr : Reachable Cfg.fixed (progsOf ps) s) :
    ∃ t, t ≤ ps.length ∧ enabled Cfg.fixed s t = true :=
  no_deadlock ps (fun p hp => wf_of_wfp false p (hwf p hp)) s hr

example : WF false [Op.pause, Op.wait, Op.queue Cmd.probe, Op.getMine 0, Op.getResult 7,
    Op.cont, Op.queue (Cmd.set 3), Op.getResult 0, Op.wait, Op.cont] = true := by decide

example : WFp false [Op.pause, Op.wait, Op.get, Op.cont, Op.setNow 3] = true := by decide

private def oneThread (ops : List Op) : State := init (progsOf [ops])

/-- F7 — lost wake-up.  Interface thread: `pause_on_next()`; solver: control
point, `plock.notify_all()`, `qlock.wait()`; interface thread: `wait()`.  Both
threads are blocked, nothing is enabled, the program still has `cont()` to run. -/
theorem lost_wakeup_reachable :
    let sched := [1, 1, 1, 1, 0, 0, 0, 0, 0, 0, 0, 0, 1, 1, 1]
    let s := run Cfg.orig (oneThread [Op.pause, Op.wait, Op.cont]) sched
    runs Cfg.orig (oneThread [Op.pause, Op.wait, Op.cont]) sched = true ∧
    (s.th 1).pc = IPc.wBlocked ∧ (s.th 1).prog = [Op.cont] ∧ s.spc = SPc.blocked ∧
    enabled Cfg.orig s 0 = false ∧ enabled Cfg.orig s 1 = false := by
  decide

/-- `cont()` takes `qlock` inside `plock`, `wait_for_cmd` takes `plock` inside
`qlock`: AB-BA deadlock of interface thread and solver. -/
theorem lock_order_deadlock_reachable :
    let sched := [1, 1, 1, 1, 0, 0, 0, 0, 1, 1, 1]
    let s := run Cfg.orig (oneThread [Op.pause, Op.cont]) sched
    runs Cfg.orig (oneThread [Op.pause, Op.cont]) sched = true ∧
    (s.th 1).pc = IPc.cAcqQ ∧ s.pOwner = some 1 ∧ s.spc = SPc.acqP ∧ s.qOwner = some 0 ∧
    enabled Cfg.orig s 0 = false ∧ enabled Cfg.orig s 1 = false := by
  decide

/-- A command queued while the solver is paused is not run before some
`cont()`: the pausing thread's own `get_result` blocks forever. -/
theorem get_result_while_paused_deadlock_reachable :
    let prog := [Op.pause, Op.wait, Op.queue Cmd.probe, Op.getMine 0, Op.cont]
    let sched := [1, 1, 1, 1, 1, 1, 1, 0, 0, 0, 0, 0, 0, 0, 0, 1, 1, 1, 1, 1, 1, 1, 1, 1]
    let s := run Cfg.orig (oneThread prog) sched
    runs Cfg.orig (oneThread prog) sched = true ∧
    (s.th 1).pc = IPc.rAcqC 0 ∧ s.queue = [0] ∧ s.spc = SPc.blocked ∧
    enabled Cfg.orig s 0 = false ∧ enabled Cfg.orig s 1 = false := by
  decide

/-- With two interface threads the second thread's `pause_on_next()` (a
`plock.notify()`) makes the first thread's `wait()` return although the solver
has not reached a control point (`spc = start`, `count = 0`). -/
theorem early_wait_return_reachable :
    let progs := progsOf [[Op.pause, Op.wait, Op.cont], [Op.pause, Op.cont]]
    let sched := [1, 1, 1, 1, 1, 1, 1, 2, 2, 2, 2, 1, 1]
    let s := run Cfg.orig (init progs) sched
    runs Cfg.orig (init progs) sched = true ∧
    (s.th 1).pc = IPc.idle ∧ (s.th 1).prog = [Op.cont] ∧ s.spc = SPc.start ∧ s.count = 0 := by
  decide

/-- the lost-wake-up schedule, continued: `wait()` sees its request honoured,
`cont()` releases the solver, everything finishes -/
example :
    let sched := [1, 1, 1, 1, 0, 0, 0, 0, 0, 0, 0, 0, 1, 1, 1, 1, 1, 1, 1, 1, 1, 1, 0, 0]
    let s := run Cfg.fixed (oneThread [Op.pause, Op.wait, Op.cont]) sched
    runs Cfg.fixed (oneThread [Op.pause, Op.wait, Op.cont]) sched = true ∧
    (s.th 1).pc = IPc.idle ∧ (s.th 1).prog = [] ∧ s.pause = [] ∧ s.paused = [] ∧
    enabled Cfg.fixed s 0 = true := by
  decide

/-- non-vacuity of the safety theorems: a reachable state of the repaired
protocol in which a command has been queued while the solver was paused, run
at that control point, and its result fetched by the pausing thread -/
example :
    let prog := [Op.pause, Op.wait, Op.queue Cmd.probe, Op.getMine 0, Op.cont]
    let sched := [1, 1, 1, 1, 0, 0, 0, 0, 0, 0, 0, 0, 1, 1, 1, 1, 1, 1, 1, 1, 1, 1, 1,
                  0, 0, 0, 0, 0, 0, 0, 0, 1, 1, 1, 1]
    let s := run Cfg.fixed (oneThread prog) sched
    runs Cfg.fixed (oneThread prog) sched = true ∧
    s.execLog = [(0, 1, Val.cnt 1)] ∧ s.delivered = [(0, Val.cnt 1)] ∧ s.paused = [1] ∧
    (s.th 1).prog = [Op.cont] := by
  decide

example : ∃ s, Reachable Cfg.fixed (progsOf [[Op.pause, Op.wait, Op.cont]]) s ∧ s.paused = [1] :=
  ⟨run Cfg.fixed (oneThread [Op.pause, Op.wait, Op.cont]) [1, 1, 1, 1, 0, 0, 0, 0, 0],
   reachable_run _ Reachable.init (by decide), by decide⟩

/-- **Ranking function.**  `muIface` (remaining primitives of all interface
threads), `muSolver` (32·|queue| + the solver's distance to its next pop / next
`paused.update`), `muWait` (position inside the `while …: plock.wait()` loops),
ordered lexicographically (`MuLt`).  In every reachable state of well-formed
programs that is not final, some enabled step strictly decreases the rank: any
step of any enabled interface thread does, and when no interface thread can
move the solver can, and its step does. -/
theorem some_enabled_step_decreases_rank (ps : List (List Op))
    (hwf : ∀ p ∈ ps, WF false p = true) (s : State)
    (hr : Reachable Cfg.fixed (progsOf ps) s) (hnf : ¬ Final ps.length s) :
    ∃ t s' evs, t ≤ ps.length ∧ step Cfg.fixed s t = some (s', evs) ∧ MuLt ps.length s' s :=
  exists_decreasing_step (reachable_good hwf hr) hnf

/-- every step of an interface thread decreases the rank (whoever is scheduled) -/
theorem interface_step_decreases_rank (ps : List (List Op)) (s s' : State) (t : Tid)
    (evs : List Ev) (hr : Reachable Cfg.fixed (progsOf ps) s) (ht1 : 1 ≤ t)
    (htn : t ≤ ps.length) (hs : step Cfg.fixed s t = some (s', evs)) : MuLt ps.length s' s := by
  have ht0 : t ≠ 0 := Nat.ne_of_gt ht1
  have hst : stepIface Cfg.fixed s t = some (s', evs) := by simpa [step, ht0] using hs
  exact iface_step_muLt (reachable_w (cfg := Cfg.fixed) rfl rfl hr) ht1 htn (stepIface_cases hst)

/-- **Nobody is ever blocked for good.**  From EVERY reachable state of
well-formed programs (any number of threads, all operations) there is a finite
continuation after which every interface thread has returned from its last
call and every command ever queued has been executed exactly once.  (So there
is no partial deadlock either — no subset of threads can be stuck while the
solver keeps spinning.) -/
theorem can_always_finish (ps : List (List Op)) (hwf : ∀ p ∈ ps, WF false p = true) (s : State)
    (hr : Reachable Cfg.fixed (progsOf ps) s) :
    ∃ sched, (∀ t ∈ sched, t ≤ ps.length) ∧ runs Cfg.fixed s sched = true ∧
      (∀ t, 1 ≤ t → t ≤ ps.length →
        ((run Cfg.fixed s sched).th t).pc = IPc.idle ∧ ((run Cfg.fixed s sched).th t).prog = []) ∧
      (run Cfg.fixed s sched).queuedLog = execIds (run Cfg.fixed s sched) ∧
      (execIds (run Cfg.fixed s sched)).Nodup := by
  obtain ⟨sched, h1, h2, hf⟩ := can_finish hwf s hr
  exact ⟨sched, h1, h2, hf.1, hf.executed (reachable_inv (reachable_run sched hr h2)).1⟩

/-- **Fair termination.**  Any number of interface threads running well-formed
programs (all operations), ANY infinite schedule `σ : Nat → Tid` (an entry
naming a thread that is not enabled is a no-op) that is strongly fair — every
thread that is enabled infinitely often is scheduled, while enabled,
infinitely often.  Then the run reaches a state in which every interface
thread has returned from its last call and every command ever queued has been
executed exactly once. -/
theorem terminates_under_strong_fairness (ps : List (List Op))
    (hwf : ∀ p ∈ ps, WF false p = true) (σ : Nat → Tid) (hfair : StronglyFair ps σ) :
    ∃ i, (∀ t, 1 ≤ t → t ≤ ps.length →
        ((trace ps σ i).th t).pc = IPc.idle ∧ ((trace ps σ i).th t).prog = []) ∧
      (trace ps σ i).queuedLog = execIds (trace ps σ i) ∧ (execIds (trace ps σ i)).Nodup := by
  obtain ⟨i, hf⟩ := fair_terminates hwf σ hfair
  exact ⟨i, hf.1, hf.executed (reachable_inv (trace_reachable ps σ i)).1⟩

/-- the fairness hypothesis is satisfiable: every set of well-formed programs
has a strongly fair schedule (so `terminates_under_strong_fairness` is not
vacuous) -/
theorem strongly_fair_schedule_exists (ps : List (List Op))
    (hwf : ∀ p ∈ ps, WF false p = true) : ∃ σ, StronglyFair ps σ :=
  strongly_fair_exists hwf

/-- Weak fairness (only *continuously* enabled threads must be scheduled) is
NOT enough, in the model as with CPython's unfair locks: after thread 1 has
reached `with self.qlock:` inside `dispatch` (three steps), let the solver run
alone for any number `k` of rounds.  Every solver step is enabled; at the
start of each round thread 1 is enabled, two solver steps later (the solver is
inside `with self.qlock`) it is not — so it is never continuously enabled, the
schedule "solver only" is weakly fair, and thread 1 never moves. -/
theorem weak_fairness_is_not_enough (k : Nat) :
    let s0 := run Cfg.fixed (init (progsOf [[Op.queue Cmd.probe]])) [1, 1, 1]
    let sk := run Cfg.fixed s0 (rounds k)
    runs Cfg.fixed (init (progsOf [[Op.queue Cmd.probe]])) [1, 1, 1] = true ∧
    runs Cfg.fixed s0 (rounds k) = true ∧ (sk.th 1).pc = IPc.qAcqQ Cmd.probe 0 ∧
    ¬ Final 1 sk ∧ enabled Cfg.fixed sk 1 = true ∧
    enabled Cfg.fixed (run Cfg.fixed sk [0, 0]) 1 = false ∧
    runs Cfg.fixed sk [0, 0, 0, 0, 0] = true := by
  intro s0 sk
  have hidle : Idle s0 := ⟨by decide, by decide, by decide, by decide⟩
  have hpc0 : (s0.th 1).pc = IPc.qAcqQ Cmd.probe 0 := by decide
  obtain ⟨e1, e2⟩ := idle_rounds k hidle
  have hsk : sk = { s0 with count := s0.count + k } := e1
  have hidlek : Idle sk := by rw [hsk]; exact ⟨hidle.spc, hidle.q, hidle.queue, hidle.pause⟩
  have hpck : (sk.th 1).pc = IPc.qAcqQ Cmd.probe 0 := by rw [hsk]; exact hpc0
  obtain ⟨p1, p2, p3⟩ := idle_parked hidlek (t := 1) (by decide) hpck
  refine ⟨by decide, e2, hpck, ?_, p1, p2, p3⟩
  intro hf
  have := (hf.1 1 (Nat.le_refl _) (Nat.le_refl _)).1
  rw [hpck] at this; cases this

/-- per thread: `pause_on_next … [wait] … cont` balanced, `wait`/`cont` only
inside, `get_result` only of own earlier tasks, once each -/
def WellFormedProg : Bool → Nat → List Nat → List Op → Bool
  | paused, _, _, [] => !paused
  | paused, nq, got, Op.pause :: r => !paused && WellFormedProg true nq got r
  | paused, nq, got, Op.wait :: r => paused && WellFormedProg paused nq got r
  | paused, nq, got, Op.cont :: r => paused && WellFormedProg false nq got r
  | paused, nq, got, Op.queue _ :: r => WellFormedProg paused (nq + 1) got r
  | paused, nq, got, Op.getMine j :: r =>
    decide (j < nq) && !decide (j ∈ got) && WellFormedProg paused nq (j :: got) r
  | _, _, _, Op.getResult _ :: _ => false
  | paused, nq, got, _ :: r => WellFormedProg paused nq got r

/-- in every reachable state of the repaired protocol running well-formed
programs of `n` interface threads, if some interface thread has not finished
then some thread can take a step -/
def no_deadlock_statement : Prop :=
  ∀ (n : Nat) (ps : List (List Op)), ps.length = n →
    (∀ p ∈ ps, WellFormedProg false 0 [] p = true) →
    ∀ s, Reachable Cfg.fixed (progsOf ps) s →
      (∃ t, 1 ≤ t ∧ t ≤ n ∧ ¬ ((s.th t).pc = IPc.idle ∧ (s.th t).prog = [])) →
      ∃ t, t ≤ n ∧ enabled Cfg.fixed s t = true

theorem wf_of_wellFormedProg : ∀ (b : Bool) (nq : Nat) (got : List Nat) (p : List Op),
    WellFormedProg b nq got p = true → WF b p = true
  | b, nq, got, [] => by simp [WellFormedProg, WF]
  | b, nq, got, op :: r => by
    intro h
    cases op <;>
      simp only [WellFormedProg, WF, Bool.and_eq_true, Bool.not_eq_true', decide_eq_true_eq,
        decide_eq_false_iff_not] at h ⊢
    · exact wf_of_wellFormedProg b nq got r h
    · exact wf_of_wellFormedProg b nq got r h
    · exact wf_of_wellFormedProg b (nq + 1) got r h
    · cases h
    · exact wf_of_wellFormedProg b nq _ r h.2
    · exact wf_of_wellFormedProg true nq got r h.2
    · obtain ⟨hb, h⟩ := h; subst hb; exact wf_of_wellFormedProg true nq got r h
    · exact wf_of_wellFormedProg false nq got r h.2

/-- a special case of `no_deadlock` (which needs
neither the restriction on `get_result` ids nor an unfinished thread) -/
theorem no_deadlock_statement_holds : no_deadlock_statement := by
  intro n ps hn hwf s hr _
  subst hn
  exact no_deadlock ps (fun p hp => wf_of_wellFormedProg false 0 [] p (hwf p hp)) s hr

end PysphVerif.C18
