import PysphVerif.Lemmas.SchemeTable
/-!
# C12 — every shipped scheme yields a complete, generatable simulation

`Gen/Schemes.lean` is re-extracted from the current source on every run: for
every `Scheme` class that provides `setup_properties`, every combination of
its options, every supported dimension, with and without solid arrays,
`clean=True/False`, the translator RUNS `configure`, `configure_solver`,
`setup_properties`, `get_equations` on plain particle arrays and records the
outcome.  The quantifier of the property is that finite table, so the
theorems below are proofs for the tree they were generated from: every body of
the generated table passes the checks (`decide +kernel` over the WHOLE table, in
`Lemmas/SchemeTable.lean`), lifted to every grid point; that the Boolean checks
decide their specifications holds for all tables and all bodies.
-/
namespace PysphVerif.C12
open PysphVerif.SchemeNeeds PysphVerif.Gen.Schemes

/-- the Boolean check decides the specification: sound -/
theorem check_sound (t : List PreSym) (kinds : List EqKind) (sk : List StepKind) (b : Body) :
    checkBody t kinds sk b = true → Complete t kinds sk b :=
  complete_of_check t kinds sk b

/-- … and complete, given that the closure loops terminated, which the check tests -/
theorem check_complete (t : List PreSym) (kinds : List EqKind) (sk : List StepKind) (b : Body)
    (hcl : ∀ e ∈ b.eqs, ∀ k, kinds[e.kind]? = some k → closedB t (closure t k.loopPre) = true) :
    Complete t kinds sk b → checkBody t kinds sk b = true :=
  fun h => (checkBody_iff t kinds sk b).mpr ⟨h, hcl⟩

/-- `Group._setup_precomputed`, as transcribed, computes exactly the symbols
reachable from the loop's arguments through the code blocks, once its loop has stopped within
the model's fuel (`hcl`, which the check tests for every equation kind it meets) -/
theorem closure_is_reachable_set (t : List PreSym) (m0 : Mask)
    (hcl : closedB t (closure t m0) = true) (i : Nat) :
    (closure t m0).testBit i = true ↔ Reach t m0 i :=
  closure_iff_reach t m0 hcl i

/-- what `Group([eq]).get_array_names()` returns (plus the `dst.` reads) is
exactly what the specification demands of the destination -/
theorem needsD_exact (t : List PreSym) (k : EqKind)
    (hcl : closedB t (closure t k.loopPre) = true) (p : Nat) :
    (needsD t k ||| k.implicitD).testBit p = true ↔ NeedsD t k p :=
  testBit_needsD t k hcl p

theorem needsS_exact (t : List PreSym) (k : EqKind)
    (hcl : closedB t (closure t k.loopPre) = true) (p : Nat) :
    (needsS t k).testBit p = true ↔ NeedsS t k p :=
  testBit_needsS t k hcl p

/-- every legal choice of one value per axis is a point of the grid -/
theorem every_combination_is_a_grid_point (g : SchemeGrid) (ds : List Nat)
    (h : ValidDigits (radices g) ds) : flatIndex (radices g) ds 0 < gridSize g :=
  flatIndex_lt g ds h

/-- more properties never hurt: completeness carries over to a body whose arrays have
at least the same properties — e.g. from `clean=True` to `clean=False` -/
theorem complete_mono (t : List PreSym) (kinds : List EqKind) (sk : List StepKind) (b b' : Body)
    (heq : b'.eqs = b.eqs) (hst : b'.steppers = b.steppers)
    (hlen : b.arrays.length ≤ b'.arrays.length)
    (hsup : ∀ a p, HasProp b a p → HasProp b' a p)
    (h : Complete t kinds sk b) : Complete t kinds sk b' := by
  have hia : ∀ a, IsArray b a → IsArray b' a := fun a ha => Nat.lt_of_lt_of_le ha hlen
  refine ⟨fun e he => ?_, fun st hstm => ?_⟩
  · obtain ⟨k, hk, hd, hp, hs⟩ := h.1 e (heq ▸ he)
    exact ⟨k, hk, hia _ hd, fun p hn => hsup _ _ (hp p hn), fun srcs hsrc s hsm =>
      ⟨hia _ (hs srcs hsrc s hsm).1, fun p hn => hsup _ _ ((hs srcs hsrc s hsm).2 p hn)⟩⟩
  · obtain ⟨k, hk, ha, hp⟩ := h.2 st (hst ▸ hstm)
    exact ⟨k, hk, hia _ ha, fun p hn => hsup _ _ (hp p hn)⟩

/-- what the real checker accepts has all explicit and precomputed-symbol
arrays of the destination (it uses the strict-subset test, which is stronger) -/
theorem real_checker_covers_dest (t : List PreSym) (kinds : List EqKind) (b : Body) (e : EqInst)
    (h : acceptsEq t kinds b e = true) :
    ∃ k da, kinds[e.kind]? = some k ∧ b.arrays[e.dest]? = some da ∧
      ∀ p, (needsD t k).testBit p = true → da.2.testBit p = true := by
  unfold acceptsEq at h
  split at h
  · rename_i k da hk hda
    rw [Bool.and_eq_true] at h
    exact ⟨k, da, hk, hda, subsetB_iff.mp (strictSubsetB_subsetB h.1)⟩
  · cases h

/-- the type check is sound: when it passes, every property of every array has
a recorded C type, and every array argument an element of which an equation or
stepper uses as an index (subscript of another array, `range` bound, assigned to
a local declared `int`/`long`/…) is known to the code generator as an integer
pointer — an `int`/`unsigned int`/`long` property of some array of the problem
and a `float`/`double` property of none -/
theorem types_check_sound (kinds : List EqKind) (sk : List StepKind) (b : Body) :
    typesOk kinds sk b = true → TypesOk kinds sk b :=
  typesOk_sound kinds sk b

/-- the index part of the check is exactly its specification (both directions) -/
theorem index_types_check_exact (kinds : List EqKind) (sk : List StepKind) (b : Body) :
    (subsetB (idxUsed kinds sk b) (intKnown b) &&
      ((idxUsed kinds sk b &&& floatKnown b) == 0)) = true ↔
    ∀ p, IndexUsed kinds sk b p → KnownIntegral b p :=
  indexTypes_iff kinds sk b

/-- a configuration where an index-used name is a `double` property of some
array (e.g. `orig_idx` added with `type='double'`) or an integer property of none cannot pass -/
theorem types_check_rejects_bad_index (kinds : List EqKind) (sk : List StepKind) (b : Body) (p : Nat)
    (hu : IndexUsed kinds sk b p) (hbad : ¬ KnownIntegral b p) : typesOk kinds sk b = false := by
  cases h : typesOk kinds sk b
  · rfl
  · exact absurd ((typesOk_sound kinds sk b h).2 p hu) hbad

/-- the stage check is exactly its specification: it passes iff every member
of the generated `Integrator` class that the integrator's `one_timestep` uses
beyond the template's own (`initialize`, `stage1`, …) is a wrapper that some
stepper of the configuration makes the code generator emit -/
theorem stages_check_exact (ik : List IntegKind) (sk : List StepKind) (b : Body) :
    stagesOk ik sk b = true ↔ StagesProvided ik sk b :=
  stagesOk_iff ik sk b

/-- an integrator that drives a stage no stepper has (e.g. `TVDRK3Integrator`
over `WCSPHStep`s: `stage3`) cannot pass -/
theorem stages_check_rejects_missing_stage (ik : List IntegKind) (sk : List StepKind) (b : Body)
    (i : IntegKind) (m : String) (hi : ik[b.integ]? = some i) (hm : m ∈ i.calls)
    (hno : ∀ st ∈ b.steppers, ∀ k, sk[st.1]? = some k → ¬ Wraps k m) :
    stagesOk ik sk b = false := by
  cases h : stagesOk ik sk b with
  | false => rfl
  | true =>
    obtain ⟨i', hi', hall⟩ := (stagesOk_iff ik sk b).mp h
    rw [hi] at hi'
    cases hi'
    obtain ⟨st, hst, k, hk, hw⟩ := hall m hm
    exact absurd hw (hno st hst k hk)

/-- `extra_steppers`: the steppers of a configuration are the caller's, then
the scheme's defaults for exactly the arrays the caller did not mention -/
theorem extra_steppers_merge (b : Body) (ex : List (Nat × Nat)) (st : Nat × Nat) :
    st ∈ (withExtra b ex).steppers ↔ st ∈ ex ∨ (st ∈ b.steppers ∧ ∀ e ∈ ex, e.2 ≠ st.2) :=
  mem_withExtra b ex st

/-- `extra_steppers={}` is `extra_steppers=None` -/
theorem extra_steppers_empty (b : Body) : withExtra b [] = b := by
  cases b
  simp [withExtra, overridden]

/-- a complete configuration stays complete under ANY caller-supplied steppers
(of any classes `uks`, for any arrays) each of which finds the properties it
references on its array -/
theorem complete_with_extra_steppers (t : List PreSym) (kinds : List EqKind)
    (sk uks : List StepKind) (b : Body) (ex : List (Nat × Nat))
    (h : Complete t kinds sk b) (hex : ∀ st ∈ ex, CompleteStepper (sk ++ uks) b st) :
    Complete t kinds (sk ++ uks) (withExtra b ex) :=
  -- `withExtra` leaves arrays and equations alone: their completeness is literally `b`'s;
  -- a stepper is the caller's, or one of `b`'s, whose kind is still at its place in `sk ++ uks`
  ⟨h.1, fun st hst => ((mem_withExtra b ex st).mp hst).elim (hex st) fun hin =>
    let ⟨k, hk, ha, hp⟩ := h.2 st hin.1
    ⟨k, getElem?_append_some sk uks _ k hk, ha, hp⟩⟩

/-- every distinct outcome of running a configuration passes the completeness check -/
theorem bodies_checked : bodies.all (checkBody preTable eqKinds stepKinds) = true :=
  all_imp bodies_ok fun _ => configOk_check

/-- … and is accepted by the model of the real fail-fast checkers -/
theorem bodies_accepted : bodies.all (acceptsBody preTable eqKinds stepKinds) = true :=
  all_imp bodies_ok fun _ => configOk_accepts

theorem bodies_index_types_ok : bodies.all (typesOk eqKinds stepKinds) = true :=
  all_imp bodies_ok fun _ => configOk_types

theorem bodies_stages_ok : bodies.all (stagesOk integKinds stepKinds) = true :=
  all_imp bodies_ok fun _ h => stagesOk_of_onlyArray 0 (configOk_fluid_stages h)

/-- already the steppers of the first array (the fluid) provide every stage -/
theorem bodies_fluid_stages_ok :
    bodies.all (fun b => stagesOk integKinds stepKinds (onlyArray b 0)) = true :=
  all_imp bodies_ok fun _ => configOk_fluid_stages

/-- every grid entry is `0` (rejected by the scheme) or names a body of the table -/
theorem entries_in_range : schemeTable.all (runsInRange bodies.length) = true :=
  all_imp grids_ok fun _ => gridOk_range

/-- every scheme's table has exactly one entry per point of its grid -/
theorem grid_full : schemeTable.all (fun g => g.bodyOf.length == gridSize g) = true :=
  all_imp grids_ok fun _ h => beq_iff_eq.mpr (gridOk_length h)

/-- the only combinations a scheme itself refuses are MAGMA2's "the chosen
smoothing-length procedure needs its parameter" -/
theorem rejections_only_magma2 :
    schemeTable.all (fun g => g.name == "MAGMA2Scheme" || !(g.runs.any (fun r => r.2 == 0)))
      = true := by
  decide +kernel

theorem schemes_covered :
    schemeTable.map (·.name) =
      ["WCSPHScheme", "TVFScheme", "AdamiHuAdamsScheme", "GasDScheme", "GSPHScheme",
       "ADKEScheme", "GTVFScheme", "EDACScheme", "CRKSPHScheme", "PCISPHScheme",
       "IISPHScheme", "ISPHScheme", "SISPHScheme", "MAGMA2Scheme", "TSPHScheme",
       "PSPHScheme", "SchemeChooser"] := by
  decide +kernel

theorem bodyOf_length {g : SchemeGrid} (hg : g ∈ schemeTable) : g.bodyOf.length = gridSize g :=
  gridOk_length (List.all_eq_true.mp grids_ok g hg)

/-! Each statement below is `points_ok` (every grid point is rejected by the scheme or
yields a body that passes `configOk`) followed by the soundness of one check. -/

/-- **C12, completeness.**  For every scheme of the table and every point of
its option grid (options × dim × solids × clean), the scheme either rejects
the combination itself or, after `configure_solver` and `setup_properties`,
every equation of `get_equations` and every integrator stepper references
only properties and constants its arrays have. -/
theorem all_configs_complete :
    ∀ g ∈ schemeTable, ∀ i, i < gridSize g →
      PointOk preTable eqKinds stepKinds bodies g i :=
  fun _ hg _ hi => (points_ok hg hi).mono fun b h => complete_of_check _ _ _ b (configOk_check h)

/-- the same, indexed by the option values themselves -/
theorem all_option_combinations_complete :
    ∀ g ∈ schemeTable, ∀ ds, ValidDigits (radices g) ds →
      PointOk preTable eqKinds stepKinds bodies g (flatIndex (radices g) ds 0) :=
  fun g hg ds h => all_configs_complete g hg _ (flatIndex_lt g ds h)

/-- **C12, acceptance.**  For every grid point the real set-up checks
(`check_equation_array_properties` for every equation, the stepper checks of
the integrator helper) raise nothing. -/
theorem all_configs_accepted :
    ∀ g ∈ schemeTable, ∀ i, i < gridSize g →
      PointAccepted preTable eqKinds stepKinds bodies g i :=
  fun _ hg _ hi => (points_ok hg hi).mono fun _ => configOk_accepts

/-- **C12, generatable: index types.**  For every grid point the scheme either
rejects the combination itself or, after `setup_properties`, every property has
one C type and every array argument whose elements an equation or stepper uses as
an index has an integer known type, so the generated Cython does not contain
`int = double` or a `double` subscript. -/
theorem all_configs_index_types_ok :
    ∀ g ∈ schemeTable, ∀ i, i < gridSize g →
      PointTypesOk eqKinds stepKinds bodies g i :=
  fun _ hg _ hi => (points_ok hg hi).mono fun b h => typesOk_sound _ _ b (configOk_types h)

/-- **C12, generatable: stages.**  For every grid point (options × solver
options such as `integrator_cls` × dim × solids × clean) the scheme either
rejects the combination or the steppers it chose provide every stage the
integrator's `one_timestep` drives, so the generated `Integrator` class has
every method its time step calls. -/
theorem all_configs_stages_provided :
    ∀ g ∈ schemeTable, ∀ i, i < gridSize g →
      PointStagesOk integKinds stepKinds bodies g i :=
  fun _ hg _ hi => (points_ok hg hi).mono fun b h =>
    (stagesOk_iff _ _ b).mp (stagesOk_of_onlyArray 0 (configOk_fluid_stages h))

/-- **C12 with `extra_steppers`.**  For every grid point the scheme accepts and
EVERY `extra_steppers` dict (steppers of any classes `uks`, `ex` = (class,
array) pairs): if each caller-supplied stepper references only properties its
array has after `setup_properties`, the configuration is complete; and if the
caller leaves the first array (the fluid) to the scheme, every stage the
integrator drives is still provided. -/
theorem all_configs_complete_with_extra_steppers :
    ∀ g ∈ schemeTable, ∀ i, i < gridSize g →
      ∃ c, g.bodyOf[i]? = some c ∧ (c = 0 ∨ ∃ b, bodies[c - 1]? = some b ∧
        ∀ (uks : List StepKind) (ex : List (Nat × Nat)),
          ((∀ st ∈ ex, CompleteStepper (stepKinds ++ uks) b st) →
            Complete preTable eqKinds (stepKinds ++ uks) (withExtra b ex)) ∧
          ((∀ e ∈ ex, e.2 ≠ 0) →
            StagesProvided integKinds (stepKinds ++ uks) (withExtra b ex))) :=
  fun _ hg _ hi => (points_ok hg hi).mono fun b h uks ex =>
    ⟨complete_with_extra_steppers _ _ _ uks b ex (complete_of_check _ _ _ b (configOk_check h)),
     stages_withExtra_of_array _ _ uks b 0 ex ((stagesOk_iff _ _ _).mp (configOk_fluid_stages h))⟩

/-- the stage theorem is not vacuous: three-stage integrators occur … -/
example : ∃ i ∈ integKinds, "stage3" ∈ i.calls := by
  decide +kernel

/-- … and the check discriminates: give the first configuration whose
integrator drives `stage3` the steppers of a two-stage configuration (what a
scheme testing `isinstance(cls, TVDRK3Integrator)` on the CLASS would choose) and it fails -/
example : ((bodies.find? (fun b => (integKinds[b.integ]?.map
      (fun i => i.calls.contains "stage3")) == some true)).map (fun b =>
    stagesOk integKinds stepKinds { b with steppers := b.steppers.map (fun st =>
      ((stepKinds.findIdx? (fun k => !(stepWrappers k).contains "stage3")).getD 0, st.2)) }))
    = some false := by
  decide +kernel

/-- a caller-supplied stepper for the second array (a wall) of a configuration
with two arrays replaces exactly that array's default -/
example : ((bodies.find? (fun b => b.arrays.length == 2 && b.steppers.length == 2)).map (fun b =>
    (withExtra b [(0, 1)]).steppers.map (·.2))) = some [1, 0] := by
  decide +kernel

/-- the type theorem is not vacuous: some configuration does use an array
element as an index … -/
example : ∃ b ∈ bodies, idxUsed eqKinds stepKinds b ≠ 0 := by
  decide +kernel

/-- … and the check discriminates: move every integer property of such a
configuration to `double` and it fails -/
example : ((bodies.find? (fun b => idxUsed eqKinds stepKinds b != 0)).map (fun b =>
    typesOk eqKinds stepKinds { b with types := b.types.map (fun t =>
      { t with int := 0, uint := 0, long := 0,
               double := t.double ||| t.int ||| t.uint ||| t.long }) }))
    = some false := by
  decide +kernel

/-- the table is not empty and its bodies are not trivial -/
example : ∃ g ∈ schemeTable, g.name = "WCSPHScheme" ∧ 1000 < gridSize g := by
  decide +kernel

example : ∃ b ∈ bodies, 5 ≤ b.eqs.length ∧ 2 ≤ b.arrays.length ∧ 1 ≤ b.steppers.length := by
  decide +kernel

/-- the check discriminates: strip every property from the arrays of the first
body and it fails -/
example : (bodies.head?.map (fun b =>
    checkBody preTable eqKinds stepKinds { b with arrays := b.arrays.map (fun a => (a.1, 0)) }))
    = some false := by
  decide +kernel

/-- a legal multi-index -/
example : ValidDigits (radices gridTVFScheme) [2, 1, 0, 1, 1] := by
  simp [radices, gridTVFScheme, ValidDigits]

end PysphVerif.C12
