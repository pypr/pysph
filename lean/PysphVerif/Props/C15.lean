import PysphVerif.Lemmas.RiemannVanLeerRun
import PysphVerif.Lemmas.RiemannHllc
import PysphVerif.Lemmas.RiemannDucowicz
import PysphVerif.Lemmas.RiemannExact
import PysphVerif.Lemmas.RiemannDirect
import Mathlib.Analysis.Real.Sqrt
import Mathlib.Analysis.SpecialFunctions.Pow.Real
/-!
# C15 — Riemann solvers are reflection-symmetric; contact solvers are admissible

The theorems are about the definitions of `Gen/Riemann.lean`, which `translate/riemann2lean.py`
regenerates from `pysph/sph/gas_dynamics/riemann_solver.py` on every run (and validates by
bit-exact execution against the Python source), instantiated over an arbitrary linearly ordered
field `K` with `fieldOps sqrt pow`: `sqrt` and `pow` are abstract functions; every theorem lists the
facts about them it uses.
-/
set_option linter.unusedSectionVars false
namespace PysphVerif.C15
open PysphVerif.Riemann PysphVerif.Gen.Riemann
open scoped PysphVerif.OrderChain
variable {K : Type} [Field K] [LinearOrder K] [IsStrictOrderedRing K]

/-- the common signature of the generated solvers (after the `Ops` record) -/
abbrev Solver (K : Type) := K → K → K → K → K → K → K → Int → K → K → K → Res K

/-- reflection symmetry of one solver at one state: swapping the sides and negating the velocities
gives the same return code and, on success, the same `p*` and the negated `u*`, for every initial
content of the `result` list -/
def ReflectSym (f : Solver K) (rhol rhor pl pr ul ur gamma tol : K) (niter : Int) : Prop :=
  ∀ r0 r1 : K,
    (f rhor rhol pr pl (-ur) (-ul) gamma niter tol r0 r1).code
      = (f rhol rhor pl pr ul ur gamma niter tol r0 r1).code ∧
    ((f rhol rhor pl pr ul ur gamma niter tol r0 r1).code = 0 →
      (f rhor rhol pr pl (-ur) (-ul) gamma niter tol r0 r1).r0
        = (f rhol rhor pl pr ul ur gamma niter tol r0 r1).r0 ∧
      (f rhor rhol pr pl (-ur) (-ul) gamma niter tol r0 r1).r1
        = -(f rhol rhor pl pr ul ur gamma niter tol r0 r1).r1)

/-- equal states on both sides are returned unchanged, with code 0 -/
def EqualStates (f : Solver K) (rho p u gamma tol : K) (niter : Int) : Prop :=
  ∀ r0 r1 : K,
    (f rho rho p p u u gamma niter tol r0 r1).code = 0 ∧
    (f rho rho p p u u gamma niter tol r0 r1).r0 = p ∧
    (f rho rho p p u u gamma niter tol r0 r1).r1 = u

def SqrtPos (sqrt : K → K) : Prop := ∀ x : K, 0 < x → 0 < sqrt x

section
variable (sqrt : K → K) (pow : K → K → K)
  (rhol rhor pl pr ul ur gamma tol rho p u : K) (niter : Int)

theorem reflect_non_diffusive :
    ReflectSym (non_diffusive (fieldOps sqrt pow)) rhol rhor pl pr ul ur gamma tol niter := by
  intro r0 r1
  simp only [non_diffusive, Nat.cast_ofNat, Nat.cast_one]
  exact ⟨trivial, fun _ => ⟨by ring, by ring⟩⟩

theorem reflect_roe :
    ReflectSym (roe (fieldOps sqrt pow)) rhol rhor pl pr ul ur gamma tol niter := by
  intro r0 r1
  simp only [roe, fieldOps_sqrt, Nat.cast_ofNat, Nat.cast_one]
  -- the Roe averages `plr`, `vlr` are symmetric: bring the mirrored ones into the form of the others
  rw [add_comm (sqrt rhor * pr), add_comm (sqrt rhor / rhor), add_comm (sqrt rhol) (sqrt rhor)]
  exact ⟨trivial, fun _ => ⟨by ring, by ring⟩⟩

theorem reflect_llxf :
    ReflectSym (llxf (fieldOps sqrt pow)) rhol rhor pl pr ul ur gamma tol niter := by
  intro r0 r1
  simp only [llxf, fieldOps_sqrt, Nat.cast_ofNat, Nat.cast_one, pymax_eq_max]
  rw [max_comm]
  exact ⟨trivial, fun _ => ⟨by ring, by ring⟩⟩

theorem reflect_hllsy :
    ReflectSym (hllsy (fieldOps sqrt pow)) rhol rhor pl pr ul ur gamma tol niter := by
  intro r0 r1
  simp only [hllsy, fieldOps_sqrt, Nat.cast_ofNat, Nat.cast_one, pymax_eq_max]
  -- the averaged sound speed `cslr` is symmetric: bring the mirrored one into the form of the other.  (`rw [add_comm _]`
  -- would leave sums that carry the `+` of `AddCommMagma` inside the `max` atoms of `ring`, which then costs half as
  -- much again.)
  have e : sqrt rhor * sqrt (gamma * pr * rhor) + sqrt rhol * sqrt (gamma * pl * rhol)
      = sqrt rhol * sqrt (gamma * pl * rhol) + sqrt rhor * sqrt (gamma * pr * rhor) := by ring
  have e2 : sqrt rhol + sqrt rhor = sqrt rhor + sqrt rhol := by ring
  rw [e, e2]
  exact ⟨trivial, fun _ => ⟨by ring, by ring⟩⟩

theorem reflect_hlle :
    ReflectSym (hlle (fieldOps sqrt pow)) rhol rhor pl pr ul ur gamma tol niter := by
  intro r0 r1
  rw [hlle_eq, hlle_eq, add_comm (sqrt rhor * _), add_comm (sqrt rhor)]
  exact hlleFrom_mirror ..

theorem reflect_hll_ball :
    ReflectSym (hll_ball (fieldOps sqrt pow)) rhol rhor pl pr ul ur gamma tol niter := by
  intro r0 r1
  rw [hll_ball_eq, hll_ball_eq, hllBallV_mirror, hllBallC_mirror, min_neg_sub, max_neg_add]
  exact hllBallTail_mirror ..

theorem equal_states_non_diffusive :
    EqualStates (non_diffusive (fieldOps sqrt pow)) rho p u gamma tol niter := by
  intro r0 r1
  simp only [non_diffusive, Nat.cast_ofNat, Nat.cast_one]
  exact ⟨trivial, by ring, by ring⟩

theorem equal_states_roe (hs : SqrtPos sqrt) (hrho : 0 < rho) :
    EqualStates (roe (fieldOps sqrt pow)) rho p u gamma tol niter := by
  intro r0 r1
  simp only [roe, fieldOps_sqrt, Nat.cast_ofNat, Nat.cast_one, sub_self, mul_zero, zero_mul, sub_zero,
    mul_one_div, zero_div]
  have h2 : sqrt rho + sqrt rho ≠ 0 := (add_pos (hs rho hrho) (hs rho hrho)).ne'
  exact ⟨trivial, avg_self h2 p, avg_self h2 u⟩

theorem equal_states_llxf (hp : 0 < p) :
    EqualStates (llxf (fieldOps sqrt pow)) rho p u gamma tol niter := by
  intro r0 r1
  simp only [llxf, fieldOps_sqrt, Nat.cast_ofNat, Nat.cast_one, sub_self, mul_zero, sub_zero, half_add_self]
  exact ⟨trivial, trivial, by rw [one_div, inv_mul_cancel_left₀ hp.ne']⟩

theorem equal_states_hllsy (hs : SqrtPos sqrt) (hrho : 0 < rho) (hp : 0 < p) (hg : 0 < gamma) :
    EqualStates (hllsy (fieldOps sqrt pow)) rho p u gamma tol niter := by
  intro r0 r1
  simp only [hllsy, fieldOps_sqrt, Nat.cast_ofNat, Nat.cast_one, pymax_eq_max]
  have ha : 0 < sqrt rho := hs rho hrho
  have hc : 0 < sqrt (gamma * p * rho) := hs _ (by positivity)
  generalize sqrt rho = a at ha
  generalize sqrt (gamma * p * rho) = c at hc
  rw [one_div_mul_eq_div, avg_self (add_pos ha ha).ne', max_self, sub_self, mul_zero, sub_zero, sub_self,
    mul_zero, sub_zero, wavg_self (add_pos hc hc).ne', wavg_self (add_pos hc hc).ne']
  exact ⟨trivial, rfl, mul_div_cancel_left₀ _ hp.ne'⟩

theorem equal_states_hlle (hs : SqrtPos sqrt) (hrho : 0 < rho) (hp : 0 < p) (hg : 0 < gamma) :
    EqualStates (hlle (fieldOps sqrt pow)) rho p u gamma tol niter := by
  intro r0 r1
  have ha : 0 < sqrt rho := hs rho hrho
  have hc : 0 < sqrt (gamma * p * rho) := hs _ (by positivity)
  rw [hlle_eq, hlleFrom_equal (by positivity) hp.ne']
  exact ⟨rfl, rfl, rfl⟩

theorem equal_states_hll_ball (hs : SqrtPos sqrt) (hrho : 0 < rho) (hp : 0 < p) (hg : 0 < gamma) :
    EqualStates (hll_ball (fieldOps sqrt pow)) rho p u gamma tol niter := by
  intro r0 r1
  have hc : 0 < sqrt (gamma * p / rho) := hs _ (by positivity)
  -- the wave speeds are `Sl ≤ u - c < u + c ≤ Sr`
  rw [hll_ball_eq, hllBallTail_equal hrho.ne' (sub_pos.mpr (min_lt_of_right_lt
    (lt_max_of_lt_right ((sub_lt_self u hc).trans (lt_add_of_pos_right u hc))))).ne']
  exact ⟨rfl, rfl, rfl⟩

theorem reflect_hllc_ball :
    ReflectSym (hllc_ball (fieldOps sqrt pow)) rhol rhor pl pr ul ur gamma tol niter := by
  intro r0 r1
  simp only [hllc_ball, fieldOps_sqrt, Nat.cast_ofNat, Nat.cast_one]
  generalize sqrt (gamma * pl / rhol) = cl
  generalize sqrt (gamma * pr / rhor) = cr
  -- the first pressure estimate is symmetric, so the shock factors `ql`, `qr` change places
  rw [show 1 / 2 * (pr + pl - 1 / 2 * (rhor + rhol) * (1 / 2 * (cr + cl)) * (-ul - -ur))
      = 1 / 2 * (pl + pr - 1 / 2 * (rhol + rhor) * (1 / 2 * (cl + cr)) * (ur - ul)) by ring]
  refine ⟨trivial, fun _ => ⟨?_, ?_⟩⟩
  · ring
  · ring

theorem equal_states_hllc_ball :
    EqualStates (hllc_ball (fieldOps sqrt pow)) rho p u gamma tol niter := by
  intro r0 r1
  simp only [hllc_ball, fieldOps_sqrt, Nat.cast_ofNat, Nat.cast_one]
  exact ⟨trivial, by ring, by ring⟩

/-- the dispatch function calls the documented solver for every method number -/
theorem riemann_solve_dispatch (o : Ops K) (r0 r1 : K) :
    riemann_solve o 0 rhol rhor pl pr ul ur gamma niter tol r0 r1
      = non_diffusive o rhol rhor pl pr ul ur gamma niter tol r0 r1 ∧
    riemann_solve o 1 rhol rhor pl pr ul ur gamma niter tol r0 r1
      = van_leer o rhol rhor pl pr ul ur gamma niter tol r0 r1 ∧
    riemann_solve o 2 rhol rhor pl pr ul ur gamma niter tol r0 r1
      = exact o rhol rhor pl pr ul ur gamma niter tol r0 r1 ∧
    riemann_solve o 3 rhol rhor pl pr ul ur gamma niter tol r0 r1
      = hllc o rhol rhor pl pr ul ur gamma niter tol r0 r1 ∧
    riemann_solve o 4 rhol rhor pl pr ul ur gamma niter tol r0 r1
      = ducowicz o rhol rhor pl pr ul ur gamma niter tol r0 r1 ∧
    riemann_solve o 5 rhol rhor pl pr ul ur gamma niter tol r0 r1
      = hlle o rhol rhor pl pr ul ur gamma niter tol r0 r1 ∧
    riemann_solve o 6 rhol rhor pl pr ul ur gamma niter tol r0 r1
      = roe o rhol rhor pl pr ul ur gamma niter tol r0 r1 ∧
    riemann_solve o 7 rhol rhor pl pr ul ur gamma niter tol r0 r1
      = llxf o rhol rhor pl pr ul ur gamma niter tol r0 r1 ∧
    riemann_solve o 8 rhol rhor pl pr ul ur gamma niter tol r0 r1
      = hllc_ball o rhol rhor pl pr ul ur gamma niter tol r0 r1 ∧
    riemann_solve o 9 rhol rhor pl pr ul ur gamma niter tol r0 r1
      = hll_ball o rhol rhor pl pr ul ur gamma niter tol r0 r1 ∧
    riemann_solve o 10 rhol rhor pl pr ul ur gamma niter tol r0 r1
      = hllsy o rhol rhor pl pr ul ur gamma niter tol r0 r1 :=
  ⟨rfl, rfl, rfl, rfl, rfl, rfl, rfl, rfl, rfl, rfl, rfl⟩

/-- any solver reachable through `riemann_solve` inherits reflection symmetry -/
theorem reflect_riemann_solve (o : Ops K) (m : Int)
    (h : ∀ f ∈ [non_diffusive o, van_leer o, exact o, hllc o, ducowicz o, hlle o, roe o, llxf o,
        hllc_ball o, hll_ball o, hllsy o], ReflectSym f rhol rhor pl pr ul ur gamma tol niter)
    (hm : 0 ≤ m ∧ m ≤ 10) :
    ReflectSym (riemann_solve o m) rhol rhor pl pr ul ur gamma tol niter :=
  h _ (List.mem_of_getElem? (riemann_solve_table o m hm.1 hm.2))

/-- Galilean invariance of one solver at one state: adding `c` to both
velocities keeps the return code and, on success, `p*`, and adds `c` to `u*` -/
def GalileanInv (f : Solver K) (rhol rhor pl pr ul ur gamma tol : K) (niter : Int) (c : K) : Prop :=
  ∀ r0 r1 : K,
    (f rhol rhor pl pr (ul + c) (ur + c) gamma niter tol r0 r1).code
      = (f rhol rhor pl pr ul ur gamma niter tol r0 r1).code ∧
    ((f rhol rhor pl pr ul ur gamma niter tol r0 r1).code = 0 →
      (f rhol rhor pl pr (ul + c) (ur + c) gamma niter tol r0 r1).r0
        = (f rhol rhor pl pr ul ur gamma niter tol r0 r1).r0 ∧
      (f rhol rhor pl pr (ul + c) (ur + c) gamma niter tol r0 r1).r1
        = (f rhol rhor pl pr ul ur gamma niter tol r0 r1).r1 + c)

theorem reflect_van_leer (hs : SqrtPos sqrt) (hrl : 0 < rhol) (hrr : 0 < rhor) (hpl : 0 < pl)
    (hpr : 0 < pr) (hg : 0 < gamma) :
    ReflectSym (van_leer (fieldOps sqrt pow)) rhol rhor pl pr ul ur gamma tol niter := by
  intro r0 r1
  rw [van_leer_eq_of_nonneg _ hrl.le hrr.le hpl.le hpr.le, van_leer_eq_of_nonneg _ hrr.le hrl.le hpr.le hpl.le]
  have hcl : 0 < sqrt (gamma * pl * rhol) := hs _ (by positivity)
  have hcr : 0 < sqrt (gamma * pr * rhor) := hs _ (by positivity)
  exact vlFrom_mirror _ _ _ rhol rhor pl pr ul ur gamma niter tol _ (add_pos hcl hcr).ne'

theorem galilean_van_leer (c : K) :
    GalileanInv (van_leer (fieldOps sqrt pow)) rhol rhor pl pr ul ur gamma tol niter c := by
  intro r0 r1
  rw [van_leer_eq, van_leer_eq]
  split
  · exact ⟨rfl, fun h => absurd h Int.one_ne_zero⟩
  · exact vlFrom_shift ..

/-- `exact` reports failure (code 1, `result` untouched) for vacuum-generating data, for every
iteration limit and tolerance -/
theorem vacuum_reported_exact (r0 r1 : K)
    (hv : 2 * (1 / (gamma - 1)) * (sqrt (gamma * pl / rhol) + sqrt (gamma * pr / rhor)) ≤ ur - ul) :
    exact (fieldOps sqrt pow) rhol rhor pl pr ul ur gamma niter tol r0 r1 = ⟨1, r0, r1⟩ := by
  rw [exact_eq]
  exact if_pos hv

theorem reflect_hllc (hs : SqrtPos sqrt) (hrl : 0 < rhol) (hrr : 0 < rhor) (hpl : 0 < pl)
    (hpr : 0 < pr) (hg : 0 < gamma) :
    ReflectSym (hllc (fieldOps sqrt pow)) rhol rhor pl pr ul ur gamma tol niter := by
  intro r0 r1
  rw [hllc_eq, hllc_eq]
  simp only [fieldOps_sqrt]
  exact hllcFrom_mirror (sqrt rhol) (sqrt rhor) (sqrt (gamma * pl / rhol))
    (sqrt (gamma * pr / rhor)) rhol rhor pl pr ul ur (1 / (gamma - 1)) r0 r1 (hs _ hrl) (hs _ hrr)
    (hs _ (by positivity)) (hs _ (by positivity)) hrl hrr

theorem equal_states_hllc (hs : SqrtPos sqrt) (hrho : 0 < rho) (hp : 0 < p) (hg : 0 < gamma) :
    EqualStates (hllc (fieldOps sqrt pow)) rho p u gamma tol niter := by
  intro r0 r1
  rw [hllc_eq]
  simp only [fieldOps_sqrt]
  rw [hllcFrom_equal _ _ _ _ _ _ _ _ (hs _ hrho) (hs _ (by positivity)) hp]
  exact ⟨rfl, rfl, rfl⟩

/-! `ducowicz`: cases A and B are mirror images of themselves, case C is the mirror image of
case D, but D is taken unguarded while C is guarded by its sign test and its
discriminant (DESIGN §7 F9).  If both the guard of C and the (untested) guard of
D hold, both discriminants vanish and the candidates coincide; reflection
symmetry therefore holds whenever the last branch is reached only with its
guard true. -/

def SqrtZero (sqrt : K → K) : Prop := sqrt 0 = 0

/-- on the given data: if the guarded cases A, B, C of `ducowicz` all fail, the
guard the source does not test before taking case D (its discriminant is
non-negative and `u* ≤ umin, umax`: the mirror image of the guard of C) holds -/
def DucoLastBranchGuarded (sqrt : K → K) (pow : K → K → K) (rhol rhor pl pr ul ur gamma : K) : Prop :=
  let o := fieldOps sqrt pow
  let bl := rhol * (1 / 2 * (gamma + 1))
  let br := rhor * (1 / 2 * (gamma + 1))
  let plmin := pl - 1 / 4 * rhol * sqrt (gamma * pl * rhol) * sqrt (gamma * pl * rhol) / (1 / 2 * (gamma + 1))
  let prmin := pr - 1 / 4 * rhor * sqrt (gamma * pr * rhor) * sqrt (gamma * pr * rhor) / (1 / 2 * (gamma + 1))
  let umin := ur - 1 / 2 * sqrt (gamma * pr * rhor) / (1 / 2 * (gamma + 1))
  let umax := ul + 1 / 2 * sqrt (gamma * pl * rhol) / (1 / 2 * (gamma + 1))
  ¬ ducoGA umin umax (ducoUA o bl br plmin prmin umin umax) →
  ¬ ducoGB umin umax (ducoUB o bl br plmin prmin umin umax) →
  ¬ (0 ≤ ducoDC bl br plmin prmin umin umax ∧ ducoGC umin umax (ducoUC o bl br plmin prmin umin umax)) →
  (0 ≤ ducoDD bl br plmin prmin umin umax ∧ ducoGD umin umax (ducoUD o bl br plmin prmin umin umax))

/-- reflection symmetry of `ducowicz` on every admissible state on which the
unguarded last branch is taken only when its (untested) guard holds -/
theorem reflect_ducowicz_partial (hs0 : SqrtZero sqrt) (hrl : 0 < rhol) (hrr : 0 < rhor)
    (hg : 0 < gamma)
    (hcov : DucoLastBranchGuarded sqrt pow rhol rhor pl pr ul ur gamma) :
    ReflectSym (ducowicz (fieldOps sqrt pow)) rhol rhor pl pr ul ur gamma tol niter := by
  intro r0 r1
  rw [ducowicz_eq, ducowicz_eq]
  simp only [fieldOps_sqrt]
  have e1 : -ul - 1 / 2 * sqrt (gamma * pl * rhol) / (1 / 2 * (gamma + 1))
      = -(ul + 1 / 2 * sqrt (gamma * pl * rhol) / (1 / 2 * (gamma + 1))) := by ring
  have e2 : -ur + 1 / 2 * sqrt (gamma * pr * rhor) / (1 / 2 * (gamma + 1))
      = -(ur - 1 / 2 * sqrt (gamma * pr * rhor) / (1 / 2 * (gamma + 1))) := by ring
  rw [e1, e2]
  have hbl : 0 < rhol * (1 / 2 * (gamma + 1)) := by positivity
  have hbr : 0 < rhor * (1 / 2 * (gamma + 1)) := by positivity
  exact ducoTail_mirror sqrt pow _ _ _ _ _ _ hbl hbr hs0 hcov

/-- the unconditional statement.  What is missing is `DucoLastBranchGuarded`
for all admissible data: "if the root of the two-shock pressure balance lies
strictly between `umin` and `umax`, the root formula of case A (or B) passes its
sign test".  It fails at least where that formula is `0/0`
(`(br - bl)(b + prmin - plmin) = 0` with `c = dd`; Python raises
`ZeroDivisionError` there), so the statement needs a genericity hypothesis. -/
def ReflectSymDucowicz (sqrt : K → K) (pow : K → K → K) : Prop :=
  ∀ rhol rhor pl pr ul ur gamma tol : K, ∀ niter : Int,
    0 < rhol → 0 < rhor → 0 < pl → 0 < pr → 1 < gamma →
    ReflectSym (ducowicz (fieldOps sqrt pow)) rhol rhor pl pr ul ur gamma tol niter

def SqrtMulSelf (sqrt : K → K) : Prop := ∀ x : K, 0 ≤ x → sqrt (x * x) = x

theorem equal_states_ducowicz (hs : SqrtPos sqrt) (hq : SqrtMulSelf sqrt) (hrho : 0 < rho)
    (hp : 0 < p) (hg : 0 < gamma) :
    EqualStates (ducowicz (fieldOps sqrt pow)) rho p u gamma tol niter := by
  intro r0 r1
  rw [ducowicz_eq]
  simp only [fieldOps_sqrt]
  have hc : 0 < sqrt (gamma * p * rho) := hs _ (by positivity)
  generalize sqrt (gamma * p * rho) = c at hc
  have hA : (0 : K) < 1 / 2 * (gamma + 1) := by positivity
  generalize (1 : K) / 2 * (gamma + 1) = A at hA
  have hh : 0 < 1 / 2 * c / A := by positivity
  have hβ : 0 < rho * A := by positivity
  rw [ducoTail_equal sqrt pow (rho * A) _ u (1 / 2 * c / A) hβ hh (hq _ (by positivity))]
  have e : p - 1 / 4 * rho * c * c / A + rho * A * (1 / 2 * c / A) * (1 / 2 * c / A) = p := by
    field_simp; ring
  rw [e, pymax_eq_max, max_eq_left hp.le]
  exact ⟨rfl, rfl, rfl⟩

/-- so that `pow (pl/pr) g ≠ 0` can be cancelled in the two-rarefaction starting guess -/
def PowPos (pow : K → K → K) : Prop := ∀ x g : K, 0 < x → 0 < pow x g

/-- the mirrored two-rarefaction guess evaluates `pow (pr/pl) g` where the original evaluates
`pow (pl/pr) g` -/
def PowInv (pow : K → K → K) : Prop := ∀ x g : K, 0 < x → pow x⁻¹ g = (pow x g)⁻¹

theorem reflect_exact (hpp : PowPos pow) (hpi : PowInv pow) (hpl : 0 < pl) (hpr : 0 < pr) :
    ReflectSym (exact (fieldOps sqrt pow)) rhol rhor pl pr ul ur gamma tol niter := by
  intro r0 r1
  rw [exact_eq, exact_eq]
  simp only [fieldOps_sqrt]
  have hd : 0 < pl / pr := div_pos hpl hpr
  refine exFrom_mirror (fieldOps sqrt pow) _ _ _ _ _ _ _ _ _ rhol rhor pl pr ul ur niter tol r0 r1 ?_ ?_
  · rw [← inv_div pl pr]; exact hpi _ _ hd
  · exact (hpp _ _ hd).ne'

theorem galilean_exact (hs : SqrtPos sqrt) (hpp : PowPos pow) (hrl : 0 < rhol) (hrr : 0 < rhor)
    (hpl : 0 < pl) (hpr : 0 < pr) (hg : 0 < gamma) (c : K) :
    GalileanInv (exact (fieldOps sqrt pow)) rhol rhor pl pr ul ur gamma tol niter c := by
  intro r0 r1
  rw [exact_eq, exact_eq]
  simp only [fieldOps_sqrt]
  have hcl : 0 < sqrt (gamma * pl / rhol) := hs _ (by positivity)
  have hcr : 0 < sqrt (gamma * pr / rhor) := hs _ (by positivity)
  have hq : 0 < pow (pl / pr) ((gamma - 1) * (1 / (2 * gamma))) := hpp _ _ (div_pos hpl hpr)
  refine exFrom_shift (fieldOps sqrt pow) _ _ _ _ _ _ _ _ _ rhol rhor pl pr ul ur c niter tol r0 r1 ?_
  simp only [fieldOps_pow]
  have : 0 < pow (pl / pr) ((gamma - 1) * (1 / (2 * gamma))) / sqrt (gamma * pl / rhol)
      + 1 / sqrt (gamma * pr / rhor) := by positivity
  exact this.ne'

/-- the pressure function of a side is evaluated at `p / p` -/
def PowOne (pow : K → K → K) : Prop := ∀ g : K, pow 1 g = 1

/-- equal states: the first Newton pass converges at `p* = p`.  `niter ≥ 2` because `exact` reports
failure when the converging pass is the last one allowed (`if i == niter - 1`) -/
theorem equal_states_exact (hs : SqrtPos sqrt) (h1 : PowOne pow) (hrho : 0 < rho) (hp : 0 < p)
    (hg : 1 < gamma) (htol : 0 ≤ tol) (hn : 2 ≤ niter) :
    EqualStates (exact (fieldOps sqrt pow)) rho p u gamma tol niter := by
  intro r0 r1
  rw [exact_eq]
  simp only [fieldOps_sqrt]
  have hg0 : 0 < gamma := zero_lt_one.trans hg
  have hg1 : 0 < gamma - 1 := sub_pos.mpr hg
  have hc : 0 < sqrt (gamma * p / rho) := hs _ (by positivity)
  have hg4 : 0 < 2 * (1 / (gamma - 1)) := by positivity
  rw [exFrom_equal sqrt pow _ _ _ _ _ _ _ _ rho p u niter tol r0 r1 hc hg4 hp (h1 _) htol hn]
  exact ⟨rfl, rfl, rfl⟩

/-- equal states: the first pass of `van_leer` converges at `p* = p`, for a pressure not below the
floor `smallp = 1e-25` -/
theorem equal_states_van_leer (hrho : 0 ≤ rho) (hp : vlSmallp ≤ p) (htol : 0 < tol) (hn : 1 ≤ niter) :
    EqualStates (van_leer (fieldOps sqrt pow)) rho p u gamma tol niter := by
  intro r0 r1
  have hp0 : 0 ≤ p := vlSmallp_pos.le.trans hp
  rw [van_leer_eq_of_nonneg _ hrho hrho hp0 hp0, vlFrom_equal sqrt pow _ rho p u gamma niter tol vlSmallp hp htol hn]
  exact ⟨rfl, rfl, rfl⟩

/-- a successful `van_leer` returns a positive pressure: every pass floors `p*`
at `smallp > 0` and success needs at least one pass.  No hypothesis on the data. -/
theorem success_imp_pos_van_leer (r0 r1 : K) :
    (van_leer (fieldOps sqrt pow) rhol rhor pl pr ul ur gamma niter tol r0 r1).code = 0 →
      0 < (van_leer (fieldOps sqrt pow) rhol rhor pl pr ul ur gamma niter tol r0 r1).r0 := by
  rw [van_leer_eq]
  split
  · exact fun h => absurd h Int.one_ne_zero
  · exact fun h => vlSmallp_pos.trans_le (vlFrom_success_floor _ _ _ _ _ _ _ _ _ _ _ _ _ h)

/-- scaling invariance of one solver at one state: multiplying pressures and
densities by `l` keeps the return code and, on success, multiplies `p*` by `l`
and keeps `u*` -/
def ScalingInv (f : Solver K) (rhol rhor pl pr ul ur gamma tol : K) (niter : Int) (l : K) : Prop :=
  ∀ r0 r1 : K,
    (f (l * rhol) (l * rhor) (l * pl) (l * pr) ul ur gamma niter tol r0 r1).code
      = (f rhol rhor pl pr ul ur gamma niter tol r0 r1).code ∧
    ((f rhol rhor pl pr ul ur gamma niter tol r0 r1).code = 0 →
      (f (l * rhol) (l * rhor) (l * pl) (l * pr) ul ur gamma niter tol r0 r1).r0
        = l * (f rhol rhor pl pr ul ur gamma niter tol r0 r1).r0 ∧
      (f (l * rhol) (l * rhor) (l * pl) (l * pr) ul ur gamma niter tol r0 r1).r1
        = (f rhol rhor pl pr ul ur gamma niter tol r0 r1).r1)

/-- `exact` scales exactly, for every state, iteration limit and tolerance.  `SqrtScales` is used in
the shock branch of the pressure function and the two-shock starting guess; `pow` only sees pressure
ratios and velocity differences over sound speeds -/
theorem scaling_exact (l : K) (hs : SqrtScales sqrt) (hl : 0 < l) :
    ScalingInv (exact (fieldOps sqrt pow)) rhol rhor pl pr ul ur gamma tol niter l := by
  intro r0 r1
  rw [exact_eq, exact_eq]
  simp only [fieldOps_sqrt]
  -- the sound speeds `sqrt (gamma p / rho)` do not change
  have e (p rho : K) : gamma * (l * p) / (l * rho) = gamma * p / rho := by
    rw [mul_left_comm, mul_div_mul_left _ _ hl.ne']
  rw [e, e]
  exact exFrom_scale (fieldOps sqrt pow) hs hl _ _ _ _ _ _ _ _ _ rhol rhor pl pr ul ur niter tol r0 r1

/-- the pressure floor `smallp = 1e-25` of `van_leer` is never applied on the run
from the given data, nor would the floor `smallp / l` be: the starting guess and
every Newton update are at least `max smallp (smallp / l)`.  (The floor is an
absolute pressure, so it is the one thing in `van_leer` that does not scale.) -/
def VanLeerFloorInactive (sqrt : K → K) (pow : K → K → K) (rhol rhor pl pr ul ur gamma tol : K)
    (niter : Int) (l : K) : Prop :=
  vlFloorInactive (fieldOps sqrt pow) (sqrt (gamma * pl * rhol)) (sqrt (gamma * pr * rhor))
    rhol rhor pl pr ul ur gamma niter tol vlSmallp (l⁻¹ * vlSmallp)

theorem scaling_van_leer (l : K) (hs : SqrtScales sqrt) (hl : 0 < l) (hrl : 0 ≤ rhol)
    (hrr : 0 ≤ rhor) (hpl : 0 ≤ pl) (hpr : 0 ≤ pr)
    (hf : VanLeerFloorInactive sqrt pow rhol rhor pl pr ul ur gamma tol niter l) :
    ScalingInv (van_leer (fieldOps sqrt pow)) rhol rhor pl pr ul ur gamma tol niter l := by
  intro r0 r1
  rw [van_leer_eq_of_nonneg _ hrl hrr hpl hpr, van_leer_eq_of_nonneg _ (mul_nonneg hl.le hrl)
    (mul_nonneg hl.le hrr) (mul_nonneg hl.le hpl) (mul_nonneg hl.le hpr)]
  simp only [fieldOps_sqrt]
  -- the Lagrangian sound speeds `sqrt (gamma p rho)` are multiplied by `l`
  have e (p rho : K) : sqrt (gamma * (l * p) * (l * rho)) = l * sqrt (gamma * p * rho) := by
    rw [show gamma * (l * p) * (l * rho) = l * l * (gamma * p * rho) by ring]; exact hs _ _ hl
  rw [e, e]
  -- scaling is exact if the floor is scaled too; on this run the floor `l⁻¹ smallp` may stand for `smallp`
  rw [← vlFrom_floor _ _ _ _ _ _ _ _ _ _ _ _ _ _ hf]
  exact vlFrom_scale_floor sqrt pow hl ..

/-! ## stated, not proved

* `ReflectSymDucowicz` (above): needs `DucoLastBranchGuarded` for all admissible data.
* `SuccessImpPosExact`: `exact` has no pressure floor; a Newton iterate may become
  negative without leaving the loop.  Checked on the real code (`niter ≥ 2`) only. -/

/-- success of `exact` implies a positive star pressure: stated, not proved.  `2 ≤ niter` is
assumed because the statement is false without it: for `niter ≤ 0` the loop does not run and `exact`
returns code 0 with `p* = 0` (and for `niter = 1` it never reports success) -/
def SuccessImpPosExact (sqrt : K → K) (pow : K → K → K) : Prop :=
  ∀ rhol rhor pl pr ul ur gamma tol r0 r1 : K, ∀ niter : Int,
    0 < rhol → 0 < rhor → 0 < pl → 0 < pr → 1 < gamma → 0 < tol → 2 ≤ niter →
    (exact (fieldOps sqrt pow) rhol rhor pl pr ul ur gamma niter tol r0 r1).code = 0 →
      0 < (exact (fieldOps sqrt pow) rhol rhor pl pr ul ur gamma niter tol r0 r1).r0

end

example : SqrtPos (fun x : K => x) := fun _ h => h

/-- the Sod tube is admissible for every theorem above (`gamma = 7/5`) -/
example : (0 : K) < 1 ∧ (0 : K) < 1 / 8 ∧ (0 : K) < 1 / 10 ∧ (0 : K) < 7 / 5 := by
  refine ⟨?_, ?_, ?_, ?_⟩ <;> positivity

/-- reflection really changes the problem: `non_diffusive` on a moving state
returns a non-zero `u*`, and the mirrored problem returns its negative -/
example : (non_diffusive (fieldOps (fun x : K => x) (fun x _ => x)) 1 (1 / 8) 1 (1 / 10) 1 3 (7 / 5) 20
    (1 / 1000) 0 0).r1 = 2 := by
  simp only [non_diffusive, Nat.cast_ofNat, Nat.cast_one]; norm_num

/-- a vacuum-generating state exists for `vacuum_reported_exact` (`sqrt := id`) -/
example : 2 * (1 / ((7 / 5 : K) - 1)) * ((7 / 5 * 1 / 1) + (7 / 5 * 1 / 1)) ≤ 20 - (-20) := by
  norm_num

/-- the hypotheses on the abstract operations are jointly satisfiable: the real
square root and the real power function meet all of them -/
example : SqrtPos Real.sqrt ∧ SqrtScales Real.sqrt ∧ SqrtMulSelf Real.sqrt ∧ SqrtZero Real.sqrt :=
  ⟨fun _ h => Real.sqrt_pos.mpr h,
   fun m x hm => by rw [Real.sqrt_mul (mul_self_nonneg m), Real.sqrt_mul_self hm.le],
   fun _ h => Real.sqrt_mul_self h, Real.sqrt_zero⟩

example : PowPos (fun x g : ℝ => x ^ g) ∧ PowInv (fun x g : ℝ => x ^ g) ∧ PowOne (fun x g : ℝ => x ^ g) :=
  ⟨fun _ g h => Real.rpow_pos_of_pos h g, fun _ g h => Real.inv_rpow h.le g, fun g => Real.one_rpow g⟩

/-- `VanLeerFloorInactive` holds e.g. for unit data with no pass allowed (`sqrt := 1`), where
it says `smallp ≤ 1` and `smallp / 2 ≤ 1`.  (`DucoLastBranchGuarded` is an implication from the
failure of case A: it holds wherever case A succeeds, e.g. on equal states, see
`equal_states_ducowicz`.) -/
example : VanLeerFloorInactive (fun _ : K => 1) (fun x _ => x) 1 1 1 1 0 0 (7 / 5) (1 / 1000) 0 2 := by
  refine ⟨⟨?_, ?_⟩, trivial⟩ <;> (unfold vlSmallp; norm_num)
end PysphVerif.C15
