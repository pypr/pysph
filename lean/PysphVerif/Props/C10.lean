import PysphVerif.Lemmas.SolverLoop
import PysphVerif.Lemmas.SolverLoopTerm
/-!
# C10 — the solver loop reaches `tf` exactly and honours the output schedule

The theorems are about `Model/SolverLoop.lean`, which transcribes `Solver.solve`,
`_get_timestep`, `_compute_timestep`, `_damp_timestep`,
`_dump_output_if_needed`, `_land_on_output_time` and `_get_solver_data` (as
repaired by proposed_fixes/C10-output-time-landing.diff) and is tied to the
code by bit-exact differential execution of whole event traces at `Float`.

All statements hold over every linearly ordered field `α` and every
configuration `c`, initial step `dt0` with `Good c dt0`: ε ≥ 0, tf ≥ 0,
arbitrary positive damping factors, an ARBITRARY positive adaptive sequence
`c.adapt : ℕ → Option α` (with `none` = the integrator declines), arbitrary
`pfreq`, `n_damp`, `max_steps`, and any sorted list of requested times
(clustered, duplicated, on step times, equal to or beyond tf).
`(solve c dt0).2` is the whole event trace, `(solve c dt0).1` the final state.
`terminates` and the two exact `recorded_dt_*_mode` theorems additionally
assume `Lower`: a positive lower bound on the proposed steps and a
non-decreasing damping ramp inside `[fmin, 1]`.

What is NOT covered: rounding of `t + dt` (the theorems are exact-field; the
harness evaluates the property on every implementation trace instead), and
the one measure-zero corner kept as a disjunct in `dump_at_requested_time`.
-/
set_option linter.unusedSectionVars false
namespace PysphVerif.C10
open PysphVerif.SolverLoop

variable {α : Type} [Field α] [LinearOrder α] [IsStrictOrderedRing α]

/-- the states with which `integrator.step(t, dt)` was called, in order -/
def stepsOf : List (Ev α) → List (St α)
  | [] => []
  | Ev.step s :: rest => s :: stepsOf rest
  | _ :: rest => stepsOf rest

def noDumps : List (Ev α) → List (Ev α)
  | [] => []
  | Ev.dump _ :: rest => noDumps rest
  | e :: rest => e :: noDumps rest

def Bracketed : List (Ev α) → Prop
  | [] => True
  | Ev.pre :: Ev.step _ :: Ev.post :: rest => Bracketed rest
  | _ => False

section
open scoped PysphVerif.OrderChain

section operations
variable {β : Type} [Add β] [Sub β] [Mul β] [Div β] [Neg β] [LT β] [DecidableLT β]
  [OfNat β 0] [OfNat β 1]

private theorem stepsOf_append (l1 l2 : List (Ev β)) :
    stepsOf (l1 ++ l2) = stepsOf l1 ++ stepsOf l2 := by
  induction l1 with
  | nil => rfl
  | cons e rest ih => cases e <;> simp [stepsOf, ih]

private theorem mem_stepsOf (l : List (Ev β)) (b : St β) : b ∈ stepsOf l ↔ Ev.step b ∈ l := by
  induction l with
  | nil => simp [stepsOf]
  | cons e rest ih => cases e <;> simp [stepsOf, ih]

private theorem noDumps_append (l1 l2 : List (Ev β)) :
    noDumps (l1 ++ l2) = noDumps l1 ++ noDumps l2 := by
  induction l1 with
  | nil => rfl
  | cons e rest ih => cases e <;> simp [noDumps, ih]

private theorem iterEv_steps (c : Cfg β) (s : St β) :
    stepsOf (iterEv c s) = [s] ∧ noDumps (iterEv c s) = [Ev.pre, Ev.step s, Ev.post] := by
  rcases iterEv_cases c s with h | h <;> rw [h] <;> exact ⟨rfl, rfl⟩

private theorem trace_steps {c : Cfg β} {dt0 : β} {n : Nat} (R : Trace c dt0 n) :
    stepsOf (solve c dt0).2 = (List.range n).map (head c dt0) ∧
    Bracketed (noDumps (solve c dt0).2) := by
  have h : ∀ l : List Nat, stepsOf (l.flatMap fun i => iterEv c (head c dt0 i)) = l.map (head c dt0) ∧
      Bracketed (noDumps (l.flatMap fun i => iterEv c (head c dt0 i))) := by
    intro l
    induction l with
    | nil => exact ⟨rfl, trivial⟩
    | cons i l ih =>
      rw [List.flatMap_cons, stepsOf_append, noDumps_append, (iterEv_steps c _).1,
        (iterEv_steps c _).2, ih.1]
      exact ⟨rfl, ih.2⟩
  rw [R.events]
  simp only [List.cons_append, stepsOf, noDumps, stepsOf_append, noDumps_append, List.append_nil]
  exact h _

private theorem step_mem {c : Cfg β} {dt0 : β} {n : Nat} (R : Trace c dt0 n) {s : St β} :
    Ev.step s ∈ (solve c dt0).2 ↔ ∃ i < n, head c dt0 i = s := by
  rw [← mem_stepsOf, (trace_steps R).1, List.mem_map]
  simp only [List.mem_range]

end operations

private theorem step_live {c : Cfg α} {dt0 : α} {n : Nat} (R : Trace c dt0 n) (G : Good c dt0)
    {s : St α} (h : Ev.step s ∈ (solve c dt0).2) : Live c s := by
  obtain ⟨i, hi, rfl⟩ := (step_mem R).mp h
  exact R.live G hi

/-- Every step the integrator is asked to take has `dt > 0`. -/
theorem step_dt_pos (c : Cfg α) (dt0 : α) (G : Good c dt0) (s : St α)
    (h : Ev.step s ∈ (solve c dt0).2) : 0 < s.dt :=
  (step_live (solve_trace c dt0) G h).dt_pos

/-- **Time increases strictly.**  Every later step starts at or after the end
`t + dt` of every earlier one (and each `dt` is positive by `step_dt_pos`). -/
theorem time_strictly_increases (c : Cfg α) (dt0 : α) (G : Good c dt0) :
    (stepsOf (solve c dt0).2).Pairwise (fun a b => a.t + a.dt ≤ b.t ∧ a.t < b.t) := by
  have R := solve_trace c dt0
  rw [(trace_steps R).1, List.pairwise_map]
  refine List.pairwise_lt_range.imp_of_mem fun {i j} _ hj hij => ?_
  have hj := List.mem_range.mp hj
  have h := R.t_mono G (Nat.succ_le_of_lt hij) (Nat.le_of_lt hj)
  rw [head_succ, (iterSt_clock c _).1] at h
  exact ⟨h, lt_of_lt_of_le (lt_add_of_pos_right _ (R.live G (hij.trans hj)).dt_pos) h⟩

/-- The time handed to the next `integrator.step` is exactly `t + dt`. -/
theorem time_advances_by_dt (c : Cfg α) (s : St α) :
    (iterSt c s).t = s.t + s.dt ∧ (iterSt c s).count = s.count + 1 :=
  ⟨(iterSt_clock c s).1, (iterSt_clock c s).2.1⟩

/-- Outside the early return, `nom` is the current step size: the value the
integrator proposed (or, when it declines / in fixed mode, the undamped
previous nominal step) times the damping factor for this iteration. -/
theorem nom_is_current_step_size (c : Cfg α) (a : St α) (h : ¬ absv (c.tf - a.t) < a.eps) :
    (getTimestep c a).nom =
      (computeTimestep c (restorePrev a)).1 * newDamp c (computeTimestep c (restorePrev a)).2 ∧
    (getTimestep c a).damp = newDamp c (computeTimestep c (restorePrev a)).2 := by
  rw [getTimestep, if_neg h, dampAndLand]
  split <;> exact ⟨rfl, rfl⟩

/-- **No step exceeds the current (damped, adaptive or fixed) step size**,
except that the step that lands on `tf` may be longer by less than ε. -/
theorem step_le_current_dt (c : Cfg α) (dt0 : α) (G : Good c dt0) (s : St α)
    (h : Ev.step s ∈ (solve c dt0).2) :
    s.dt ≤ s.nom ∨ (s.landed = true ∧ s.dt < s.nom + s.eps) :=
  (step_live (solve_trace c dt0) G h).le_nom

/-- **Reaches `tf`.**  If the loop was not stopped by `max_steps`, the final
time satisfies `tf - ε ≤ t ≤ tf` with ε the solver's own final epsilon; time
never exceeds `tf`. -/
theorem lands_on_tf (c : Cfg α) (dt0 : α) (G : Good c dt0)
    (hmax : (solve c dt0).1.count < c.maxSteps) :
    (solve c dt0).1.t ≤ c.tf ∧ c.tf - (solve c dt0).1.t ≤ (solve c dt0).1.eps := by
  have R := solve_trace c dt0
  exact ⟨(R.final_inv G).t_le_tf, not_lt.mp (R.final ▸ R.reached hmax)⟩

/-- With ε = 0 the final time is exactly `tf`. -/
theorem lands_on_tf_exact (c : Cfg α) (dt0 : α) (G : Good c dt0) (h0 : c.EPS = 0)
    (hmax : (solve c dt0).1.count < c.maxSteps) : (solve c dt0).1.t = c.tf := by
  obtain ⟨h1, h2⟩ := lands_on_tf c dt0 G hmax
  have he := head_eps_eq_zero c dt0 h0 (solve c dt0).1.count
  rw [← (solve_trace c dt0).final] at he
  rw [he] at h2
  exact le_antisymm h1 (sub_nonpos.mp h2)

/-- `max_steps` is honoured. -/
theorem count_le_max_steps (c : Cfg α) (dt0 : α) : (solve c dt0).1.count ≤ c.maxSteps :=
  (solve_trace c dt0).count_le

/-- **Never past a requested time.**  A step that starts more than ε before a
requested time `T` ends at or before `T`. -/
theorem never_past_requested_time (c : Cfg α) (dt0 : α) (G : Good c dt0) (s : St α)
    (h : Ev.step s ∈ (solve c dt0).2) (T : α) (hT : T ∈ c.outT) (hbefore : s.eps < T - s.t) :
    s.t + s.dt ≤ T :=
  (step_live (solve_trace c dt0) G h).not_past T hT hbefore

/-- **The recorded step size is the nominal one.**  Every dump written while
the run is still short of `tf` and not on the step that lands on `tf` records
`nom / damp`: the current undamped step size, whether or not the next step
was shortened to land on a requested time. -/
theorem recorded_dt_is_nominal (c : Cfg α) (dt0 : α) (G : Good c dt0) (s : St α)
    (h : Ev.dump s ∈ (solve c dt0).2) (hr : Running c s) (hl : s.landed = false) :
    solverData s = s.nom / s.damp := by
  have R := solve_trace c dt0
  rcases R.of_dump_mem h with rfl | ⟨i, hi, rfl⟩
  · rfl
  · rw [solverData_eq, ((R.inv G hi).live hr).rec_nom hl]

/-- … and `nom / damp` is the undamped current step: what the integrator
proposed, or the undamped previous nominal step. -/
theorem nominal_undamped (c : Cfg α) (dt0 : α) (G : Good c dt0) (a : St α)
    (h : ¬ absv (c.tf - a.t) < a.eps) :
    (getTimestep c a).nom / (getTimestep c a).damp = (computeTimestep c (restorePrev a)).1 := by
  obtain ⟨h1, h2⟩ := nom_is_current_step_size c a h
  rw [h1, h2]
  exact mul_div_cancel_right₀ _ (dampAt_pos c G.hdamp _).ne'

/-- **Callbacks run exactly once per step**: without the dump events the trace
is `(pre, step, post)*`, and the final iteration count is the number of steps. -/
theorem callbacks_once_per_step (c : Cfg α) (dt0 : α) :
    Bracketed (noDumps (solve c dt0).2) ∧
    (solve c dt0).1.count = (stepsOf (solve c dt0).2).length := by
  obtain ⟨h1, h2⟩ := trace_steps (solve_trace c dt0)
  rw [h1, List.length_map, List.length_range]
  exact ⟨h2, rfl⟩

/-- The trace starts with a dump of the initial state (t = 0, count = 0,
recorded dt = the configured one) and ends with a dump of the final state. -/
theorem dump_at_start_and_end (c : Cfg α) (dt0 : α) :
    (solve c dt0).2.head? = some (Ev.dump (init c dt0)) ∧
    (solve c dt0).2.getLast? = some (Ev.dump (solve c dt0).1) ∧
    (init c dt0).t = 0 ∧ (init c dt0).count = 0 ∧ solverData (init c dt0) = dt0 :=
  ⟨rfl, List.getLast?_concat, rfl, rfl, div_one dt0⟩

/-- **Output every `pfreq`-th iteration**: for every multiple `k` of `pfreq`
up to the final iteration count there is a dump with iteration count `k`. -/
theorem dump_every_pfreq (c : Cfg α) (dt0 : α) (k : Nat) (hk : k ≤ (solve c dt0).1.count)
    (hmod : k % c.pfreq = 0) : ∃ d, Ev.dump d ∈ (solve c dt0).2 ∧ d.count = k := by
  have R := solve_trace c dt0
  cases k with
  | zero => exact ⟨init c dt0, (R.mem_events _).mpr (Or.inl rfl), rfl⟩
  | succ k => exact ⟨_, R.arrival_dumped hk (Or.inl hmod), head_count c dt0 _⟩

/-- **Output at every requested time.**  If the loop was not stopped by
`max_steps`, then for every requested time `T` in `[0, tf]` there is a dump at
a time within the solver's ε of `T` — except in the corner where a step starts
at EXACTLY `T - ε` (the code's test is the strict `|T - t| < ε`; in the
repaired code such a state does not land on `T` either, as `T - t > ε` fails). -/
theorem dump_at_requested_time (c : Cfg α) (dt0 : α) (G : Good c dt0) (T : α)
    (hT : T ∈ c.outT) (h0 : 0 ≤ T) (hTtf : T ≤ c.tf)
    (hmax : (solve c dt0).1.count < c.maxSteps) :
    (∃ d, Ev.dump d ∈ (solve c dt0).2 ∧ |T - d.t| ≤ d.eps) ∨
    (∃ s, Ev.step s ∈ (solve c dt0).2 ∧ T - s.t = s.eps) := by
  have R := solve_trace c dt0
  generalize (solve c dt0).1.count = n at R hmax
  -- the loop ends within ε of `tf ≥ T`: take the first loop head not more than ε short of `T`
  have hn : T ≤ (head c dt0 n).t + (head c dt0 n).eps :=
    hTtf.trans (sub_le_iff_le_add'.mp (not_lt.mp (R.reached hmax)))
  obtain ⟨k, hk, hmin⟩ :=
    Nat.findX (p := fun k => T ≤ (head c dt0 k).t + (head c dt0 k).eps) ⟨n, hn⟩
  have hkn : k ≤ n := Nat.not_lt.mp fun h => hmin n h hn
  cases k with
  | zero =>
    -- `T` is within the initial ε of the start: the initial dump
    obtain ⟨ht, -, he⟩ := start_clock c dt0
    refine Or.inl ⟨init c dt0, (R.mem_events _).mpr (Or.inl rfl), ?_⟩
    show |T - 0| ≤ c.EPS * c.tf
    rw [sub_zero, abs_of_nonneg h0, ← zero_add (c.EPS * c.tf), ← ht, ← he]
    exact hk
  | succ j =>
    -- the pass from head `j`, more than ε short of `T`, does not step past `T`
    have hle : (head c dt0 (j + 1)).t ≤ T := by
      rw [head_succ, (iterSt_clock c _).1]
      exact (R.live G hkn).not_past T hT
        (lt_sub_iff_add_lt'.mpr (not_le.mp (hmin j (Nat.lt_succ_self j))))
    have hclose : T - (head c dt0 (j + 1)).t ≤ (head c dt0 (j + 1)).eps := sub_le_iff_le_add'.mpr hk
    have habs := abs_of_nonneg (sub_nonneg.mpr hle)
    rcases lt_or_eq_of_le hclose with hnear | heq
    · exact Or.inl ⟨_, R.arrival_dumped hkn (Or.inr ⟨T, hT, lt_of_eq_of_lt habs hnear⟩),
        le_of_eq_of_le habs hclose⟩
    · -- exactly ε short of `T` it is dumped only if the loop ends here
      rcases Nat.eq_or_lt_of_le hkn with rfl | hlt
      · exact Or.inl ⟨_, R.final_dump, le_of_eq_of_le habs hclose⟩
      · exact Or.inr ⟨_, (step_mem R).mpr ⟨_, hlt, rfl⟩, heq⟩

/-- **The loop reaches `tf` — it is never `max_steps` that stops it** — for
every adaptive sequence bounded below (`Lower`): if `tf ≤ N·umin·fmin` and `max_steps`
leaves room for `N` full steps plus one landing per requested time, then `solve`
ends with `tf - ε ≤ t ≤ tf` after at most `N + len(output_at_times)` steps. -/
theorem terminates (c : Cfg α) (dt0 : α) (G : Good c dt0) (umin fmin : α)
    (L : Lower c dt0 umin fmin) (N : Nat) (hN : c.tf ≤ N * (umin * fmin))
    (hmax : N + c.outT.length ≤ c.maxSteps) :
    (solve c dt0).1.t ≤ c.tf ∧ c.tf - (solve c dt0).1.t ≤ (solve c dt0).1.eps ∧
    (solve c dt0).1.count ≤ N + c.outT.length := by
  have R := solve_trace c dt0
  obtain ⟨h1, h2⟩ := R.terminates G L N hN hmax
  exact ⟨(R.final_inv G).t_le_tf, not_lt.mp h1, h2⟩

/-- **Fixed-step mode: every dump records exactly the configured `dt`**
(while the run is short of `tf` and not on the step that lands on `tf`), no
matter how many steps were shortened to land on requested times and whatever
the damping. -/
theorem recorded_dt_fixed_mode (c : Cfg α) (dt0 umin fmin : α) (G : Good c dt0)
    (L : Lower c dt0 umin fmin) (hfix : c.adaptive = false) (s : St α)
    (h : Ev.dump s ∈ (solve c dt0).2) (hr : Running c s) (hl : s.landed = false) :
    solverData s = dt0 := by
  have R := solve_trace c dt0
  rcases R.of_dump_mem h with rfl | ⟨i, hi, rfl⟩
  · exact div_one dt0
  · rw [solverData_eq, (R.live2 G L hi hr).fixed_saved hfix hl]
    exact mul_div_cancel_right₀ _ ((R.inv G hi).live hr).damp_pos.ne'

/-- **Adaptive mode: every dump records exactly the step the integrator last
proposed** (its `calls`-th answer), undamped and unaffected by shortening. -/
theorem recorded_dt_adaptive_mode (c : Cfg α) (dt0 umin fmin : α) (G : Good c dt0)
    (L : Lower c dt0 umin fmin) (had : c.adaptive = true) (s : St α)
    (h : Ev.dump s ∈ (solve c dt0).2) (hr : Running c s) (hl : s.landed = false)
    (v : α) (hcalls : 1 ≤ s.calls) (hv : c.adapt (s.calls - 1) = some v) :
    solverData s = v := by
  have R := solve_trace c dt0
  rcases R.of_dump_mem h with rfl | ⟨i, hi, rfl⟩
  · exact absurd hcalls (Nat.not_succ_le_zero 0)
  · rw [solverData_eq, ((R.live2 G L hi hr).adapt_saved had hl).2 v hv]
    exact mul_div_cancel_right₀ _ ((R.inv G hi).live hr).damp_pos.ne'

end

/-! ## non-vacuity: a concrete run meeting the hypotheses (over ℚ) -/

/-- adaptive (the integrator declines every third call), damped for two
iterations, three requested times of which two coincide -/
def exC : Cfg ℚ :=
  { tf := 1, EPS := 1/1000, pfreq := 2, outT := [3/10, 7/20, 7/20], nDamp := 2, maxSteps := 100,
    adaptive := true, dampFac := fun k => if k = 0 then 1/2 else 1,
    adapt := fun k => if k % 3 = 2 then none else some (1/4), cast := fun n => (n : ℚ) }

example : Good exC (1/5) := by
  refine ⟨?_, zero_le_one, fun n => Nat.cast_nonneg n, fun k => ?_, fun k v h => ?_, by norm_num,
    by decide +kernel⟩
  · show (0:ℚ) ≤ 1/1000
    norm_num
  · show (0:ℚ) < if k = 0 then 1/2 else 1
    split <;> norm_num
  · change (if k % 3 = 2 then none else some (1/4:ℚ)) = some v at h
    split at h <;> cases h
    norm_num

example : (stepsOf (solve exC (1/5)).2).map (fun s => (s.t, s.dt)) =
    [(0, 1/8), (1/8, 7/40), (3/10, 1/20), (7/20, 1/4), (3/5, 1/4), (17/20, 3/20)] := by
  decide +kernel

example : (solve exC (1/5)).1.t = 1 ∧ (solve exC (1/5)).1.count = 6 ∧
    (solve exC (1/5)).1.count < exC.maxSteps := by decide +kernel

/-- its dumps: start; on the requested times 3/10 (also a pfreq dump) and 7/20;
iteration 4; the end.  The recorded dt is the adaptive 1/4 even where the
next step was shortened (1/20 at t = 3/10). -/
example : (solve exC (1/5)).2.filterMap
      (fun e => match e with | Ev.dump s => some (s.t, s.count, solverData s) | _ => none) =
    [(0, 0, 1/5), (3/10, 2, 1/4), (7/20, 3, 1/4), (3/5, 4, 1/4), (1, 6, 3/20)] := by
  decide +kernel

/-- the hypotheses of `terminates` are met by the same run (`umin = 1/5`,
`fmin = 1/2`, `N = 10`): it ends at `tf` after 6 ≤ 10 + 3 steps -/
example : Lower exC (1/5) (1/5) (1/2) ∧ exC.tf ≤ (10 : Nat) * ((1/5 : ℚ) * (1/2)) ∧
    10 + exC.outT.length ≤ exC.maxSteps := by
  have ramp : ∀ k : Nat, (1/2:ℚ) ≤ (if k = 0 then 1/2 else 1) ∧ (if k = 0 then 1/2 else 1 : ℚ) ≤ 1 :=
    fun k => by split <;> norm_num
  refine ⟨⟨by norm_num, by norm_num, by norm_num, le_refl _, fun k v h => ?_, fun k => (ramp k).1,
    fun k => (ramp k).2, fun k => ?_⟩, ?_, by decide⟩
  · change (if k % 3 = 2 then none else some (1/4:ℚ)) = some v at h
    split at h <;> cases h
    norm_num
  · show (if k = 0 then 1/2 else 1 : ℚ) ≤ if k + 1 = 0 then 1/2 else 1
    rw [if_neg (Nat.succ_ne_zero k)]
    exact (ramp k).2
  · show (1:ℚ) ≤ (10 : Nat) * ((1/5 : ℚ) * (1/2))
    norm_num

/-! ## the code before the fix violates the property, in exact arithmetic too

`Pinned.solve` transcribes the unrepaired `solve`/`_get_timestep`/
`_dump_output_if_needed` (validated bit for bit against that code).
Each of the three statements exhibits a configuration meeting every hypothesis
of the theorems above on which the unrepaired loop breaks the corresponding clause. -/

/-- the states `dump_output` saw, in order -/
def dumpsOf : List (Ev α) → List (St α)
  | [] => []
  | Ev.dump s :: rest => s :: dumpsOf rest
  | _ :: rest => dumpsOf rest

def pinnedBase : Cfg ℚ :=
  { tf := 1, EPS := 1/1000, pfreq := 1, outT := [], nDamp := 0, maxSteps := 100, adaptive := false,
    dampFac := fun _ => 1, adapt := fun _ => none, cast := fun n => (n : ℚ) }

/-- a requested time inside the first step -/
def pinnedC1 : Cfg ℚ := { pinnedBase with outT := [1/20] }
/-- two requested times within ε ahead of the step time 3/10 and a third at 7/20 -/
def pinnedC2 : Cfg ℚ := { pinnedBase with outT := [301/1000, 302/1000, 7/20] }
/-- three damped iterations and a requested time ε/2 short of the end of the second step -/
def pinnedC3 : Cfg ℚ :=
  { pinnedBase with nDamp := 3, dampFac := fun k => if k = 0 then 1/4 else if k = 1 then 1/2 else 3/4,
                    outT := [1/40 + 1/20 - 1/2000] }

private theorem good_of (c : Cfg ℚ) (h1 : c.EPS = 1/1000) (h2 : c.tf = 1)
    (h3 : c.cast = fun n : Nat => (n : ℚ)) (h4 : ∀ k, 0 < c.dampFac k)
    (h5 : c.adapt = fun _ => none) (h6 : c.outT.Pairwise (· ≤ ·)) : Good c (1/10) := by
  refine ⟨?_, ?_, ?_, h4, ?_, by norm_num, h6⟩
  · rw [h1]; norm_num
  · rw [h2]; norm_num
  · intro n; rw [h3]; exact Nat.cast_nonneg n
  · intro k v h; rw [h5] at h; cases h

/-- **Defect 2 (first step).**  The unrepaired loop steps from 0 to 1/10 over the
requested time 1/20: `never_past_requested_time` fails for it. -/
theorem pinned_first_step_counterexample :
    Good pinnedC1 (1/10) ∧
    ∃ s ∈ stepsOf (Pinned.solve pinnedC1 (1/10)).2, ∃ T ∈ pinnedC1.outT,
      s.eps < T - s.t ∧ T < s.t + s.dt := by
  exact ⟨good_of _ rfl rfl rfl (fun _ => zero_lt_one) rfl (List.pairwise_singleton _ _),
    by decide +kernel⟩

/-- **Defect 3 (cluster).**  With two requested times within ε ahead of the
current time the unrepaired loop steps over a third one closer than `dt`. -/
theorem pinned_cluster_counterexample :
    Good pinnedC2 (1/10) ∧
    ∃ s ∈ stepsOf (Pinned.solve pinnedC2 (1/10)).2, ∃ T ∈ pinnedC2.outT,
      s.eps < T - s.t ∧ T < s.t + s.dt := by
  exact ⟨good_of _ rfl rfl rfl (fun _ => zero_lt_one) rfl (by decide +kernel), by decide +kernel⟩

/-- **Defect 1 (stale `_prev_dt`).**  Fixed step 1/10 with three damped
iterations and a requested time ε/2 short of a step end: from then on every
dump of the unrepaired loop records 1/15 (and the undamped steps ARE 1/15), where
`recorded_dt_fixed_mode` proves 1/10 for the repaired loop. -/
theorem pinned_stale_prev_dt_counterexample :
    Good pinnedC3 (1/10) ∧ Lower pinnedC3 (1/10) (1/10) (1/4) ∧ pinnedC3.adaptive = false ∧
    (∃ s ∈ dumpsOf (Pinned.solve pinnedC3 (1/10)).2, s.eps < pinnedC3.tf - s.t ∧
      s.landed = false ∧ solverData s = 1/15) ∧
    (∃ s ∈ stepsOf (Pinned.solve pinnedC3 (1/10)).2, s.damp = 1 ∧ s.landed = false ∧ s.dt = 1/15) := by
  have ramp : ∀ k, 0 < pinnedC3.dampFac k ∧ 1/4 ≤ pinnedC3.dampFac k ∧ pinnedC3.dampFac k ≤ 1 ∧
      pinnedC3.dampFac k ≤ pinnedC3.dampFac (k + 1) := by
    intro k
    rcases k with _ | _ | k
    · show (0:ℚ) < 1/4 ∧ (1/4:ℚ) ≤ 1/4 ∧ (1/4:ℚ) ≤ 1 ∧ (1/4:ℚ) ≤ 1/2
      norm_num
    · show (0:ℚ) < 1/2 ∧ (1/4:ℚ) ≤ 1/2 ∧ (1/2:ℚ) ≤ 1 ∧ (1/2:ℚ) ≤ 3/4
      norm_num
    · show (0:ℚ) < 3/4 ∧ (1/4:ℚ) ≤ 3/4 ∧ (3/4:ℚ) ≤ 1 ∧ (3/4:ℚ) ≤ 3/4
      norm_num
  exact ⟨good_of _ rfl rfl rfl (fun k => (ramp k).1) rfl (List.pairwise_singleton _ _),
    ⟨by norm_num, by norm_num, by norm_num, le_refl _, fun _ _ h => (nomatch h),
      fun k => (ramp k).2.1, fun k => (ramp k).2.2.1, fun k => (ramp k).2.2.2⟩,
    rfl, by decide +kernel, by decide +kernel⟩

end PysphVerif.C10
