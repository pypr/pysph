import PysphVerif.Lemmas.DumpLoadMany
/-!
# C11 — saved output loads back to the same particles and solver data

Property theorems only (helper lemmas live in `Lemmas/DumpLoad*.lean`).  They
are about `Model/DumpLoad.lean`, which transcribes the two writers, the three
readers and the `ParticleArray` construction they drive, and is tied to the
code by executing `load(dump(...))` on real files.

The theorems hold for every well-formed source array (`WF`: coherent, aligned,
`tag/pid/gid` as `clear()` makes them — any further property names, C types,
strides, defaults, any constants, any output list naming properties, any number
of particles including none), every option combination (`detailed`,
`only_real`, `compress`) and every value type.  The file is an abstract nested
dictionary: the encodings of numpy/pickle/h5py are not modelled (partial).
-/
set_option linter.unusedSectionVars false
namespace PysphVerif.C11
open PysphVerif.DumpLoad

variable {V S : Type} [PVal V] [DecidableEq V]

/-- Serving the `add_property` requests derived from a dump **in any order**
(hdf5 iterates by name, npz in dictionary order) on a freshly cleared array
succeeds, and every source property comes back with its C type, stride and
default — whether or not it was written — and with exactly the stored slice
(`num × stride` leading entries: real particles only under `only_real`) as data
when it was written; no other property appears. -/
theorem readers_rebuild_in_any_order (pa : PArr V) (hwf : WF pa) (o : Opts)
    (arrs : List (String × List V))
    (hdump : getPropertyArrays pa o.detailed o.onlyReal = some arrs)
    (rs : List (AddReq V)) (hperm : rs.Perm (pa.props.map (reqOf arrs))) (name : String) :
    ∃ q, addAll (emptyArr name) rs = .ok q ∧
      (∀ p ∈ pa.props, ∃ p' ∈ q.props, p'.name = p.name ∧ p'.ctype = p.ctype ∧
        p'.stride = p.stride ∧ p'.default = p.default ∧
        (p.name ∈ storedNames pa o.detailed →
          p'.data = p.data.take (numParticles pa o.onlyReal * p.stride))) ∧
      (∀ p' ∈ q.props, ∃ p ∈ pa.props, p.name = p'.name) := by
  obtain ⟨hg, hs⟩ := gpa_spec pa hwf o
  rw [hdump] at hg
  cases hg
  obtain ⟨q, _, h1, _, _, _, hm, hn⟩ :=
    rebuild pa hwf o _ hs (fun q => q) addReq id rs (fun _ _ _ q h => ⟨q, h, rfl⟩)
      (by rwa [List.map_id]) (emptyArr name) (sinv_clear _)
  exact ⟨q, h1, hm, fun p' hp' => (hn _).1 ⟨p', hp', rfl⟩⟩

/-- `load(dump([pa]))` through an hdf5 file succeeds and delivers a `RoundTrip`. -/
theorem hdf5_roundtrip (pa : PArr V) (hwf : WF pa) (o : Opts) (sd : List (String × S)) :
    ∃ f q, dump .hdf5 o [pa] sd = some f ∧
      load f = .ok (sortByName sd, [(pa.name, q)]) ∧ RoundTrip o pa q := by
  have hw : ∀ q ∈ [pa], WF q := List.forall_mem_singleton.2 hwf
  have hn : ([pa].map (·.name)).Nodup := List.pairwise_singleton _ _
  obtain ⟨qs, hl, hqs⟩ := loadH5_many [pa] hw hn o sd
  obtain ⟨⟨n, q⟩, rfl, rfl, hrt⟩ := forall2_singleton (a := (pa.name, pa)) hqs
  exact ⟨_, q, dumpHdf5_many o [pa] hw hn sd, hl, hrt⟩

/-- name, and per property the same C type, stride and default; the same
property set; the same constants; the same output-array list (hdf5) -/
theorem roundtrip_meta_hdf5 (pa : PArr V) (hwf : WF pa) (o : Opts) (sd : List (String × S)) :
    ∃ f sd' q, dump .hdf5 o [pa] sd = some f ∧ load f = .ok (sd', [(pa.name, q)]) ∧
      q.name = pa.name ∧ q.outArrs = pa.outArrs ∧ q.consts.Perm pa.consts ∧
      (∀ p ∈ pa.props, ∃ p' ∈ q.props, p'.name = p.name ∧ p'.ctype = p.ctype ∧
        p'.stride = p.stride ∧ p'.default = p.default) ∧
      (∀ p' ∈ q.props, ∃ p ∈ pa.props, p.name = p'.name) ∧ (q.props.map (·.name)).Nodup := by
  obtain ⟨f, q, hd, hl, hrt⟩ := hdf5_roundtrip pa hwf o sd
  exact ⟨f, _, q, hd, hl, hrt.name, hrt.outArrs, hrt.consts, hrt.meta, hrt.noExtra, hrt.nodup⟩

/-- every stored property has the same values for the same particles: all
particles, or the `nReal` real ones when `only_real` is set (hdf5) -/
theorem roundtrip_values_hdf5 (pa : PArr V) (hwf : WF pa) (o : Opts) (sd : List (String × S)) :
    ∃ f sd' q, dump .hdf5 o [pa] sd = some f ∧ load f = .ok (sd', [(pa.name, q)]) ∧
      ∀ p ∈ pa.props, p.name ∈ storedNames pa o.detailed →
        ∃ p' ∈ q.props, p'.name = p.name ∧
          p'.data = p.data.take ((if o.onlyReal then pa.nReal else numParticles pa false) * p.stride) := by
  obtain ⟨f, q, hd, hl, hrt⟩ := hdf5_roundtrip pa hwf o sd
  exact ⟨f, _, q, hd, hl, hrt.values⟩

/-- an array without (stored) particles loads back as an array without particles (hdf5) -/
theorem empty_array_roundtrip_hdf5 (pa : PArr V) (hwf : WF pa) (o : Opts) (sd : List (String × S))
    (hempty : numParticles pa o.onlyReal = 0) :
    ∃ f sd' q, dump .hdf5 o [pa] sd = some f ∧ load f = .ok (sd', [(pa.name, q)]) ∧
      ∀ p' ∈ q.props, p'.data = [] := by
  obtain ⟨f, q, hd, hl, hrt⟩ := hdf5_roundtrip pa hwf o sd
  exact ⟨f, _, q, hd, hl, hrt.empty hempty⟩

/-- `load(dump([pa]))` through an npz file succeeds, delivers a `RoundTrip` with
the constants in their original order and solver data untouched, and
`num_real_particles` of the loaded array is the number of `Local` tags it holds
(the reader aligns). -/
theorem npz_roundtrip (pa : PArr V) (hwf : WF pa) (o : Opts) (sd : List (String × S)) :
    ∃ f q, dump .npz o [pa] sd = some f ∧
      load f = .ok (sd, [(pa.name, q)]) ∧ RoundTrip o pa q ∧ q.consts = pa.consts ∧
      (∀ t ∈ q.props, t.name = "tag" → q.nReal = countLocal t.data) := by
  have hw : ∀ q ∈ [pa], WF q := List.forall_mem_singleton.2 hwf
  have hn : ([pa].map (·.name)).Nodup := List.pairwise_singleton _ _
  obtain ⟨qs, hl, hqs⟩ := loadNpz_many [pa] hw hn o sd
  obtain ⟨⟨n, q⟩, rfl, rfl, hrt⟩ := forall2_singleton hqs
  exact ⟨_, q, dumpNpz_many o [pa] hw hn sd, hl, hrt⟩

/-- name, and per property the same C type, stride and default; the same
property set; the same constants; the same output-array list (npz) -/
theorem roundtrip_meta_npz (pa : PArr V) (hwf : WF pa) (o : Opts) (sd : List (String × S)) :
    ∃ f sd' q, dump .npz o [pa] sd = some f ∧ load f = .ok (sd', [(pa.name, q)]) ∧
      q.name = pa.name ∧ q.outArrs = pa.outArrs ∧ q.consts = pa.consts ∧
      (∀ p ∈ pa.props, ∃ p' ∈ q.props, p'.name = p.name ∧ p'.ctype = p.ctype ∧
        p'.stride = p.stride ∧ p'.default = p.default) ∧
      (∀ p' ∈ q.props, ∃ p ∈ pa.props, p.name = p'.name) ∧ (q.props.map (·.name)).Nodup := by
  obtain ⟨f, q, hd, hl, hrt, hc, _⟩ := npz_roundtrip pa hwf o sd
  exact ⟨f, _, q, hd, hl, hrt.name, hrt.outArrs, hc, hrt.meta, hrt.noExtra, hrt.nodup⟩

/-- every stored property has the same values for the same particles: all
particles, or the `nReal` real ones when `only_real` is set (npz) -/
theorem roundtrip_values_npz (pa : PArr V) (hwf : WF pa) (o : Opts) (sd : List (String × S)) :
    ∃ f sd' q, dump .npz o [pa] sd = some f ∧ load f = .ok (sd', [(pa.name, q)]) ∧
      ∀ p ∈ pa.props, p.name ∈ storedNames pa o.detailed →
        ∃ p' ∈ q.props, p'.name = p.name ∧
          p'.data = p.data.take ((if o.onlyReal then pa.nReal else numParticles pa false) * p.stride) := by
  obtain ⟨f, q, hd, hl, hrt, _, _⟩ := npz_roundtrip pa hwf o sd
  exact ⟨f, _, q, hd, hl, hrt.values⟩

/-- an array without (stored) particles loads back as an array without particles (npz) -/
theorem empty_array_roundtrip_npz (pa : PArr V) (hwf : WF pa) (o : Opts) (sd : List (String × S))
    (hempty : numParticles pa o.onlyReal = 0) :
    ∃ f sd' q, dump .npz o [pa] sd = some f ∧ load f = .ok (sd', [(pa.name, q)]) ∧
      ∀ p' ∈ q.props, p'.data = [] := by
  obtain ⟨f, q, hd, hl, hrt, _, _⟩ := npz_roundtrip pa hwf o sd
  exact ⟨f, _, q, hd, hl, hrt.empty hempty⟩

/-- compression does not change what is written (the abstract file), hence not what loads -/
theorem compress_irrelevant (fmt : Fmt) (o : Opts) (arrays : List (PArr V)) (sd : List (String × S)) :
    dump fmt { o with compress := true } arrays sd = dump fmt { o with compress := false } arrays sd := by
  cases fmt <;> rfl

/-- `load(dump(arrays))` through an hdf5 file succeeds and returns the arrays in
NAME order (the reader walks the h5 group sorted): the loaded list is, entry by
entry, the name-sorted source list with every array replaced by a `RoundTrip` of it.
Consequently the keys are a permutation of the source names, nothing is lost or
added, and every source array is found under its name. -/
theorem hdf5_roundtrip_many (arrays : List (PArr V)) (hwf : ∀ pa ∈ arrays, WF pa)
    (hnd : (arrays.map (·.name)).Nodup) (o : Opts) (sd : List (String × S)) :
    ∃ f qs, dump .hdf5 o arrays sd = some f ∧ load f = .ok (sortByName sd, qs) ∧
      List.Forall₂ (fun e r => r.1 = e.1 ∧ RoundTrip o e.2 r.2)
        (sortByName (arrays.map (fun pa => (pa.name, pa)))) qs ∧
      (qs.map (·.1)).Perm (arrays.map (·.name)) ∧ qs.length = arrays.length ∧
      (∀ pa ∈ arrays, ∃ q, (pa.name, q) ∈ qs ∧ RoundTrip o pa q) := by
  obtain ⟨qs, hl, hqs⟩ := loadH5_many arrays hwf hnd o sd
  have hperm := sortByName_perm (arrays.map (fun pa => (pa.name, pa)))
  refine ⟨_, qs, dumpHdf5_many o arrays hwf hnd sd, hl, hqs, ?_, ?_, fun pa hpa => ?_⟩
  · rw [map_of_forall2 (fun _ _ h => h.1) hqs]
    simpa [List.map_map, Function.comp_def] using hperm.map (fun e : String × PArr V => e.1)
  · rw [← hqs.length_eq, hperm.length_eq, List.length_map]
  · obtain ⟨⟨n, q⟩, he, rfl, hrt⟩ :=
      exists_mem_of_forall2 hqs (pa.name, pa) (hperm.mem_iff.2 (List.mem_map.2 ⟨pa, hpa, rfl⟩))
    exact ⟨q, he, hrt⟩

/-- `load(dump(arrays))` through an npz file succeeds, the solver data is
untouched and the loaded dictionary lists the arrays in DUMP order, each one a
`RoundTrip` of its source with the constants in their original order and
`num_real_particles` equal to the number of `Local` tags. -/
theorem npz_roundtrip_many (arrays : List (PArr V)) (hwf : ∀ pa ∈ arrays, WF pa)
    (hnd : (arrays.map (·.name)).Nodup) (o : Opts) (sd : List (String × S)) :
    ∃ f qs, dump .npz o arrays sd = some f ∧ load f = .ok (sd, qs) ∧
      qs.map (·.1) = arrays.map (·.name) ∧
      List.Forall₂ (fun pa e => e.1 = pa.name ∧ RoundTrip o pa e.2 ∧ e.2.consts = pa.consts ∧
        (∀ t ∈ e.2.props, t.name = "tag" → e.2.nReal = countLocal t.data)) arrays qs := by
  obtain ⟨qs, hl, hqs⟩ := loadNpz_many arrays hwf hnd o sd
  exact ⟨_, qs, dumpNpz_many o arrays hwf hnd sd, hl, map_of_forall2 (fun _ _ h => h.1) hqs, hqs⟩

/-- The version-1 reader (`get_particle_array(name=…, **arrays)`) returns what
`dump_v1` wrote when the STORED properties all have stride 1 (the format has no
place for a stride: with a strided stored property and at least one particle the
reader raises, see the example below).
`V1Loaded`: every stored property comes back under its name with exactly the
stored slice as data; all sixteen default properties exist; nothing else
appears; C type, stride (1) and default of every loaded property are functions
of its NAME (`v1CType`, `v1Dflt` — the source's are not in the file); there are
no constants; the output list is the fixed `v1OutArrs`; all loaded properties
have one common length (0 or the stored particle count); `num_real_particles`
is the number of `Local` tags. -/
theorem v1_loads (pa : PArr V) (hwf : WF pa) (o : Opts) (sd : List (String × S))
    (hs1 : ∀ p ∈ pa.props, p.name ∈ storedNames pa o.detailed → p.stride = 1) :
    ∃ f q, dumpV1 o [pa] sd = some f ∧ load f = .ok (sd, [(pa.name, q)]) ∧ V1Loaded o pa q := by
  have hw : ∀ q ∈ [pa], WF q := List.forall_mem_singleton.2 hwf
  have hn : ([pa].map (·.name)).Nodup := List.pairwise_singleton _ _
  obtain ⟨qs, hl, hqs⟩ := loadV1_many [pa] hw hn o sd
    (List.forall_mem_singleton.2 hs1)
  obtain ⟨⟨n, q⟩, rfl, rfl, hv⟩ := forall2_singleton hqs
  exact ⟨_, q, dumpV1_many o [pa] hw hn sd, hl, hv⟩

/-- the same for a version-1 file holding any list of arrays with distinct
names: they come back in dump order, solver data untouched -/
theorem v1_loads_many (arrays : List (PArr V)) (hwf : ∀ pa ∈ arrays, WF pa)
    (hnd : (arrays.map (·.name)).Nodup) (o : Opts) (sd : List (String × S))
    (hs1 : ∀ pa ∈ arrays, ∀ p ∈ pa.props, p.name ∈ storedNames pa o.detailed → p.stride = 1) :
    ∃ f qs, dumpV1 o arrays sd = some f ∧ load f = .ok (sd, qs) ∧
      qs.map (·.1) = arrays.map (·.name) ∧
      List.Forall₂ (fun pa e => e.1 = pa.name ∧ V1Loaded o pa e.2) arrays qs := by
  obtain ⟨qs, hl, hqs⟩ := loadV1_many arrays hwf hnd o sd hs1
  exact ⟨_, qs, dumpV1_many o arrays hwf hnd sd, hl, map_of_forall2 (fun _ _ h => h.1) hqs, hqs⟩

/-- whenever a written file loads, the solver data that comes back is the
solver data that went in: identical for npz, the same dictionary in name
order for hdf5 -/
theorem solver_data_roundtrip (fmt : Fmt) (o : Opts) (arrays : List (PArr V))
    (sd : List (String × S)) (f : File V S) (hd : dump fmt o arrays sd = some f)
    (sd' : List (String × S)) (as : List (String × PArr V)) (hl : load f = .ok (sd', as)) :
    sd'.Perm sd ∧ (fmt = .npz → sd' = sd) := by
  have h := load_dump_solverData fmt o arrays sd f hd sd' as hl
  cases fmt with
  | npz => exact ⟨h ▸ .refl _, fun _ => h⟩
  | hdf5 => exact ⟨h ▸ sortByName_perm sd, nofun⟩

/-! ## non-vacuity: a concrete well-formed array and what the model computes for it -/

instance : PVal Nat := ⟨0, 4294967295⟩

instance (n : String) : Decidable (isBase n) := by unfold isBase; infer_instance

/-- the value of a successful `load (dump …)` -/
def okOf {α : Type} : Option (Except String α) → Option α
  | some (.ok a) => some a
  | _ => none

/-- three particles (two real, one ghost), a strided property, an integer
property with default 7 that is NOT in the output list -/
def exArr : PArr Nat :=
  { name := "f",
    props := [⟨"tag", .int, 1, 0, [0, 0, 2]⟩, ⟨"pid", .int, 1, 0, [0, 0, 0]⟩,
              ⟨"gid", .uint, 1, 4294967295, [1, 2, 3]⟩, ⟨"x", .double, 1, 0, [5, 6, 7]⟩,
              ⟨"A", .double, 2, 7, [1, 2, 3, 4, 5, 6]⟩, ⟨"k", .int, 1, 7, [1, 1, 1]⟩],
    consts := [⟨"c", .double, [1, 2]⟩], outArrs := ["x", "A"], nReal := 2 }

example : WF exArr := by
  decide +kernel

/-- brief hdf5 output of the real particles: `k` is not written, yet comes back
with type int, default 7 and (two particles) the data `[7, 7]`; `A` keeps its
stride and the first `2 × 2` values -/
example : okOf ((dump .hdf5 ⟨false, true, false⟩ [exArr] [("t", 1)]).map load) =
    some (([("t", 1)], [("f",
      { name := "f",
        props := [⟨"tag", .int, 1, 0, [0, 0]⟩, ⟨"pid", .int, 1, 0, [0, 0]⟩,
                  ⟨"gid", .uint, 1, 4294967295, [4294967295, 4294967295]⟩,
                  ⟨"A", .double, 2, 7, [1, 2, 3, 4]⟩, ⟨"k", .int, 1, 7, [7, 7]⟩,
                  ⟨"x", .double, 1, 0, [5, 6]⟩],
        consts := [⟨"c", .double, [1, 2]⟩], outArrs := ["x", "A"], nReal := 2 })])) := by
  decide +kernel

/-- a second array for the same file: other name, empty output list (so every
property is written) -/
def exArrB : PArr Nat := { exArr with name := "b", outArrs := [] }

example : (∀ pa ∈ [exArr, exArrB], WF pa) ∧ ([exArr, exArrB].map (·.name)).Nodup := by
  decide +kernel

/-- two arrays dumped as `[f, b]` to hdf5 come back as `[b, f]` (name order);
`b` had every property written, `f` only `x` and `A` -/
example : okOf ((dump .hdf5 ⟨false, true, false⟩ [exArr, exArrB] [("t", 1)]).map load) =
    some (([("t", 1)], [("b",
      { name := "b",
        props := [⟨"tag", .int, 1, 0, [0, 0]⟩, ⟨"pid", .int, 1, 0, [0, 0]⟩,
                  ⟨"gid", .uint, 1, 4294967295, [1, 2]⟩,
                  ⟨"A", .double, 2, 7, [1, 2, 3, 4]⟩, ⟨"k", .int, 1, 7, [1, 1]⟩,
                  ⟨"x", .double, 1, 0, [5, 6]⟩],
        consts := [⟨"c", .double, [1, 2]⟩], outArrs := [], nReal := 2 }), ("f",
      { name := "f",
        props := [⟨"tag", .int, 1, 0, [0, 0]⟩, ⟨"pid", .int, 1, 0, [0, 0]⟩,
                  ⟨"gid", .uint, 1, 4294967295, [4294967295, 4294967295]⟩,
                  ⟨"A", .double, 2, 7, [1, 2, 3, 4]⟩, ⟨"k", .int, 1, 7, [7, 7]⟩,
                  ⟨"x", .double, 1, 0, [5, 6]⟩],
        consts := [⟨"c", .double, [1, 2]⟩], outArrs := ["x", "A"], nReal := 2 })])) := by
  decide +kernel

/-- through npz the same two arrays keep the dump order -/
example : (okOf ((dump .npz ⟨false, false, false⟩ [exArr, exArrB] [("t", 1)]).map load)).map
    (fun r => r.2.map (·.1)) = some ["f", "b"] := by
  decide +kernel

/-- an array whose stored properties (`x`, `k`, `tag`) all have stride 1 -/
def exArrV1 : PArr Nat := { exArr with outArrs := ["x", "k", "tag"] }

example : WF exArrV1 ∧
    ∀ p ∈ exArrV1.props, p.name ∈ storedNames exArrV1 false → p.stride = 1 := by
  decide +kernel

/-- version 1: `x`, `k`, `tag` come back with their values; `k` (int, default 7
in the source) comes back as double with default 0; `gid`/`pid` and the other default
properties are filled in; the strided `A` and the constant `c` are gone -/
example : okOf ((dumpV1 ⟨false, false, false⟩ [exArrV1] [("t", 1)]).map load) =
    some (([("t", 1)], [("f",
      { name := "f",
        props := [⟨"tag", .int, 1, 0, [0, 0, 2]⟩, ⟨"pid", .int, 1, 0, [0, 0, 0]⟩,
                  ⟨"gid", .uint, 1, 4294967295, [4294967295, 4294967295, 4294967295]⟩,
                  ⟨"x", .double, 1, 0, [5, 6, 7]⟩, ⟨"k", .double, 1, 0, [1, 1, 1]⟩,
                  ⟨"y", .double, 1, 0, [0, 0, 0]⟩, ⟨"z", .double, 1, 0, [0, 0, 0]⟩,
                  ⟨"u", .double, 1, 0, [0, 0, 0]⟩, ⟨"v", .double, 1, 0, [0, 0, 0]⟩,
                  ⟨"w", .double, 1, 0, [0, 0, 0]⟩, ⟨"m", .double, 1, 0, [0, 0, 0]⟩,
                  ⟨"h", .double, 1, 0, [0, 0, 0]⟩, ⟨"rho", .double, 1, 0, [0, 0, 0]⟩,
                  ⟨"p", .double, 1, 0, [0, 0, 0]⟩, ⟨"au", .double, 1, 0, [0, 0, 0]⟩,
                  ⟨"av", .double, 1, 0, [0, 0, 0]⟩, ⟨"aw", .double, 1, 0, [0, 0, 0]⟩],
        consts := [], outArrs := v1OutArrs, nReal := 2 })])) := by
  decide +kernel

/-- why `v1_loads` asks for stride 1: with the strided `A` among the stored
properties (3 particles) the version-1 reader raises (`ValueError`, sizes) -/
example : okOf ((dumpV1 ⟨false, false, false⟩ [exArr] [("t", 1)]).map load) = none := by
  decide +kernel

end PysphVerif.C11
