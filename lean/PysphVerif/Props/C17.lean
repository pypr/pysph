import PysphVerif.Lemmas.Reorder
/-!
# C17 — spatial re-ordering is a pure permutation of whole particles

Property theorems about `Model/Reorder.lean`, which transcribes `get_spatially_ordered_indices`
of the five traversal families (8 classes), cyarray's `c_align_array`,
`ParticleArray.align_particles` and `NNPS.spatially_order_particles`, and is
tied to the code by exact differential execution (`harness/c17.py`).

Quantification: every assignment of particles to cells / keys / octants
(with the range condition the geometry guarantees, stated per theorem), every
number of particles, every particle array (any number of properties, any
strides, any tags), every index permutation, every history of re-orderings,
also with arbitrary edits of the array (particles / properties added and
removed) between them.

`spatiallyOrderOrig` is `spatially_order_particles` as shipped, `spatiallyOrder` the
repaired code (proposed_fixes/C17-reorder-align.diff).
-/
namespace PysphVerif.C17
open PysphVerif.Reorder List

/-- LinkedListNNPS / BoxSortNNPS: cells in ascending order, inside a cell
the most recently binned particle first — whatever the cell assignment. -/
theorem ordered_indices_eq_LinkedList (cid : Nat → Nat) (ncells n : Nat) :
    llOrder cid ncells n =
      (range ncells).flatMap (fun c => ((range n).filter (fun i => cid i == c)).reverse) :=
  llOrder_eq cid ncells n

/-- … a permutation of `0..n-1` exactly when every particle's cell index is
inside the `head` array (each particle in exactly one bucket, each bucket
visited once). -/
theorem ordered_indices_perm_LinkedList (cid : Nat → Nat) (ncells n : Nat) :
    llOrder cid ncells n ~ range n ↔ ∀ i, i < n → cid i < ncells := by
  constructor
  · intro hp i hi
    have := (llOrder_perm_filter cid ncells n).mem_iff.mp (hp.mem_iff.mpr (mem_range.mpr hi))
    exact of_decide_eq_true (mem_filter.mp this).2
  · intro hc
    exact (llOrder_perm_filter cid ncells n).trans (Perm.of_eq
      (filter_eq_self.mpr fun i hi => decide_eq_true (hc i (mem_range.mp hi))))

example : llOrder (fun i => [0, 2, 0, 1, 2].getD i 0) 3 5 = [2, 0, 3, 4, 1] := by decide +kernel

/-- finding `C17:ll-coincident-lowdim` in the model: one particle in a 2D
problem binned (by the padded z extent) into cell 13 of 9 — the list is empty. -/
theorem ordered_indices_LinkedList_out_of_range_counterexample :
    ¬ (llOrder (fun _ => 13) 9 1 ~ range 1) := by
  rw [ordered_indices_perm_LinkedList]
  intro h; exact absurd (h 0 (by omega)) (by omega)

/-- ZOrderNNPS / ExtendedZOrderNNPS / StratifiedSFCNNPS: `pids` is `0..n-1`
sorted by key — for *any* sorting routine that permutes its input
(`std::sort`'s contract), whatever the keys. -/
theorem ordered_indices_perm_ZOrder_any_sort (srt : List Nat → List Nat)
    (hsrt : ∀ l, srt l ~ l) (n : Nat) : srt (range n) ~ range n := hsrt _

/-- … and for the executable model (stable merge sort by key). -/
theorem ordered_indices_perm_ZOrder (key : Nat → Nat) (n : Nat) : sortOrder key n ~ range n :=
  mergeSort_perm _ _

/-- the keys are non-decreasing along the list (it *is* the spatial order) -/
theorem ordered_indices_sorted_ZOrder (key : Nat → Nat) (n : Nat) :
    (sortOrder key n).Pairwise (fun a b => key a ≤ key b) := by
  have := pairwise_mergeSort (le := keyLe key)
    (fun a b c h1 h2 => by simp only [keyLe, decide_eq_true_eq] at *; omega)
    (fun a b => by simp only [keyLe, Bool.or_eq_true, decide_eq_true_eq]; omega) (range n)
  simpa [keyLe, sortOrder] using this

-- (unconditional; the driver evaluates `sort key=5,1,5,0` to `3,1,0,2` — `mergeSort` is defined by
-- well-founded recursion and does not reduce under `decide`)
example : (sortOrder (fun i => [5, 1, 5, 0].getD i 0) 4).length = 4 :=
  (ordered_indices_perm_ZOrder _ 4).length_eq.trans (by simp)

/-- CellIndexingNNPS: the particle id travels in the low `I` bits of the
sorted 32-bit key; the ids read back are a permutation as long as
`n ≤ 2^I` (`I = ⌊1 + log2 n⌋`) and `I ≤ 32` — even when the cell part
overflows 32 bits. -/
theorem ordered_indices_perm_CellIndexing (I : Nat) (cell : Nat → Nat) (n : Nat)
    (hI : I ≤ 32) (hn : n ≤ 2 ^ I) : ciOrder I cell n ~ range n := by
  refine ((mergeSort_perm _ natLe).map (ciId I)).trans (Perm.of_eq ?_)
  rw [map_map]
  exact (map_congr_left fun a ha =>
    ciId_ciKey I cell a hI (Nat.lt_of_lt_of_le (mem_range.mp ha) hn)).trans (map_id _)

-- hypotheses met by a non-trivial instance (5 particles, `I = ⌊1 + log2 5⌋ = 3`)
example : 3 ≤ 32 ∧ 5 ≤ 2 ^ 3 := by decide
example : ciId 3 (ciKey 3 (fun _ => 2 ^ 31) 4) = 4 := by decide

/-- OctreeNNPS / CompressedOctreeNNPS: `pids` (leaves in depth-first octant
order) is a permutation of the particles handed to the builder, for every
octant classifier with values `< 8`, every leaf size, every stopping rule and
every recursion depth. -/
theorem ordered_indices_perm_Octree (leafMax : Nat) (digit : Nat → Nat → Nat)
    (stop : List Nat → Bool) (hd : ∀ d q, digit d q < 8) (fuel n : Nat) :
    octOrder leafMax digit stop fuel n ~ range n :=
  octBuild_perm leafMax digit stop hd fuel [] (range n)

example : octOrder 2 (fun d q => ([[0, 1], [1], [0, 0], [1]].getD q []).getD d 0)
    (fun p => p == [1]) 5 4 = [2, 0, 1, 3] := by decide +kernel

variable {α : Type} [Inhabited α]

/-- **rows stay together**: element `i·s+k` of the result is element
`idx[i]·s+k` of the source, for every stride `s`, row `i` and component
`k < s` (no hypothesis on `idx`). -/
theorem gather_keeps_rows_together (idx : List Nat) (s : Nat) (data : List α) (i k : Nat)
    (hi : i < data.length / s) (hk : k < s) :
    (gather idx s data).getD (i * s + k) default = data.getD (idx.getD i i * s + k) default :=
  gather_getD idx s data i k hi hk

theorem gather_preserves_length (idx : List Nat) (s : Nat) (data : List α) :
    (gather idx s data).length = data.length := gather_length idx s data

/-- **multiset of rows preserved**: gathering through a permutation of the
row numbers permutes the rows (each a block of `s` elements). -/
theorem gather_perm_preserves_multiset (idx : List Nat) (s : Nat) (data : List α)
    (hp : idx ~ range (data.length / s)) : rowsOf s (gather idx s data) ~ rowsOf s data := by
  rw [rowsOf_gather idx s data (hp.length_eq.trans length_range)]
  exact hp.map _

example : gather [2, 0, 1] 2 [1, 2, 3, 4, 5, 6, (7 : Int)] = [5, 6, 1, 2, 3, 4, 7] := by decide +kernel

/-- after `spatially_order_particles` (shipped or repaired) the particles —
each with its values in *all* properties, strided ones included — are a
permutation of the particles before. -/
theorem reorder_preserves_particles_orig (idx : List Nat) (pa : PA) (hwf : pa.wf = true)
    (hp : idx ~ range pa.n) : (spatiallyOrderOrig idx pa).particles ~ pa.particles :=
  particles_gatherAll_perm pa idx hwf hp

theorem reorder_preserves_particles (idx : List Nat) (pa : PA) (hwf : pa.wf = true)
    (hp : idx ~ range pa.n) : (spatiallyOrder idx pa).particles ~ pa.particles :=
  particles_fixed_perm idx pa hwf hp

/-- particle `i` of the re-ordered array (shipped code) is the old particle
`idx[i]`, whole. -/
theorem reorder_moves_whole_particles (idx : List Nat) (pa : PA) (hwf : pa.wf = true)
    (hl : idx.length = pa.n) : (spatiallyOrderOrig idx pa).particles = idx.map pa.particle :=
  particles_gatherAll pa idx hwf hl

/-- the property's clause, as a statement about a re-ordering routine `f` -/
def RealFirstAfterReorder (f : List Nat → PA → PA) : Prop :=
  ∀ (idx : List Nat) (pa : PA), pa.wf = true → pa.realFirst = true → idx ~ range pa.n →
    (f idx pa).realFirst = true

def cexPA : PA :=
  { props := [⟨"tag", 1, [0, 2]⟩, ⟨"A", 2, [10, 11, 20, 21]⟩], nReal := 1 }

/-- **F6**: the shipped `spatially_order_particles` violates it — Local, Ghost
re-ordered by `[1, 0]` leaves the ghost in slot 0 with `num_real_particles = 1`. -/
theorem real_first_after_reorder_orig_counterexample : ¬ RealFirstAfterReorder spatiallyOrderOrig := by
  intro h
  exact absurd (h [1, 0] cexPA (by decide +kernel) (by decide +kernel) (by decide +kernel))
    (by decide +kernel)

/-- what does hold for the shipped code: arrays without non-Local tags -/
theorem real_first_after_reorder_orig_partial (idx : List Nat) (pa : PA) (hwf : pa.wf = true)
    (hall : ∀ t ∈ pa.tags, t = localTag) (hn : pa.nReal = pa.n) (hp : idx ~ range pa.n) :
    (spatiallyOrderOrig idx pa).realFirst = true := by
  -- the tags afterwards are the old tags read through `idx`: all Local, none left over
  have hl : idx.length = pa.tags.length := hp.length_eq.trans length_range
  have htags : (spatiallyOrderOrig idx pa).tags =
      idx.map (fun i => pa.tags.getD i default) ++ [] := by
    rw [append_nil]; exact (tags_gatherAll pa idx hwf).trans (gather_one idx pa.tags hl)
  refine realFirst_of_split htags (hn.trans (hl.symm.trans (length_map _).symm)) (fun t ht => ?_)
    (fun _ h => nomatch h)
  obtain ⟨x, hx, rfl⟩ := mem_map.mp ht
  have hx' : x < pa.tags.length := mem_range.mp (hp.mem_iff.mp hx)
  rw [getD_eq_getElem?_getD, getElem?_eq_getElem hx']
  exact beq_iff_eq.mpr (hall _ (getElem_mem hx'))

/-- **real particles first after the (repaired) re-ordering** — every array,
every tag pattern, every index list (no hypothesis on `idx` at all). -/
theorem real_first_after_reorder (idx : List Nat) (pa : PA) (hwf : pa.wf = true) :
    (spatiallyOrder idx pa).realFirst = true :=
  realFirst_fixed idx pa hwf

theorem real_first_after_reorder_full : RealFirstAfterReorder spatiallyOrder :=
  fun idx pa hwf _ _ => real_first_after_reorder idx pa hwf

/-- `num_real_particles` afterwards is the number of Local tags -/
theorem num_real_after_reorder (idx : List Nat) (pa : PA) :
    (spatiallyOrder idx pa).nReal = countLocal (spatiallyOrderOrig idx pa).tags := by
  rw [spatiallyOrder, nReal_align_eq, alignIndex_next]

example : spatiallyOrder [1, 0] cexPA =
    { props := [⟨"tag", 1, [0, 2]⟩, ⟨"A", 2, [10, 11, 20, 21]⟩], nReal := 1 } := by decide +kernel

example : (spatiallyOrder [2, 0, 1]
    { props := [⟨"tag", 1, [0, 0, 2]⟩, ⟨"A", 2, [1, 2, 3, 4, 5, 6]⟩], nReal := 2 }).realFirst = true := by
  decide +kernel

/-- any history of re-orderings of one array (each by some permutation of its
slots, e.g. the ordered indices of any of the classes above after any motion
of the particles) keeps the multiset of whole particles, the shape of the
array, the particle count, and leaves the real particles first. -/
theorem repeated_reordering (idxs : List (List Nat)) (pa : PA) (hwf : pa.wf = true)
    (h : ∀ idx ∈ idxs, idx ~ range pa.n) (h0 : idxs = [] → pa.realFirst = true) :
    (reorderHistory idxs pa).particles ~ pa.particles ∧ (reorderHistory idxs pa).wf = true ∧
    (reorderHistory idxs pa).n = pa.n ∧ (reorderHistory idxs pa).realFirst = true := by
  induction idxs generalizing pa with
  | nil => exact ⟨Perm.refl _, hwf, rfl, h0 rfl⟩
  | cons idx rest ih =>
    obtain ⟨hp, -, hn, hw, hr⟩ := reorderGood_fixed idx pa hwf (h idx mem_cons_self)
    obtain ⟨a, b, c, d⟩ := ih (spatiallyOrder idx pa) hw
      (fun i hi => by rw [hn]; exact h i (mem_cons_of_mem _ hi)) (fun _ => hr)
    exact ⟨a.trans hp, b, c.trans hn, d⟩

example : (reorderHistory [[1, 0, 2], [2, 1, 0]]
    { props := [⟨"tag", 1, [0, 0, 2]⟩, ⟨"A", 2, [1, 2, 3, 4, 5, 6]⟩], nReal := 2 }) =
    { props := [⟨"tag", 1, [0, 0, 2]⟩, ⟨"A", 2, [1, 2, 3, 4, 5, 6]⟩], nReal := 2 } := by decide +kernel

/-! Histories on ONE search structure, the array being edited between the re-orderings.
`spatiallyOrder idx pa` reads the array as it is when the re-order runs:
`pa.props` are the properties it has *then* (also those added after the search
structure was made), `pa.n` the particle count it has *then*.  So
`reorder_preserves_particles` / `reorder_moves_whole_particles` /
`real_first_after_reorder`, which quantify over every `pa`, already cover a
re-order after any edit; there is no NNPS-object state in the model in which a
property list or a count of construction time could survive (the code has
such state: `NNPSParticleArrayWrapper` — that the code does not *use* it in
the re-order is what the harness's edit histories test, and what the seeded defects
C17-A2 and C17-B2 of DESIGN §12.2 break).
`history_with_edits` spells the consequence out. -/

/-- the gather visits exactly the properties the array has at the time of the
re-order, in their order -/
theorem reorder_gathers_current_properties (idx : List Nat) (pa : PA) :
    (spatiallyOrder idx pa).names = pa.names := names_fixed idx pa

/-- any life of an array — re-orders interleaved with arbitrary edits
(`add_particles`, `remove_particles`, ghosts made by a domain manager,
`add_property`, `ensure_properties`, `remove_property`, motion; anything that
leaves a well-formed array), each re-order using a permutation of the slots
the array has at that time: **every** re-order keeps the multiset of whole
particles over the properties the array has then, the property list, the
count, and leaves the real particles first. -/
theorem history_with_edits (evs : List Event) (pa : PA) (hwf : pa.wf = true)
    (h : Admissible pa evs) : EveryReorderGood pa evs :=
  (everyReorderGood_of_admissible evs pa hwf h).1

def histPA : PA :=
  { props := [⟨"tag", 1, [0, 2, 0]⟩, ⟨"oid", 1, [0, 1, 2]⟩], nReal := 2 }

/-- `add_particles`: one more Local particle, value 7 in every component of
every other property -/
def histAddCol (c : Col) : Col :=
  { c with data := c.data ++ List.replicate c.stride (if c.name == "tag" then 0 else 7) }

def histAdd (pa : PA) : PA := { pa with props := pa.props.map histAddCol }

def histEvents : List Event :=
  [.reorder [2, 0, 1], .edit (addProp "V" 2 [0, 1, 20, 21, 10, 11]), .reorder [1, 0, 2],
   .edit histAdd, .reorder [3, 2, 1, 0]]

-- a non-trivial admissible history: a strided property is added after the first
-- re-order, a particle after the second
example : histPA.wf = true ∧ Admissible histPA histEvents := by
  refine ⟨by decide +kernel, by decide +kernel, by decide +kernel, by decide +kernel, by decide +kernel, by decide +kernel, trivial⟩

example : runEvents histPA histEvents =
    { props := [⟨"tag", 1, [0, 0, 0, 2]⟩, ⟨"oid", 1, [7, 2, 0, 1]⟩,
                ⟨"V", 2, [7, 7, 0, 1, 20, 21, 10, 11]⟩], nReal := 3 } := by decide +kernel

/-- the seeded defect C17-B2 (DESIGN §12.2) in the model: gathering only a property list
remembered from construction time tears a later property off its particle. -/
theorem stale_property_list_counterexample :
    ¬ ∀ (cached : List String) (idx : List Nat) (pa : PA), pa.wf = true → idx ~ range pa.n →
        (spatiallyOrderCached cached idx pa).particles ~ pa.particles := by
  intro h
  exact absurd (h ["tag", "oid"] [1, 0]
    { props := [⟨"tag", 1, [0, 0]⟩, ⟨"oid", 1, [0, 1]⟩, ⟨"T", 1, [10, 20]⟩], nReal := 2 }
    (by decide +kernel) (by decide +kernel)) (by decide +kernel)

/-- the seeded defect C17-A2 (DESIGN §12.2) in the model: an index list made for the particle
count `n₀` of construction time is not a permutation of the slots of an array that
has `n ≠ n₀` particles now — whatever the keys. -/
theorem stale_particle_count_counterexample (key : Nat → Nat) (n₀ n : Nat) (hne : n₀ ≠ n) :
    ¬ (sortOrder key n₀ ~ range n) := by
  intro h
  have h1 := (ordered_indices_perm_ZOrder key n₀).length_eq
  have h2 := h.length_eq
  simp only [length_range] at h1 h2
  omega

/-! ## neighbour queries after the following update

`reorder_then_update_exact` is not a theorem of this file: after the gather
the array is just another particle array (same multiset of particles, real
ones first), and exactness of the search on *every* array is C01's theorem.
Here it is an oracle test on the real code (brute force, every run). -/

end PysphVerif.C17
