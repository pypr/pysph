import Mathlib.Analysis.SpecialFunctions.Gaussian.GaussianIntegral
import PysphVerif.Lemmas.KernelIntegral
import PysphVerif.Lemmas.KernelWrapper
import PysphVerif.Gen.Kernels
import PysphVerif.Gen.KernelWrapper
/-!
# C08 — every SPH kernel is normalised, compactly supported and self-consistent

`Gen/Kernels.lean` is regenerated on every run from `pysph/base/kernels.py`
(one table per kernel class and admissible dimension, `all`).  The theorems
below quantify over EVERY table in `all`, every `h > 0`, every `r` (real
numbers), and are about the real functions the tables denote
(`Lemmas/Kernel.lean`: `W`, `dwdq`, `gradH`, `gradient`).

Each is obtained from an executable check on the rational tables, discharged
here by `decide +kernel` (the `table_…` theorems — these are what break when a
coefficient, a power of `h`, a breakpoint or `fac` changes in the source), and a
soundness lemma proved once for all tables.
-/
namespace PysphVerif.C08
open PysphVerif.Kernel PysphVerif.Poly PysphVerif.Gen.Kernels Set

/-- pieces are consecutive from `q = 0` to `radius_scale`; dimensions are 1–3;
`kernel` and `dwdq` scale as `h^-dim`; `fac > 0` -/
theorem table_wellformed : ∀ K ∈ all, chainOk K = true ∧ 1 ≤ K.dim ∧ K.dim ≤ 3 ∧
    K.hpowW = K.dim ∧ K.hpowDw = K.dim ∧ 0 < K.facQ ∧ 0 < K.rmin := by decide +kernel

/-- beyond the last breakpoint every polynomial is zero, and a piece that is
closed at the edge vanishes there (value and `dwdq`) -/
theorem table_support : ∀ K ∈ all, supportOk K = true := by decide +kernel

/-- the `dwdq` coefficient lists are the formal derivatives of the `kernel`
lists (with the `exp(-q²)` product rule for the Gaussian family) -/
theorem table_dwdq_is_derivative : ∀ K ∈ all, derivOk K = true := by decide +kernel

/-- `gradient_h = −fac·h^-(d+1)·(d·w + q·w')`, coefficient-wise -/
theorem table_gradh : ∀ K ∈ all, gradhOk K = true := by decide +kernel

/-- sign certificate: `dwdq ≤ 0` on every piece and no upward jump (super-Gaussian exempt) -/
theorem table_dw_nonpos : ∀ K ∈ all, K.name ≠ "SuperGaussian" → signOk K = true := by
  decide +kernel

/-- spline and Wendland families: value and first derivative match at every
breakpoint and vanish at the support edge (the Gaussian family is truncated) -/
theorem table_pieces_C1 : ∀ K ∈ all, K.gauss = false → c1Ok K = true := by decide +kernel

/-- the `rij ≤ 1e-12` guard returns zero -/
theorem table_origin : ∀ K ∈ all, originOk K = true := by decide +kernel

/-- `grad[i] = wdash · h⁻¹ · rij⁻¹ · xij[i]` -/
theorem table_gradient_shape : ∀ K ∈ all, gradOk K = true := by decide +kernel

/-- polynomial kernels: `S_d · fac · Σ_pieces ∫ q^(d-1) w(q) dq = 1` exactly, the
powers of π cancelling (`S_1 = 2, S_2 = 2π, S_3 = 4π`) -/
theorem table_normalised : ∀ K ∈ all, K.gauss = false → normOk K = true := by decide +kernel

/-- Gaussian family: `fac = π^(-d/2)` -/
theorem table_gauss_fac : ∀ K ∈ all, K.gauss = true → gaussFacOk K = true := by decide +kernel

/-- **support**: kernel, `dwdq` and all three gradient components vanish for
`r ≥ radius_scale · h`. -/
theorem support (K : KTable) (hK : K ∈ all) (r h : ℝ) (hh : 0 < h)
    (hr : (K.radius : ℝ) * h ≤ r) :
    W K r h = 0 ∧ dwdq K r h = 0 ∧
      ∀ x0 x1 x2 : ℝ, gradient K 0 x0 x1 x2 r h = 0 ∧ gradient K 1 x0 x1 x2 r h = 0 ∧
        gradient K 2 x0 x1 x2 r h = 0 := by
  obtain ⟨h1, h2⟩ := W_support (table_support K hK) hh hr
  refine ⟨h1, h2, ?_⟩
  intro x0 x1 x2
  by_cases hr0 : (K.rmin : ℝ) < r
  · obtain ⟨g0, g1, g2⟩ := gradient_shape (table_gradient_shape K hK) hr0 x0 x1 x2 h
    rw [g0, g1, g2, h2]; simp
  · rw [not_lt] at hr0
    have g := fun i => gradient_origin (table_origin K hK) hr0 i x0 x1 x2 h
    exact ⟨g 0, g 1, g 2⟩

/-- **dwdq is the derivative of the kernel's shape function** at every `q` that is
not a breakpoint. -/
theorem dwdq_is_derivative (K : KTable) (hK : K ∈ all) (q : ℝ)
    (hq : ∀ p ∈ K.pieces, q ≠ (p.hi : ℝ)) : HasDerivAt (wR K) (dwR K q) q :=
  wR_hasDerivAt (table_dwdq_is_derivative K hK) hq

/-- **dwdq is `h` times `dW/dr`** (for `r` above the `1e-12` guard, `r/h` not a breakpoint). -/
theorem dwdq_is_h_dWdr (K : KTable) (hK : K ∈ all) (r h : ℝ) (hr : (K.rmin : ℝ) < r)
    (hq : ∀ p ∈ K.pieces, r * h⁻¹ ≠ (p.hi : ℝ)) :
    HasDerivAt (fun r' => W K r' h) (dwdq K r h * h⁻¹) r := by
  obtain ⟨_, _, _, hw, hd, _, _⟩ := table_wellformed K hK
  exact W_hasDerivAt_r (hw.trans hd.symm) hr (dwdq_is_derivative K hK _ hq)

/-- **gradient_h is `dW/dh`** (`r/h` not a breakpoint). -/
theorem gradh_is_dW_dh (K : KTable) (hK : K ∈ all) (r h : ℝ) (hh : 0 < h)
    (hq : ∀ p ∈ K.pieces, r * h⁻¹ ≠ (p.hi : ℝ)) :
    HasDerivAt (fun h' => W K r h') (gradH K r h) h :=
  W_hasDerivAt_h (table_gradh K hK) hh.ne' (dwdq_is_derivative K hK _ hq)

/-- **gradient shape**: above the guard the gradient is `dwdq · h⁻¹ / r · xij`, i.e.
`dW/dr` times the unit separation vector. -/
theorem gradient_is_dwdq_times_unit_vector (K : KTable) (hK : K ∈ all) (r h x0 x1 x2 : ℝ)
    (hr : (K.rmin : ℝ) < r) :
    gradient K 0 x0 x1 x2 r h = dwdq K r h * h⁻¹ / r * x0 ∧
    gradient K 1 x0 x1 x2 r h = dwdq K r h * h⁻¹ / r * x1 ∧
    gradient K 2 x0 x1 x2 r h = dwdq K r h * h⁻¹ / r * x2 :=
  gradient_shape (table_gradient_shape K hK) hr x0 x1 x2 h

/-- **gradient is zero at (and within `1e-12` of) `r = 0`**. -/
theorem gradient_zero_at_origin (K : KTable) (hK : K ∈ all) (r h x0 x1 x2 : ℝ)
    (hr : r ≤ (K.rmin : ℝ)) (i : ℕ) :
    dwdq K r h = 0 ∧ gradient K i x0 x1 x2 r h = 0 :=
  ⟨dwdq_origin (table_origin K hK) hr h, gradient_origin (table_origin K hK) hr i x0 x1 x2 h⟩

theorem facR_pos (K : KTable) (hK : K ∈ all) : 0 < facR K :=
  Kernel.facR_pos (table_wellformed K hK).2.2.2.2.2.1

/-- **non-increasing in `r`** (every kernel except the super-Gaussian, at every `h > 0`),
across all breakpoints and the truncation edge. -/
theorem kernel_nonincreasing (K : KTable) (hK : K ∈ all) (hn : K.name ≠ "SuperGaussian")
    (h : ℝ) (hh : 0 < h) : AntitoneOn (fun r => W K r h) (Ici (0 : ℝ)) := by
  obtain ⟨hc, _, _, _, _, hf, _⟩ := table_wellformed K hK
  exact W_antitoneOn hf (wR_antitone hc (table_support K hK) (table_dwdq_is_derivative K hK)
    (table_dw_nonpos K hK hn)) hh

/-- **non-negative** (every kernel except the super-Gaussian). -/
theorem kernel_nonneg (K : KTable) (hK : K ∈ all) (hn : K.name ≠ "SuperGaussian")
    (r h : ℝ) (hh : 0 < h) (hr : 0 ≤ r) : 0 ≤ W K r h :=
  W_nonneg (table_support K hK) hh (kernel_nonincreasing K hK hn h hh) hr

/-- `dwdq` is the derivative of the shape function at EVERY `q` (breakpoints and the support
edge included) for the polynomial (spline and Wendland) tables. -/
theorem dwdq_is_derivative_everywhere (K : KTable) (hK : K ∈ all) (hg : K.gauss = false)
    (q : ℝ) : HasDerivAt (wR K) (dwR K q) q :=
  wR_hasDerivAt_C1 (table_wellformed K hK).1 (table_dwdq_is_derivative K hK)
    (table_pieces_C1 K hK hg) q

/-- … hence `dwdq` is `h` times `dW/dr` at every `r` above the guard … -/
theorem dwdq_is_h_dWdr_everywhere (K : KTable) (hK : K ∈ all) (hg : K.gauss = false) (r h : ℝ)
    (hr : (K.rmin : ℝ) < r) : HasDerivAt (fun r' => W K r' h) (dwdq K r h * h⁻¹) r := by
  obtain ⟨_, _, _, hw, hd, _, _⟩ := table_wellformed K hK
  exact W_hasDerivAt_r (hw.trans hd.symm) hr (dwdq_is_derivative_everywhere K hK hg _)

/-- … and `gradient_h` is `dW/dh` at every `r` and every `h > 0`. -/
theorem gradh_is_dW_dh_everywhere (K : KTable) (hK : K ∈ all) (hg : K.gauss = false) (r h : ℝ)
    (hh : 0 < h) : HasDerivAt (fun h' => W K r h') (gradH K r h) h :=
  W_hasDerivAt_h (table_gradh K hK) hh.ne' (dwdq_is_derivative_everywhere K hK hg _)

/-- **normalised** (radial form: `∫_{ℝ^d} W = S_d ∫₀^∞ r^(d-1) W dr`, the polar-coordinate step itself
is not mechanised): `S_d · fac · ∫₀^R q^(d-1) w(q) dq = 1` for every polynomial kernel table, where `w`
is the (piece-wise, `lookup`-based) shape function. -/
theorem normalised (K : KTable) (hK : K ∈ all) (hg : K.gauss = false) :
    sphereR K.dim * facR K * ∫ x in (0 : ℝ)..(K.radius : ℝ), x ^ (K.dim - 1) * wR K x = 1 :=
  radial_normalised (table_wellformed K hK).1 (table_normalised K hK hg)

/-- … and at every smoothing length: `S_d · ∫₀^{R·h} r^(d-1) W(r,h) dr = 1`. -/
theorem normalised_every_h (K : KTable) (hK : K ∈ all) (hg : K.gauss = false) (h : ℝ)
    (hh : 0 < h) :
    sphereR K.dim * ∫ r in (0 : ℝ)..((K.radius : ℝ) * h), r ^ (K.dim - 1) * W K r h = 1 := by
  obtain ⟨_, hd1, _, hw, _, _, _⟩ := table_wellformed K hK
  rw [W_radial_integral K hw hd1 hh, ← mul_assoc]
  exact normalised K hK hg

/-- Gaussian family: `fac · π^(d/2) = 1`. -/
theorem gauss_family_fac (K : KTable) (hK : K ∈ all) (hg : K.gauss = true) :
    facR K * Real.sqrt Real.pi ^ K.dim = 1 := by
  have h := table_gauss_fac K hK hg
  simp only [gaussFacOk, Bool.and_eq_true, beq_iff_eq] at h
  have hs : Real.sqrt Real.pi ≠ 0 := (Real.sqrt_pos.2 Real.pi_pos).ne'
  unfold facR
  rw [h.1.2, h.2, zpow_neg, zpow_natCast]
  simp [hs]

/-- Gaussian family: the UNTRUNCATED kernel `fac·exp(-|x|²)` has unit mass over `ℝ^d`
(`exp(-|x|²) = Π exp(-xᵢ²)`, so the mass is `fac · (∫ exp(-x²))^d`); the code truncates it at
`q = 3` (`table_support`), which removes the stated tail. -/
theorem gaussian_untruncated_mass (K : KTable) (hK : K ∈ all) (hg : K.gauss = true) :
    facR K * (∫ x : ℝ, Real.exp (-x ^ 2)) ^ K.dim = 1 := by
  have h := integral_gaussian 1
  simp only [neg_mul, one_mul, div_one] at h
  rw [h]
  exact gauss_family_fac K hK hg

/-! ## the compiled wrappers `c_kernels.<Kernel>Wrapper`: histories of calls on one object

`Gen/KernelWrapper.lean` is the statement-by-statement transcription of the template class
`${classname}Wrapper` of `c_kernels.pyx.mako` (regenerated on every run).  A wrapper re-uses two
scratch members (`xij`, `grad`) for every call; callers keep the returned results while they
go on calling it.  `observe o code s cs` is what a caller that kept EVERY result of the
history `cs` (started with arbitrary scratch contents `s`) sees when it looks at them after
the last call; `observeNow` what it saw at each return. -/
section wrapper
open PysphVerif.KernelWrapper

/-- the template's `kernel` and `gradient` bodies are the expected ones: three separation
stores into the object's own `xij`, the Euclidean norm, the kernel call, and a `return` of a
number / of a tuple `grad[0], grad[1], grad[2]` of new floats -/
theorem table_wrapper_code : Gen.KernelWrapper.code = canonical := by decide

/-- no wrapper method returns an object over the wrapper's own storage -/
theorem table_wrapper_returns_values :
    Gen.KernelWrapper.code.kernel.ret.isValue = true ∧
      Gen.KernelWrapper.code.gradient.ret.isValue = true := by decide

/-- **retained results are never changed by later calls** — any number type, any kernel object
(even one whose `gradient` leaves stale components), any history, any initial scratch contents -/
theorem wrapper_retained_results_unchanged {α : Type} (o : Ops α) (s : St α)
    (cs : List (Call α)) :
    observe o Gen.KernelWrapper.code s cs = observeNow o Gen.KernelWrapper.code s cs :=
  observe_eq_observeNow o _ table_wrapper_returns_values.1 table_wrapper_returns_values.2 cs s

/-- **history independence**: with a kernel whose `gradient` stores all three components, every
retained result of every history is the pure function of that call's own arguments
(`xij = xi − xj`, `rij = sqrt(xij·xij)`, then the kernel's `kernel` / `gradient`) -/
theorem wrapper_history_independent {α : Type} (o : Ops α)
    (hfull : ∀ x r h b b', o.gradient x r h b = o.gradient x r h b') (z : V3 α) (s : St α)
    (cs : List (Call α)) :
    observe o Gen.KernelWrapper.code s cs = cs.map (pureResult o z) := by
  rw [table_wrapper_code]
  exact observe_canonical o hfull z cs s

/-- **the wrapper returns the kernel's numbers**: over ℝ, on every generated table, every history:
`Wrapper.kernel = W(|xi − xj|, h)`, `Wrapper.gradient[i] = gradient_i(xi − xj, |xi − xj|, h)` -/
theorem wrapper_returns_kernel_values (K : KTable) (s : St ℝ) (cs : List (Call ℝ)) :
    observe (realOps K) Gen.KernelWrapper.code s cs = cs.map (wrapperSpec K) := by
  rw [wrapper_history_independent (realOps K) (fun _ _ _ _ _ => rfl) ⟨0, 0, 0⟩ s cs]
  exact List.map_congr_left (fun c _ => pureResult_realOps K _ c)

/-- … hence `Wrapper.gradient` is `dW/dr` times the unit separation vector above the guard … -/
theorem wrapper_gradient_is_dWdr_times_unit_vector (K : KTable) (hK : K ∈ all) (c : Call ℝ)
    (hc : c.isGrad = true) (hr : (K.rmin : ℝ) < distR c) :
    wrapperSpec K c =
      [dwdq K (distR c) c.h * c.h⁻¹ / distR c * (sepR c).x,
       dwdq K (distR c) c.h * c.h⁻¹ / distR c * (sepR c).y,
       dwdq K (distR c) c.h * c.h⁻¹ / distR c * (sepR c).z] := by
  obtain ⟨g0, g1, g2⟩ := gradient_is_dwdq_times_unit_vector K hK (distR c) c.h
    (sepR c).x (sepR c).y (sepR c).z hr
  simp only [wrapperSpec, hc, if_true, g0, g1, g2]

/-- … and vanishes (all three components, and the kernel value) outside the support. -/
theorem wrapper_support (K : KTable) (hK : K ∈ all) (c : Call ℝ) (hh : 0 < c.h)
    (hr : (K.radius : ℝ) * c.h ≤ distR c) :
    wrapperSpec K c = if c.isGrad then [0, 0, 0] else [0] := by
  obtain ⟨hw, _, hg⟩ := support K hK (distR c) c.h hh hr
  obtain ⟨g0, g1, g2⟩ := hg (sepR c).x (sepR c).y (sepR c).z
  unfold wrapperSpec
  split <;> simp [hw, g0, g1, g2]

/-- the model can tell the difference: a `return` of a view of `self.grad` is overwritten by
the next call (integers, a toy kernel whose gradient is the separation itself) -/
example :
    let o : Ops Int := ⟨(· - ·), (· + ·), (· * ·), id, fun _ r _ => r, fun x _ _ _ => x, 0⟩
    let viewCode : Code := { canonical with gradient := { canonical.gradient with ret := .view .grad } }
    let cs : List (Call Int) := [⟨true, ⟨1, 0, 0⟩, ⟨0, 0, 0⟩, 1⟩, ⟨true, ⟨5, 7, 0⟩, ⟨0, 0, 0⟩, 1⟩]
    observeNow o viewCode ⟨⟨0, 0, 0⟩, ⟨0, 0, 0⟩⟩ cs = [[1, 0, 0], [5, 7, 0]] ∧
    observe o viewCode ⟨⟨0, 0, 0⟩, ⟨0, 0, 0⟩⟩ cs = [[5, 7, 0], [5, 7, 0]] ∧
    observe o canonical ⟨⟨9, 9, 9⟩, ⟨9, 9, 9⟩⟩ cs = [[1, 0, 0], [5, 7, 0]] := by decide

/-- … and a kernel that skips its stores (here: outside `|x| < 3`) makes results depend on the
history although they are values — the hypothesis `hfull` is what excludes it -/
example :
    let o : Ops Int := ⟨(· - ·), (· + ·), (· * ·), id, fun _ r _ => r,
      fun x _ _ b => if x.x < 3 then x else b, 0⟩
    let cs : List (Call Int) := [⟨true, ⟨1, 0, 0⟩, ⟨0, 0, 0⟩, 1⟩, ⟨true, ⟨5, 7, 0⟩, ⟨0, 0, 0⟩, 1⟩]
    observe o canonical ⟨⟨0, 0, 0⟩, ⟨0, 0, 0⟩⟩ cs = [[1, 0, 0], [1, 0, 0]] := by decide

end wrapper

/-- the tables are not trivial -/
example : CubicSpline_2 ∈ all ∧ (CubicSpline_2.pieceAt (3/2)).w = [2, -3, 3/2, -1/4] ∧
    eval (CubicSpline_2.pieceAt (3/2)).w (3/2) = 1/32 := by decide +kernel

example : all.length = 21 ∧ (all.filter (fun K => K.gauss)).length = 6 ∧
    (all.filter (fun K => K.name == "SuperGaussian")).length = 3 := by decide +kernel

/-- the breakpoint hypothesis of `dwdq_is_derivative` / `gradh_is_dW_dh` is satisfiable:
`q = 1/2` is interior to the first piece of the 1-D cubic spline -/
example : CubicSpline_1 ∈ all ∧ ∀ p ∈ CubicSpline_1.pieces, (1 / 2 : ℝ) ≠ (p.hi : ℝ) := by
  refine ⟨by decide +kernel, ?_⟩
  intro p hp
  have h : ∀ p ∈ CubicSpline_1.pieces, (1 / 2 : ℚ) ≠ p.hi := by decide +kernel
  intro heq
  have h2 : ((1 / 2 : ℚ) : ℝ) = (p.hi : ℝ) := by push_cast; exact heq
  exact h p hp (Rat.cast_injective h2)

/-- the exemption is needed: the super-Gaussian's polynomial factor is negative at `q = 2` -/
example : eval (SuperGaussian_3.pieceAt 2).w 2 = -3/2 := by decide +kernel

end PysphVerif.C08
