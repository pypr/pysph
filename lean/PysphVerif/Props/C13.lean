import PysphVerif.Lemmas.GaussJordanDet
import PysphVerif.Lemmas.LinalgHelpers
import PysphVerif.Lemmas.Eigen3Examples
/-!
# C13 — the small dense linear-algebra helpers solve what they are given

The first half is about `Model/GaussJordan.lean`, which transcribes `pysph/sph/wc/linalg.py` on flat
row-major arrays and is tied to the code (Python and transpiled) by bit-exact differential
execution.  `gjSolve` is `gj_solve` WITH the fix of defect F5 (partial pivoting with a real row
exchange, proposed_fixes/C13-gj-pivot.diff); `gjSolveOrig` is `gj_solve` without it.
All statements hold for every size `n`, every number `nb` of right-hand sides, every flat array that
is large enough, over every linearly ordered field `K`, with the literal `1e-12` an arbitrary
`tol > 0`.  `get2 nt m i j` is `m[nt*i + j]`.

The second half is about `Model/Eigen3.lean`, which transcribes `eigen_decomposition` (scaling,
`tred2`, `tql2`, the sort, `zero_matrix_case`) and the arithmetic part of `get_eigenvalvec` of
`pysph/base/linalg3.pyx` and is tied to the compiled code bit for bit at `Float`.  Those theorems
hold over every linearly ordered field with `sqrt` abstract (`SqrtOK`; satisfied by `Real.sqrt`) and
`hypot2` abstract (`HypOK`; satisfied by the body `sqrt(x*x+y*y)` and by the overflow-safe body of
proposed_fixes/C13-hypot2-overflow.diff), for every symmetric input, every branch combination and
every number of QL sweeps.  What they do NOT say: that the QL iteration stops
(`EigReturnsStatement`), and anything about rounding.
-/
set_option linter.unusedSectionVars false
namespace PysphVerif.C13
open PysphVerif.GaussJordan

variable {K : Type} [Field K] [LinearOrder K] [IsStrictOrderedRing K]

/-- `gj_solve` returned 0 ⇒ the returned columns solve the system that was passed in:
`A · x_c = b_c` for every right-hand side `c`, exactly (over a field) — provided the last
pivot of the triangular form is non-zero (the code does not test it against `tol`; when it
is exactly zero and the last right-hand side is below `tol` (the other `nb - 1` are not looked
at), the code silently skips the row and still returns 0, so this hypothesis cannot be
dropped; `gj_sound` below discharges it from `det A ≠ 0`). -/
theorem gj_sound_lastpivot {n nb : Nat} (tol : K) (htol : 0 < tol) (m res : Array K)
    (hsz : n*(n+nb) ≤ m.size) (hres : n*nb ≤ res.size)
    (hret : (gjSolve tol m n nb res).singular = false)
    (hlast : LastPivotNonzero tol m n nb) :
    ∀ c, c < nb → ∀ i, i < n →
      ∑ j ∈ Finset.range n,
        get2 (n+nb) m i j * rd (gjSolve tol m n nb res).result (nb*j + c) =
      get2 (n+nb) m i (n + c) := by
  intro c hc
  have hfw := forward_spec tol htol m hsz
  unfold gjSolve finish at hret ⊢
  cases hf : forward tol n nb m with
  | none => rw [hf] at hret; simp at hret
  | some m1 =>
    rw [hf] at hfw
    obtain ⟨m2, hb, inv⟩ := backSubst_spec tol htol m m1 hsz hfw (hlast m1 hf)
    simp only [hb]
    obtain ⟨_, hcp⟩ := copyOut_spec m2 res n nb hres
    -- after the back substitution the coefficient block is the identity (`BackInv.blk` at `n`), so
    -- column `n + c` of `m2` solves the system of `m2`; `RowOps.sol` carries the solution back to `m`
    have hsol : Sol n (get2 (n+nb) m2) (fun j => get2 (n+nb) m2 j (n + c)) (n + c) := by
      intro i hi
      rw [Finset.sum_eq_single i]
      · rw [inv.blk i i hi hi, if_pos (by omega), if_pos rfl, one_mul]
      · intro j hj hji
        rw [inv.blk i j hi (Finset.mem_range.mp hj), if_pos (by omega), if_neg (Ne.symm hji), zero_mul]
      · intro h; exact absurd (Finset.mem_range.mpr hi) h
    have := (hfw.ops.trans inv.ops).sol (by omega) _ (n + c) (by omega) hsol
    intro i hi
    rw [← this i hi]
    apply Finset.sum_congr rfl
    intro j hj
    have hjn := Finset.mem_range.mp hj
    have e : rd (copyOut m2 n nb res) (nb*j + c) = get2 nb (copyOut m2 n nb res) j c := rfl
    rw [e, hcp j c hc, if_pos hjn]

/-- the silent skip is real: a singular 1×1 system with a right-hand side below `tol`
returns 0 with a "solution" that does not solve it (so `gj_sound_lastpivot` needs its hypothesis) -/
example : (gjSolve (1/1000 : ℚ) #[0, 1/2000] 1 1 #[7]).singular = false ∧
    (0 : ℚ) * rd (gjSolve (1/1000 : ℚ) #[0, 1/2000] 1 1 #[7]).result 0 ≠ 1/2000 := by
  decide +kernel

/-- **`gj_sound`.**  If the coefficient block `A` of the augmented matrix has `det A ≠ 0`
(Mathlib's determinant) and `gj_solve` returns 0, then the returned columns satisfy
`A · x_c = b_c` exactly, for every right-hand side `c`. -/
theorem gj_sound {n nb : Nat} (tol : K) (htol : 0 < tol) (m res : Array K)
    (hsz : n*(n+nb) ≤ m.size) (hres : n*nb ≤ res.size)
    (hdet : (toMat n (get2 (n+nb) m)).det ≠ 0)
    (hret : (gjSolve tol m n nb res).singular = false) :
    ∀ c, c < nb → ∀ i, i < n →
      ∑ j ∈ Finset.range n,
        get2 (n+nb) m i j * rd (gjSolve tol m n nb res).result (nb*j + c) =
      get2 (n+nb) m i (n + c) :=
  gj_sound_lastpivot tol htol m res hsz hres hret fun m1 hf hn =>
    forward_pivots_ne_zero tol htol m m1 hsz hf hdet (n-1) (by omega)

/-- the same in Mathlib's matrix language: `A *ᵥ x_c = b_c` -/
theorem gj_sound_mulVec {n nb : Nat} (tol : K) (htol : 0 < tol) (m res : Array K)
    (hsz : n*(n+nb) ≤ m.size) (hres : n*nb ≤ res.size)
    (hdet : (toMat n (get2 (n+nb) m)).det ≠ 0)
    (hret : (gjSolve tol m n nb res).singular = false) (c : Nat) (hc : c < nb) :
    Matrix.mulVec (toMat n (get2 (n+nb) m))
      (fun j : Fin n => rd (gjSolve tol m n nb res).result (nb*j + c)) =
    fun i : Fin n => get2 (n+nb) m i (n + c) := by
  funext i
  exact (Finset.sum_range fun j => get2 (n+nb) m i j *
    rd (gjSolve tol m n nb res).result (nb*j + c)).symm.trans
    (gj_sound tol htol m res hsz hres hdet hret c hc i i.2)

/-! ## completeness: when does `gj_solve` report a singular matrix

"The reduced matrix" in the three statements below is `TinyColumn`'s: any matrix that arises from
the input by row operations and satisfies the forward invariant, not necessarily the one the run
computes.  For `n ≥ 2` such a matrix exists for EVERY input (see the comment of `TinyColumn`), so
for `n ≥ 2` the disjunct `TinyColumn` of the first two statements is always true and the hypothesis
`¬ TinyColumn` of `gj_complete` is never met: the three say something for `n ≤ 1` only.  The
statements about the run itself, with `GaveUp` (the run stood at a column all of whose candidate
pivots were below `tol`) in place of `TinyColumn`, are `gjSolve_singular` in
`Lemmas/GaussJordan.lean` and, with the determinant, `gjSolve_singular_det` in
`Lemmas/GaussJordanDet.lean`: `det A ≠ 0` and `¬ GaveUp` ⇒ `gj_solve` returns 0. -/

/-- `gj_solve` returns non-zero only if, after row operations that preserve the solution
set, a column of the reduced matrix has every candidate pivot (diagonal and below) smaller
than `tol` in absolute value, or the triangular form has an exactly zero last pivot. -/
theorem gj_nonzero_only_if_tiny_or_zero_pivot {n nb : Nat} (tol : K) (htol : 0 < tol)
    (m res : Array K) (hsz : n*(n+nb) ≤ m.size)
    (hret : (gjSolve tol m n nb res).singular = true) :
    TinyColumn n (n+nb) tol m ∨
    ∃ m1, forward tol n nb m = some m1 ∧ FwdInv n (n+nb) tol m m1 n ∧ 0 < n ∧
      get2 (n+nb) m1 (n-1) (n-1) = 0 :=
  (gjSolve_singular tol htol m res hsz hret).imp_left (GaveUp.tiny htol hsz)

/-- **`gj_nonzero_only_if_singular_or_tiny`.**  `gj_solve` returns non-zero only if
`det A = 0`, or a column of the row-reduced matrix has every candidate pivot below `tol`. -/
theorem gj_nonzero_only_if_singular_or_tiny {n nb : Nat} (tol : K) (htol : 0 < tol)
    (m res : Array K) (hsz : n*(n+nb) ≤ m.size)
    (hret : (gjSolve tol m n nb res).singular = true) :
    (toMat n (get2 (n+nb) m)).det = 0 ∨ TinyColumn n (n+nb) tol m :=
  (gjSolve_singular_det tol htol m res hsz hret).imp_right (GaveUp.tiny htol hsz)

/-- **`gj_complete`.**  A system with `det A ≠ 0` in which no column of the reduced matrix
is entirely below `tol` is solved: `gj_solve` returns 0 (and by `gj_sound` the result is
the solution).  (`htiny` can be met for `n ≤ 1` only, see the comment before
`gj_nonzero_only_if_tiny_or_zero_pivot`.) -/
theorem gj_complete {n nb : Nat} (tol : K) (htol : 0 < tol) (m res : Array K)
    (hsz : n*(n+nb) ≤ m.size) (hdet : (toMat n (get2 (n+nb) m)).det ≠ 0)
    (htiny : ¬ TinyColumn n (n+nb) tol m) :
    (gjSolve tol m n nb res).singular = false :=
  Bool.eq_false_iff.mpr fun h =>
    (gj_nonzero_only_if_singular_or_tiny tol htol m res hsz h).elim hdet htiny

/-- partial pivoting: the entry brought to the pivot position is the largest (in absolute
value) of its column among the rows not yet used -/
theorem gj_pivot_is_column_max {n nt : Nat} (m : Array K) (k : Nat) (hsz : n*nt ≤ m.size)
    (hk : k < n) (hn : n ≤ nt) (i : Nat) (hi1 : k ≤ i) (hi2 : i < n) :
    |get2 nt m i k| ≤ |get2 nt (swapRows nt nt k (pivotRow m nt n k) m) k k| := by
  obtain ⟨h1, h2, h3⟩ := pivotRow_spec (nt := nt) m k hk
  obtain ⟨_, hg⟩ := get2_swapRows (n := n) m k (pivotRow m nt n k) hsz hk h2
  rw [hg k k (by omega), if_pos rfl]
  exact h3 i hi1 hi2

/-- the forward phase reduces the system to upper-triangular form by elementary row
operations (so the solution set is kept), every pivot except possibly the last being at
least `tol` in absolute value -/
theorem gj_forward_triangular {n nb : Nat} (tol : K) (htol : 0 < tol) (m m1 : Array K)
    (hsz : n*(n+nb) ≤ m.size) (hf : forward tol n nb m = some m1) :
    RowOps n (n+nb) (get2 (n+nb) m) (get2 (n+nb) m1) ∧
    (∀ i j, i < n → j < i → get2 (n+nb) m1 i j = 0) ∧
    (∀ k, k + 1 < n → tol ≤ |get2 (n+nb) m1 k k|) := by
  have h := forward_spec tol htol m hsz
  rw [hf] at h
  exact ⟨h.ops, fun i j hi hji => h.lz i j hi (by omega) hji,
    fun k hk => not_lt.mp (h.piv k (by omega) hk)⟩

/-- elementary row operations keep solutions: whatever solves the reduced system solves
the original one -/
theorem row_ops_preserve_solutions {n nt : Nat} (hn : n ≤ nt) {M M' : Nat → Nat → K}
    (h : RowOps n nt M M') (x : Nat → K) (c : Nat) (hc : c < nt) (hx : Sol n M' x c) :
    Sol n M x c :=
  h.sol hn x c hc hx

/-- row-major indexing `n*i + j` is injective for `j < n` (`flat_index`) -/
theorem flat_index_injective {nt i j i' j' : Nat} (hj : j < nt) (hj' : j' < nt)
    (h : nt*i + j = nt*i' + j') : i = i' ∧ j = j' :=
  flat_inj hj hj' h

/-- `identity(a, n)` writes Mathlib's identity matrix into the first `n×n` cells -/
theorem identity_eq_one (a : Array K) (n : Nat) (hsz : n*n ≤ a.size) :
    sqMat n (identity a n) = 1 ∧ (identity a n).size = a.size := by
  refine ⟨?_, (identity_spec a n hsz).1⟩
  ext i j
  rw [Matrix.one_apply]
  show get2 n (identity a n) i j = _
  rw [(identity_spec a n hsz).2 i j j.2, if_pos i.2]
  exact if_congr Fin.val_inj rfl rfl

/-- `mat_mult(a, b, n, result)` is Mathlib's matrix product -/
theorem mat_mult_eq_mul (a b r : Array K) (n : Nat) (hsz : n*n ≤ r.size) :
    sqMat n (matMult a b n r) = sqMat n a * sqMat n b := by
  ext i k
  rw [Matrix.mul_apply]
  show get2 n (matMult a b n r) i k = _
  rw [(matMult_spec a b r n hsz).2 i k k.2, if_pos i.2]
  exact Finset.sum_range (fun j => get2 n a i j * get2 n b j k)

/-- `mat_vec_mult(a, b, n, result)` is Mathlib's matrix-vector product -/
theorem mat_vec_mult_eq_mulVec (a b r : Array K) (n : Nat) (hsz : n ≤ r.size) :
    vecOf n (matVecMult a b n r) = Matrix.mulVec (sqMat n a) (vecOf n b) := by
  funext i
  show rd (matVecMult a b n r) i = _
  rw [(matVecMult_spec a b r n hsz).2 i, if_pos i.2]
  exact Finset.sum_range (fun j => get2 n a i j * rd b j)

/-- `dot(a, b, n)` is Mathlib's dot product of the first `n` entries -/
theorem dot_eq_dotProduct (a b : Array K) (n : Nat) :
    dot a b n = dotProduct (vecOf n a) (vecOf n b) :=
  (dot_spec a b n).trans (Finset.sum_range (fun j => rd a j * rd b j))

/-- `augmented_matrix(A, b, n, na, nmax, result)` lays out `[A[:n,:n] | b[:n,:na]]` with row
length `n+na` (reading `A` with row length `nmax`, `b` with row length `na`) and leaves
every other cell of `result` alone -/
theorem augmented_is_block_row (A b r : Array K) (n na nmax : Nat) (hsz : n*(n+na) ≤ r.size) :
    (augmentedMatrix A b n na nmax r).size = r.size ∧
    ∀ i j, j < n + na → get2 (n+na) (augmentedMatrix A b n na nmax r) i j =
      if i < n then (if j < n then get2 nmax A i j else get2 na b i (j - n))
      else get2 (n+na) r i j := by
  refine fill_fold (w := n+na)
    (fun i j => if j < n then get2 nmax A i j else get2 na b i (j - n)) (augRow A b n na nmax)
    r n fun r' i hi hr => ?_
  obtain ⟨h1, h2⟩ := fill_row_fold (w := n+na) (rows := n) (fun j => get2 nmax A i j)
    (augA A nmax (n+na) i) i 0 (fun r'' j => by simp only [augA, get2, Nat.zero_add])
    r' (by rw [hr]; exact hsz) hi n (by omega)
  obtain ⟨h3, h4⟩ := fill_row_fold (w := n+na) (rows := n) (fun j => get2 na b i j)
    (augB b n na (n+na) i) i n (fun r'' j => by simp only [augB, get2, Nat.add_assoc])
    ((List.range n).foldl (augA A nmax (n+na) i) r') (by rw [h1, hr]; exact hsz) hi na (by omega)
  refine ⟨by rw [augRow, h3, h1, hr], ?_⟩
  intro i' j' hj
  rw [augRow, h4 i' j' hj, h2 i' j' hj]
  by_cases h : i' = i
  · subst h
    rw [if_pos rfl]
    by_cases hjn : j' < n
    · rw [if_neg (by omega), if_pos ⟨rfl, by omega, by omega⟩, if_pos hjn]; simp
    · rw [if_pos ⟨rfl, by omega, by omega⟩, if_neg hjn]
  · rw [if_neg (by omega), if_neg (by omega), if_neg h]

/-- helpers, non-vacuity: a 2×2 product and an augmented matrix taken from a 3×3 array -/
example : matMult (#[1, 2, 3, 4] : Array ℚ) #[0, 1, 1, 0] 2 #[9, 9, 9, 9] = #[2, 1, 4, 3] ∧
    augmentedMatrix (#[1, 2, 3, 4, 5, 6, 7, 8, 9] : Array ℚ) #[10, 20] 2 1 3
      #[0, 0, 0, 0, 0, 0, 0] = #[1, 2, 10, 4, 5, 20, 0] := by
  decide +kernel

/-- for every input, the "pivoting" pre-pass of `gj_solve` without the fix leaves the matrix
unchanged: that algorithm is plain elimination without row exchanges -/
theorem orig_prepass_is_identity (n nt : Nat) (m : Array K) : prepass n nt m = m :=
  List.foldl_fixed' (prepassCol_eq n nt m) _

/-- counterexample for `gj_solve` without the fix: the permutation matrix `[[0,1],[1,0]]` is
non-singular, `gjSolveOrig` reports it singular, `gjSolve` solves it -/
theorem orig_counterexample :
    (gjSolveOrig (1/1000000000000 : ℚ) #[0, 1, 1, 1, 0, 2] 2 1 #[0, 0]).singular = true ∧
    (gjSolve (1/1000000000000 : ℚ) #[0, 1, 1, 1, 0, 2] 2 1 #[0, 0]).singular = false ∧
    (gjSolve (1/1000000000000 : ℚ) #[0, 1, 1, 1, 0, 2] 2 1 #[0, 0]).result = #[2, 1] := by
  decide +kernel

/-- a 3×3 system with a zero leading pivot and two right-hand sides: the hypotheses of
`gj_sound_lastpivot` are met (returns 0) and the result is the exact solution -/
example :
    let m : Array ℚ := #[0, 2, 1, 1, 0,  1, 1, 0, 0, 1,  3, 0, 1, 2, 2]
    (gjSolve (1/1000000000000 : ℚ) m 3 2 #[0, 0, 0, 0, 0, 0]).singular = false ∧
    (forward (1/1000000000000 : ℚ) 3 2 m).isSome = true ∧
    (gjSolve (1/1000000000000 : ℚ) m 3 2 #[0, 0, 0, 0, 0, 0]).result
      = #[1/5, 4/5, -1/5, 1/5, 7/5, -2/5] := by
  decide +kernel

/-- a singular system is reported (`gj_nonzero_only_if_tiny_or_zero_pivot` is not vacuous) -/
example : (gjSolve (1/1000000000000 : ℚ) #[1, 1, 0, 1,  1, 1, 0, 1,  1, 1, 1, 1] 3 1
    #[0, 0, 0]).singular = true := by
  decide +kernel

section Eigen
open PysphVerif.Eigen3 Matrix

/-- the hypotheses on `sqrt` and `hypot2` used below are satisfiable: `Real.sqrt`, and both
bodies of `hypot2` (`sqrt(x*x+y*y)` and the overflow-safe one) built on it -/
theorem eig_hyps_satisfiable :
    SqrtOK Real.sqrt ∧ HypOK (hypotNaive Real.sqrt) ∧ HypOK (hypotSafe abs Real.sqrt) :=
  ⟨sqrtOK_real, hypOK_naive sqrtOK_real, hypOK_safe sqrtOK_real⟩

/-- both bodies of `hypot2` have the two properties, for any `sqrt` that has its two -/
theorem eig_hypot_ok {sqrt : K → K} (hs : SqrtOK sqrt) :
    HypOK (hypotNaive sqrt) ∧ HypOK (hypotSafe abs sqrt) :=
  ⟨hypOK_naive hs, hypOK_safe hs⟩

/-- **diagonal fast path of `get_eigenvalvec`**: a symmetric matrix with zero off-diagonal
entries returns `R = I`, `e = diag A` without iterating, and that is an exact orthonormal
eigen-decomposition -/
theorem eig_diag_fast_path (sqrt : K → K) (hyp : K → K → K) (eps big : K) (fuel : Nat)
    (A : Mat K) (ev : Vec K) (hsym : A.Symm) (h01 : A 0 1 = 0) (h02 : A 0 2 = 0)
    (h12 : A 1 2 = 0) :
    (∃ o, getEigenvalvec abs sqrt hyp eps big fuel A ev = .diag o ∧ o.V = idMat ∧
        o.d = Vec.ofFn (fun i => A i i)) ∧
    Orthonormal (idMat : Mat K) ∧ IsEigDecomp A idMat (Vec.ofFn fun i => A i i) := by
  obtain ⟨s1, s2, s3⟩ := hsym
  refine ⟨⟨⟨idMat, Vec.ofFn (fun i => A i i), [500], []⟩, ?_, rfl, rfl⟩, orthonormal_idMat,
    isEigDecomp_diag A h01 h02 h12 (s1 ▸ h01) (s2 ▸ h02) (s3 ▸ h12)⟩
  unfold getEigenvalvec
  simp [h01, h02, h12]

/-- when the fast path is not taken, `get_eigenvalvec` is `eigen_decomposition` exactly when
`use_iter` (computed from the eigenvalue triple of the trigonometric `get_eigenvalues`, an
input here) says so -/
theorem eig_get_eigenvalvec_dispatch (sqrt : K → K) (hyp : K → K → K) (eps big : K) (fuel : Nat)
    (A : Mat K) (ev : Vec K) (h : ¬ (A 0 1 = A 0 2 ∧ A 0 2 = A 1 2 ∧ A 1 2 = 0)) :
    getEigenvalvec abs sqrt hyp eps big fuel A ev =
      if useIter big A ev then .iter (eigenDecomposition abs sqrt hyp eps fuel A)
      else .closedForm ev := by
  unfold getEigenvalvec
  rw [if_neg (by simpa only [Bool.and_eq_true, beq_iff_eq, and_assoc] using h)]

/-- **`zero_matrix_case`** is taken exactly for the zero matrix (`s = Σ|aᵢⱼ| = 0`), and then
`V = I`, `d = 0` is an exact decomposition -/
theorem eig_zero_matrix_case (sqrt : K → K) (hyp : K → K → K) (eps : K) (fuel : Nat) (A : Mat K) :
    (absSum A = 0 ↔ A = ⟨0, 0, 0, 0, 0, 0, 0, 0, 0⟩) ∧
    (absSum A = 0 → eigenDecomposition abs sqrt hyp eps fuel A = .ok zeroMatrixCase ∧
      Orthonormal (zeroMatrixCase : Out K).V ∧
      IsEigDecomp A (zeroMatrixCase : Out K).V (zeroMatrixCase : Out K).d) := by
  refine ⟨absSum_eq_zero_iff A, fun h => ⟨by rw [eigenDecomposition_eq, if_pos h],
    orthonormal_idMat, ?_⟩⟩
  rw [(absSum_eq_zero_iff A).mp h]
  exact isEigDecomp_zero

/-- **the sort at the end of `tql2`** applies ONE permutation `σ` to the eigenvalues and to
the columns of `V`, and leaves `d` ascending -/
theorem eig_sort_permutes_and_sorts (t : TQ K) : ∃ σ : Equiv.Perm (Fin 3),
    (∀ j, (sortEig t).d.toF j = t.d.toF (σ j)) ∧
    (∀ i j, (sortEig t).V.toM i j = t.V.toM i (σ j)) ∧
    (sortEig t).d 0 ≤ (sortEig t).d 1 ∧ (sortEig t).d 1 ≤ (sortEig t).d 2 := by
  obtain ⟨σ, hp, h1, h2⟩ := sortEig_spec t
  exact ⟨σ, hp.1, hp.2, h1, h2⟩

/-- hence the sort preserves `A V = V diag(d)`, orthonormality and `V diag(d) Vᵀ` -/
theorem eig_sort_preserves (A : Mat K) (t : TQ K) :
    (IsEigDecomp A t.V t.d → IsEigDecomp A (sortEig t).V (sortEig t).d) ∧
    (Orthonormal t.V → Orthonormal (sortEig t).V) ∧
    (sortEig t).V.toM * Matrix.diagonal (sortEig t).d.toF * (sortEig t).V.toMᵀ =
      t.V.toM * Matrix.diagonal t.d.toF * t.V.toMᵀ := by
  obtain ⟨σ, hp, _, _⟩ := sortEig_spec t
  exact ⟨hp.isEigDecomp, hp.orthonormal, recon_permuted hp⟩

/-- **every plane rotation `tql2` applies** —
`V[k][i+1] = s V[k][i] + c h; V[k][i] = c V[k][i] - s h` with `c = p/r`, `s = e/r`,
`r = hypot2(p, e)`, `(p, e) ≠ (0, 0)` — keeps the columns of `V` orthonormal -/
theorem tql2_rotation_preserves_orthonormal {hyp : K → K → K} (hh : HypOK hyp) (p e : K)
    (hpe : p ≠ 0 ∨ e ≠ 0) (i : Nat) (hi : i < 2) (V : Mat K) (hV : Orthonormal V) :
    Orthonormal ((List.range 3).foldl (qlRotV (p / hyp p e) (e / hyp p e) i) V) := by
  have g := giv_of hh p e hpe
  have ho := rotM_orth (p / hyp p e) (e / hyp p e) g.f3 i
  exact orthonormal_mul_rot V _ _ ho (rotV_toM _ _ V i hi) hV

/-- **`tql2` preserves `VᵀV = I` for every number of iterations** (any `fuel`, any `d`, `e`):
the rotations are never degenerate because the sub-diagonal entries inside the active block
are non-zero (they failed `fabs(e[i]) <= eps*tst1`, and stay non-zero from sweep to sweep) -/
theorem tql2_preserves_orthonormal {hyp : K → K → K} (hh : HypOK hyp) (eps : K) (heps : 0 ≤ eps)
    (fuel : Nat) (s : St K) (t : TQ K) (hV : Orthonormal s.V)
    (h : tql2 abs hyp eps fuel s = .ok t) : Orthonormal t.V :=
  (tql2_spec hyp hh eps heps fuel s t hV h).1

/-- **`tred2`**: for symmetric input the returned `V` is orthogonal and `V T Vᵀ = A`
(equivalently `Vᵀ A V = T`) with `T` the symmetric tridiagonal matrix with diagonal `d` and
sub-diagonal `e[1], e[2]` — in all four branch combinations (`scale == 0` or Householder at
`i = 2` and at `i = 1`); the side conditions the code relies on (`scale ≠ 0 ⇒ h > 0`,
`g = -sign(f) sqrt(h)`) are proved inside -/
theorem tred2_orthogonal_tridiagonal {sqrt : K → K} (hs : SqrtOK sqrt) (s : St K)
    (hsym : s.V.Symm) :
    Orthonormal (tred2 abs sqrt s).V ∧
    (tred2 abs sqrt s).V.toM * (tred2 abs sqrt s).V.toMᵀ = 1 ∧
    s.V.toM = (tred2 abs sqrt s).V.toM * Ttri (tred2 abs sqrt s).d (tred2 abs sqrt s).e *
      (tred2 abs sqrt s).V.toMᵀ :=
  tred2_spec hs s hsym

/-- **one pass of `while cont`**: there is an orthogonal `G` with `V' = V G` and
`G T' Gᵀ = T - (e[m] dropped)`, where `T`, `T'` are the tridiagonal matrices of `(d + f shift, e)`
before and after the sweep — the implicit-shift formulas (`d[l] = e[l]/(p+r)`, …,
`p = -s*s2*c3*el1*e[l]/dl1`) are exact -/
theorem tql2_sweep_is_similarity {hyp : K → K → K} (hh : HypOK hyp) (l m : Nat) (hlm : l < m)
    (hm : m < 3) (t : TQ K) (hne : ∀ i, l ≤ i → i < m → t.e i ≠ 0)
    (hlow : ∀ i, i < l → t.e i = 0) :
    ∃ G : Matrix (Fin 3) (Fin 3) K, Gᵀ * G = 1 ∧ G * Gᵀ = 1 ∧
      (qlSweep hyp l m t).V.toM = t.V.toM * G ∧
      G * Tm l (qlSweep hyp l m t).d (qlSweep hyp l m t).e (qlSweep hyp l m t).f * Gᵀ =
        Tm l t.d t.e t.f - offM m (t.e m) := by
  obtain ⟨G, hG, hV, hT⟩ := (qlSweep_spec hyp hh l m hlm hm t hne hlow).sim
  exact ⟨G, hG, mul_eq_one_comm.mp hG, hV, hT⟩

/-- **`tql2`, partial correctness with the dropped entries made explicit.**  Whatever the
number of sweeps, if `tql2` returns then
`V₀ T₀ V₀ᵀ = V diag(d) Vᵀ + Σₖ Wₖ offM(jₖ, xₖ) Wₖᵀ`, the sum running over the sub-diagonal
entries `xₖ` (position `(jₖ, jₖ+1)`, `Wₖ` = `V` at that moment, orthogonal) that the code
replaced by `0.0` because `fabs(xₖ) <= eps*tst1` (`TQ.drops`) -/
theorem tql2_decomposition {hyp : K → K → K} (hh : HypOK hyp) (eps : K) (heps : 0 ≤ eps)
    (fuel : Nat) (s : St K) (t : TQ K) (hV : Orthonormal s.V)
    (h : tql2 abs hyp eps fuel s = .ok t) :
    s.V.toM * Ttri s.d s.e * s.V.toMᵀ =
      t.V.toM * Matrix.diagonal t.d.toF * t.V.toMᵀ + dropSum t.drops ∧
    t.d 0 ≤ t.d 1 ∧ t.d 1 ≤ t.d 2 :=
  (tql2_spec hyp hh eps heps fuel s t hV h).2

/-- **`eigen_decomposition`, partial correctness.**  For every symmetric `A` of any
magnitude, every number of sweeps: if it returns `(V, d)` then `V` is orthonormal, `d` is
ascending and `A = V diag(d) Vᵀ + (Σ|aᵢⱼ|) · Σₖ Wₖ offM(jₖ, xₖ) Wₖᵀ` -/
theorem eig_decomposition {sqrt : K → K} {hyp : K → K → K} (hs : SqrtOK sqrt) (hh : HypOK hyp)
    (eps : K) (heps : 0 ≤ eps) (fuel : Nat) (A : Mat K) (hsym : A.Symm) (o : Out K)
    (h : eigenDecomposition abs sqrt hyp eps fuel A = .ok o) :
    Orthonormal o.V ∧
    A.toM = o.V.toM * Matrix.diagonal o.d.toF * o.V.toMᵀ + absSum A • dropSum o.drops ∧
    o.d 0 ≤ o.d 1 ∧ o.d 1 ≤ o.d 2 :=
  eigenDecomposition_spec hs hh eps heps fuel A hsym o h

/-- **exact when nothing non-zero was dropped**: then `A V = V diag(d)` with `VᵀV = I` -/
theorem eig_decomposition_exact {sqrt : K → K} {hyp : K → K → K} (hs : SqrtOK sqrt)
    (hh : HypOK hyp) (eps : K) (heps : 0 ≤ eps) (fuel : Nat) (A : Mat K) (hsym : A.Symm)
    (o : Out K) (h : eigenDecomposition abs sqrt hyp eps fuel A = .ok o)
    (hdrop : ∀ x ∈ o.drops, x.1 = 0) :
    Orthonormal o.V ∧ IsEigDecomp A o.V o.d := by
  obtain ⟨h1, h2, _, _⟩ := eigenDecomposition_spec hs hh eps heps fuel A hsym o h
  rw [dropSum_eq_zero o.drops hdrop, smul_zero, add_zero] at h2
  exact ⟨h1, isEigDecomp_of_recon A o.V o.d h1 h2⟩

/-- what is NOT proved: that the QL iteration stops.  (For `eps > 0` it does, by the
convergence theory of the shifted QL algorithm; the model reports exhaustion of `fuel`
as `Err.noConv`, the harness has never seen it: ≤ 7 sweeps in 10⁵ matrices.) -/
def EigReturnsStatement : Prop :=
  ∀ (eps : ℝ), 0 < eps → ∀ A : Mat ℝ, A.Symm → ∃ fuel o,
    eigenDecomposition abs Real.sqrt (hypotSafe abs Real.sqrt) eps fuel A = .ok o

/-- **any magnitude**: for `c > 0`, `eigen_decomposition(c·A)` normalises to exactly the same
matrix `A/Σ|aᵢⱼ|` as `eigen_decomposition(A)`: it takes the same path, returns the same `V`
(and the same error, if any) and `c·d`.  (Not so for `c < 0`: `-A` is another matrix.  At
`Float` the statement is exact for `c = 2^k` without over/underflow — replayed on the
compiled code by the harness — and up to rounding otherwise: `s` is not a power of two.) -/
theorem eig_scaling (sqrt : K → K) (hyp : K → K → K) (eps : K) (fuel : Nat) (c : K) (hc : 0 < c)
    (A : Mat K) :
    eigenDecomposition abs sqrt hyp eps fuel (Mat.smul c A) =
      match eigenDecomposition abs sqrt hyp eps fuel A with
      | .error err => .error err
      | .ok o => .ok { o with d := Vec.smul c o.d } := by
  have hc' : c ≠ 0 := ne_of_gt hc
  rw [eigenDecomposition_eq, eigenDecomposition_eq, absSum_smul, abs_of_pos hc, scaleMat_smul c hc']
  by_cases h : absSum A = 0
  · rw [if_pos h, if_pos (by rw [h, mul_zero])]
    simp [zeroMatrixCase, Vec.smul, Vec.ofFn, Vec.get]
  · rw [if_neg h, if_neg (mul_ne_zero hc' h)]
    cases tql2 abs hyp eps fuel _ with
    | error e => rfl
    | ok t =>
      simp only [Vec.smul, Vec.ofFn, Vec.get]
      congr 2
      apply Vec.ext3 <;> simp only <;> ring

/-- a diagonal matrix meets the hypotheses of `eig_diag_fast_path` -/
example : (⟨2, 0, 0, 0, -1, 0, 0, 0, 5⟩ : Mat ℚ).Symm ∧
    (⟨2, 0, 0, 0, -1, 0, 0, 0, 5⟩ : Mat ℚ) 0 1 = 0 :=
  ⟨⟨rfl, rfl, rfl⟩, rfl⟩

/-- an unsorted triple is sorted, columns move with it -/
example :
    let t : TQ ℚ := ⟨⟨1, 2, 3, 4, 5, 6, 7, 8, 9⟩, ⟨3, 1, 2⟩, ⟨0, 0, 0⟩, 0, 0, [], []⟩
    (sortEig t).d.toList = [1, 2, 3] ∧ (sortEig t).V.toList = [2, 3, 1, 5, 6, 4, 8, 9, 7] := by
  decide +kernel

/-- a 3-4-5 rotation: `Giv` holds, the rotated identity is still orthonormal -/
example : Giv (3/5 : ℚ) (4/5) 5 3 4 ∧
    Orthonormal ((List.range 3).foldl (qlRotV (3/5 : ℚ) (4/5) 0) idMat) := by
  refine ⟨⟨by norm_num, by norm_num, by norm_num, by norm_num, by norm_num, by norm_num⟩, ?_⟩
  refine orthonormal_mul_rot idMat _ _ (rotM_orth (3/5 : ℚ) (4/5) (by norm_num) 0)
    (rotV_toM _ _ _ 0 (by decide)) orthonormal_idMat

/-- `tred2` on a full symmetric matrix whose last row `(3, 4, 5)` has a rational norm:
Householder at `i = 2` and at `i = 1`; `VᵀV = I` and `V T Vᵀ = A` hold exactly -/
example : tred2Check ⟨2, 1, 3, 1, -1, 4, 3, 4, 5⟩ [-1/25, 26/25, 5] [0, 43/25, -5]
    [121, 111, 201, 211] = true := by
  decide +kernel

/-- the whole routine on a matrix with a Householder step, one QL sweep on the block
`(1,2)` and a sort swap: returns, nothing non-zero dropped, `A V = V diag d` and `VᵀV = I`
exactly, `d = (15, 60, 140)` -/
example : eigCheck 3 ⟨60, 0, 36, 0, 60, 48, 36, 48, 95⟩
    [-12/25, 4/5, 9/25, -16/25, -3/5, 12/25, 3/5, 0, 4/5] [15, 60, 140] = true := by
  decide +kernel

/-- plane-strain shape (coupled leading 2×2 block): `scale == 0` at `i = 2`, one sweep
on the block `(0,1)`, two sort swaps -/
example : eigCheck 3 ⟨17, -12, 0, -12, 10, 0, 0, 0, 3⟩
    [-3/5, 0, 4/5, -4/5, 0, -3/5, 0, 1, 0] [1, 3, 26] = true := by
  decide +kernel

/-- scaling by `c = 7/2`: same `V`, `d` times `c` -/
example : eigCheck 3 (Mat.smul (7/2) ⟨17, -12, 0, -12, 10, 0, 0, 0, 3⟩)
    [-3/5, 0, 4/5, -4/5, 0, -3/5, 0, 1, 0] [7/2, 21/2, 91] = true := by
  decide +kernel

/-- the hypotheses of `shift_identity` are satisfiable -/
example : ∃ w : ℚ, w ≠ 0 ∧ (35 : ℚ) - (0 - (-60) / w) = -60 * w :=
  (shift_identity (0 : ℚ) 35 (-60) (-7/24) (-25/24) (-4/3) (by norm_num) (by norm_num)
    (by norm_num) (by norm_num)) |> fun h => ⟨-4/3, h.1, h.2⟩

end Eigen

end PysphVerif.C13
