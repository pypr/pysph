import Mathlib.Algebra.BigOperators.Group.List.Basic
/-!
Folds that add.  A loop whose step adds one contribution per item to some
component `get` of its state ends with that component increased by the sum of
the contributions, whatever else the state holds.
-/
namespace PysphVerif

theorem foldl_additive {σ ι M : Type*} [AddMonoid M] (get : σ → M) (step : σ → ι → σ)
    (c : ι → M) (h : ∀ acc j, get (step acc j) = get acc + c j) (l : List ι) (acc0 : σ) :
    get (l.foldl step acc0) = get acc0 + (l.map c).sum := by
  induction l generalizing acc0 with
  | nil => simp
  | cons x xs ih => simp only [List.foldl_cons, List.map_cons, List.sum_cons, ih, h, add_assoc]

end PysphVerif
