import PysphVerif.Model.Controller
/-!
C18: why WEAK fairness is not enough.  While nobody pauses and nothing is
queued the solver runs round after round of
`start → with qlock: run_queued_commands → with qlock: (no pause)`, taking and
dropping `qlock` twice per round.  A dispatching thread parked at
`with self.qlock:` is enabled only while the solver is outside its critical
sections, so it is never *continuously* enabled, and the schedule "solver
only" is weakly fair although that thread never moves.
-/
namespace PysphVerif.Controller

def rounds : Nat → List Tid
  | 0 => []
  | k + 1 => 0 :: 0 :: 0 :: 0 :: 0 :: rounds k

structure Idle (s : State) : Prop where
  spc : s.spc = SPc.start
  q : s.qOwner = none
  queue : s.queue = []
  pause : s.pause = []

theorem idle_round {s : State} (h : Idle s) (l : List Tid) :
    run Cfg.fixed s (0 :: 0 :: 0 :: 0 :: 0 :: l) = run Cfg.fixed { s with count := s.count + 1 } l ∧
    runs Cfg.fixed s (0 :: 0 :: 0 :: 0 :: 0 :: l) = runs Cfg.fixed { s with count := s.count + 1 } l := by
  obtain ⟨h1, h2, h3, h4⟩ := h
  constructor <;>
    simp [run, runs, step, stepSolver, runQueue, afterRun, checkPause, h1, h2, h3, h4]

theorem idle_rounds : ∀ (k : Nat) {s : State}, Idle s →
    run Cfg.fixed s (rounds k) = { s with count := s.count + k } ∧
    runs Cfg.fixed s (rounds k) = true
  | 0, s, _ => ⟨rfl, rfl⟩
  | k + 1, s, h => by
    have h' : Idle { s with count := s.count + 1 } := ⟨h.spc, h.q, h.queue, h.pause⟩
    obtain ⟨e1, e2⟩ := idle_round h (rounds k)
    obtain ⟨i1, i2⟩ := idle_rounds k h'
    simp only [rounds]
    rw [e1, e2, i1, i2]
    refine ⟨?_, rfl⟩
    simp [Nat.add_assoc, Nat.add_comm 1 k]

theorem idle_parked {s : State} (h : Idle s) {t : Tid} (ht : t ≠ 0) {c : Cmd} {id : Nat}
    (hpc : (s.th t).pc = IPc.qAcqQ c id) :
    enabled Cfg.fixed s t = true ∧
    enabled Cfg.fixed (run Cfg.fixed s [0, 0]) t = false ∧
    runs Cfg.fixed s [0, 0, 0, 0, 0] = true := by
  refine ⟨?_, ?_, (idle_round h []).2⟩
  · simp [enabled, step, ht, stepIface, hpc, h.q]
  · simp [enabled, run, step, ht, stepSolver, runQueue, afterRun, stepIface, hpc, h.spc, h.q, h.queue]

end PysphVerif.Controller
