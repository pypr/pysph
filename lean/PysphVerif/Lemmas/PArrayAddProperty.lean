import PysphVerif.Lemmas.PArrayInvOps
/-!
`add_property` in two equations (without data, with data), and from them the invariant.  Between
the write of `default_values[name]`/`stride[name]` (`addPA1`) and the write of the column the
name is pending (`InvP`); `AddOk` is what the invariant needs of the `stride` argument.
-/
namespace PysphVerif.PArray

def addDv (pa : PA) (name : String) (dflt : Option Int) : Int :=
  match dflt with
  | some v => v
  | none => if pa.hasProp name then pa.defaultOf name else 0

def addPA1 (pa : PA) (name : String) (dflt : Option Int) (stride : Nat) : PA :=
  { pa with defaults := setKey pa.defaults name (addDv pa name dflt),
            stride := strideSet pa.stride name stride }

def fillCol (q : PA) (m : Nat) (c : Col) : Col :=
  { c with data := flat (List.replicate m (defaultRow q c.name)) }

def fillPA (q : PA) (m nr : Nat) : PA := { q with props := q.props.map (fillCol q m), nReal := nr }

/-- the array the named column is written into when data is given: an empty
array is first resized to the rows of the data, every property at its default -/
def addBase (pa : PA) (name : String) (dflt : Option Int) (stride : Nat) (d : List Int) : PA :=
  if pa.n = 0 then
    fillPA (addPA1 pa name dflt stride) (d.length / stride)
      (if name == "tag" then (d.filter (· == localTag)).length else d.length / stride)
  else addPA1 pa name dflt stride

theorem addBase_fields (pa : PA) (name : String) (dflt : Option Int) (stride : Nat) (d : List Int) :
    (addBase pa name dflt stride d).stride = strideSet pa.stride name stride ∧
      (addBase pa name dflt stride d).consts = pa.consts ∧
      (addBase pa name dflt stride d).name = pa.name ∧
      (addBase pa name dflt stride d).outputs = pa.outputs := by
  unfold addBase; split <;> exact ⟨rfl, rfl, rfl, rfl⟩

theorem addProperty_nodata (pa : PA) (name ctype : String) (dflt : Option Int) (stride : Nat) :
    pa.addProperty name ctype dflt none stride =
      some (if pa.hasProp name then addPA1 pa name dflt stride
        else (addPA1 pa name dflt stride).setCol
          ⟨name, ctype, List.replicate (pa.n * stride) (addDv pa name dflt)⟩) := by
  unfold PA.addProperty
  extract_lets n sizeOk dv pa1 noData d nElem pa2 nreal pa3
  have h1 : sizeOk = true := rfl
  have h2 : noData = true := rfl
  simp only [h1, h2, Bool.not_true, Bool.false_eq_true, if_false, if_true]
  by_cases hp : pa.hasProp name = true
  · rw [if_pos hp, if_pos (show pa1.hasProp name = true from hp),
      if_pos (show pa1.hasProp name = true from hp)]
    split <;> rfl
  · rw [if_neg hp, if_neg (show ¬ pa1.hasProp name = true from hp),
      if_neg (show ¬ pa1.hasProp name = true from hp)]
    split
    · rename_i hn
      have hn : pa.n = 0 := by simpa [n] using hn
      rw [hn, Nat.zero_mul]; rfl
    · rfl

theorem addProperty_some_nil (pa : PA) (name ctype : String) (dflt : Option Int) (stride : Nat) :
    pa.addProperty name ctype dflt (some []) stride = pa.addProperty name ctype dflt none stride := by
  unfold PA.addProperty
  simp

theorem addProperty_data (pa : PA) (name ctype : String) (dflt : Option Int) (stride : Nat)
    {d : List Int} (hd : d ≠ []) :
    pa.addProperty name ctype dflt (some d) stride =
      if pa.n = 0 ∨ (pa.n = d.length / stride ∧ d.length % stride = 0) then
        match (addBase pa name dflt stride d).col? name with
        | some c => (setData c.data d).map
            (fun nd => (addBase pa name dflt stride d).setCol { c with data := nd })
        | none => some ((addBase pa name dflt stride d).setCol ⟨name, ctype, d⟩)
      else none := by
  unfold PA.addProperty
  extract_lets n sizeOk dv pa1 noData d' nElem pa2 nreal pa3
  have h1 : sizeOk = true ↔ (pa.n = 0 ∨ (pa.n = d.length / stride ∧ d.length % stride = 0)) := by
    simp [sizeOk, n, hd]
  have h2 : noData = false := by simp [noData, hd]
  by_cases hs : pa.n = 0 ∨ (pa.n = d.length / stride ∧ d.length % stride = 0)
  · rw [if_pos hs, if_neg (by simp [h1.mpr hs])]
    simp only [h2, Bool.false_eq_true, if_false]
    split
    · rename_i hn
      have hn : pa.n = 0 := by simpa [n] using hn
      have hb : addBase pa name dflt stride d = pa3 := by unfold addBase; rw [if_pos hn]; rfl
      rw [hb]
      cases pa3.col? name with
      | none => rfl
      | some c => simp only []; rw [show d' = d from rfl]; cases setData c.data d <;> rfl
    · rename_i hn
      have hn : ¬ pa.n = 0 := by simpa [n] using hn
      have hb : addBase pa name dflt stride d = pa1 := by unfold addBase; rw [if_neg hn]; rfl
      rw [hb]
      cases pa1.col? name with
      | none => rfl
      | some c => simp only []; rw [show d' = d from rfl]; cases setData c.data d <;> rfl
  · rw [if_neg hs, if_pos (by simpa using fun h => hs (h1.mp h))]

theorem InvP.fillPA {q : PA} {pend : String} {m0 : Nat}
    (h : InvP q.props q.stride q.defaults pend m0) (m nr : Nat) :
    InvP (fillPA q m nr).props (fillPA q m nr).stride (fillPA q m nr).defaults pend m := by
  refine h.mapCols _ _ (fun _ _ => rfl) (fun c _ => ?_)
  show (flat (List.replicate _ (defaultRow _ c.name))).length = _
  rw [flat_replicate_length, defaultRow_length]; rfl

/-- the `stride` argument of `add_property(name, …)` is admissible on `pa` (1 = "not given") -/
structure AddOk (pa : PA) (name : String) (stride : Nat) : Prop where
  pos : 1 ≤ stride
  own : name ∈ pa.props.map Col.name → stride = 1 ∨ stride = pa.strideOf name ∨ pa.n = 0
  tag : name = "tag" → stride = 1

theorem AddOk.of_new {pa : PA} (h : Inv pa) {name : String} {stride : Nat} (hs : 1 ≤ stride)
    (hnew : name ∉ pa.props.map Col.name) : AddOk pa name stride :=
  ⟨hs, fun hm => absurd hm hnew, fun e => absurd (e ▸ h.toF.tagMem) hnew⟩

theorem AddOk.of_one_or_own {pa : PA} (h : Inv pa) {name : String} {stride : Nat} (hs : 1 ≤ stride)
    (hown : name ∈ pa.props.map Col.name → stride = 1 ∨ stride = pa.strideOf name) :
    AddOk pa name stride :=
  ⟨hs, fun hm => (hown hm).elim Or.inl (fun e => Or.inr (Or.inl e)), fun e => by
    rcases hown (e ▸ h.toF.tagMem) with h' | h'
    · exact h'
    · rw [h', e, h.tagStride]⟩

theorem AddOk.of_own {pa : PA} (h : Inv pa) {name : String} {stride : Nat} (hs : 1 ≤ stride)
    (hown : name ∈ pa.props.map Col.name → stride = pa.strideOf name) : AddOk pa name stride :=
  .of_one_or_own h hs (fun hm => Or.inr (hown hm))

theorem addPA1_invP {pa : PA} {name : String} {stride : Nat} (h : Inv pa) (dflt : Option Int)
    (ok : AddOk pa name stride) :
    InvP (addPA1 pa name dflt stride).props (addPA1 pa name dflt stride).stride
      (addPA1 pa name dflt stride).defaults name pa.n := by
  show InvP pa.props (strideSet pa.stride name stride) (setKey pa.defaults name _) name pa.n
  have hlen : ∀ c ∈ pa.props, 0 < lookupD (strideSet pa.stride name stride) c.name 1 ∧
      c.data.length = pa.n * lookupD (strideSet pa.stride name stride) c.name 1 := by
    intro c hc
    by_cases hn : c.name = name
    · rw [hn, lookupD_strideSet_self]
      have hmem : name ∈ pa.props.map Col.name := hn ▸ List.mem_map_of_mem hc
      have hl := h.len c hc
      rw [hn] at hl
      by_cases hs : stride = 1
      · rw [if_pos hs]; exact hl
      · rw [if_neg hs]
        rcases ok.own hmem with h' | h' | h'
        · exact absurd h' hs
        · rw [h']; exact hl
        · refine ⟨ok.pos, ?_⟩
          rw [hl.2, h']; simp
    · rw [lookupD_strideSet_ne pa.stride name c.name stride hn]; exact h.len c hc
  refine ⟨hlen, h.tagFirst, ?_, h.nodup, ?_, ?_, ?_⟩
  · by_cases hn : "tag" = name
    · rw [← hn, lookupD_strideSet_self, if_pos (ok.tag hn.symm)]; exact h.tagStride
    · rw [lookupD_strideSet_ne pa.stride name "tag" stride hn]; exact h.tagStride
  -- an existing name has the stride of its column, a new one the given stride
  · by_cases hmem : name ∈ pa.props.map Col.name
    · obtain ⟨c, hc, rfl⟩ := List.mem_map.mp hmem
      exact (hlen c hc).1
    · rw [lookupD_strideSet_new h.toF name stride hmem]; exact ok.pos
  · intro k hk
    rcases keys_strideSet pa.stride name stride k hk with h' | h'
    · exact Or.inl (h.strideKeys k h')
    · exact Or.inr h'
  · rw [keys_setKey, h.defaultKeys]

theorem addBase_invP {pa : PA} {name : String} {stride : Nat} (h : Inv pa) (dflt : Option Int)
    (ok : AddOk pa name stride) (d : List Int) :
    InvP (addBase pa name dflt stride d).props (addBase pa name dflt stride d).stride
      (addBase pa name dflt stride d).defaults name
      (if pa.n = 0 then d.length / stride else pa.n) := by
  unfold addBase
  split
  · exact (addPA1_invP h dflt ok).fillPA _ _
  · exact addPA1_invP h dflt ok

/-- `m' = pa.n` unless an empty array is given data, which then fixes the count.  With data the
name is pending in `addBase` and the data becomes its column: in place of the old one, whose length
`setData` keeps, or appended, where `h4` and the size test of `add_property` make it `m'` rows. -/
theorem invF_addProperty {pa pa' : PA} {name ctype : String} {dflt : Option Int}
    {data : Option (List Int)} {stride : Nat}
    (h : Inv pa) (ok : AddOk pa name stride)
    (h4 : ∀ d, data = some d → d.length ≠ 0 → name ∉ pa.props.map Col.name →
      d.length % stride = 0)
    (hr : pa.addProperty name ctype dflt data stride = some pa') :
    ∃ m', InvF pa'.props pa'.stride pa'.defaults m' ∧
      ((pa.n ≠ 0 ∨ ∀ d, data = some d → d.length = 0) → m' = pa.n) := by
  have hP1 := addPA1_invP h dflt ok
  have hsn : name ∉ pa.props.map Col.name → lookupD (strideSet pa.stride name stride) name 1 = stride :=
    lookupD_strideSet_new h.toF name stride
  have nodata : pa.addProperty name ctype dflt none stride = some pa' →
      InvF pa'.props pa'.stride pa'.defaults pa.n := by
    intro hr
    rw [addProperty_nodata, Option.some.injEq] at hr
    subst hr
    split
    · rename_i hp; exact hP1.toF ((hasProp_iff pa name).mp hp)
    · rename_i hp
      refine InvP.inv_setCol (X := addPA1 pa name dflt stride) hP1 _ rfl ?_
      show (List.replicate _ _).length = pa.n * lookupD (strideSet pa.stride name stride) name 1
      rw [hsn (fun hm => hp ((hasProp_iff pa name).mpr hm)), List.length_replicate]
  rcases data with _ | d
  · exact ⟨pa.n, nodata hr, fun _ => rfl⟩
  by_cases hd : d = []
  · subst hd; rw [addProperty_some_nil] at hr; exact ⟨pa.n, nodata hr, fun _ => rfl⟩
  have hdl : d.length ≠ 0 := fun e => hd (List.length_eq_zero_iff.mp e)
  rw [addProperty_data _ _ _ _ _ hd] at hr
  split at hr
  swap
  · exact absurd hr (by simp)
  rename_i hsz
  have hB := addBase_invP h dflt ok d
  generalize hm' : (if pa.n = 0 then d.length / stride else pa.n) = m' at hB
  have hnames : (addBase pa name dflt stride d).props.map Col.name = pa.props.map Col.name := by
    unfold addBase; split
    · exact map_name_map _ _ (fun _ _ => rfl)
    · rfl
  refine ⟨m', ?_, fun hc => ?_⟩
  swap
  · rcases hc with hc | hc
    · rw [← hm', if_neg hc]
    · exact absurd (hc d rfl) hdl
  split at hr
  · rename_i c hc
    obtain ⟨hmem, hcn⟩ := col?_some _ name c hc
    cases hsd : setData c.data d with
    | none => rw [hsd] at hr; exact absurd hr (by simp)
    | some nd =>
      rw [hsd, Option.map_some, Option.some.injEq] at hr
      subst hr
      refine hB.inv_setCol _ hcn ?_
      show nd.length = _
      rw [setData_length _ _ _ hsd, (hB.len c hmem).2, hcn]
  · rename_i hc
    have hnm : name ∉ pa.props.map Col.name := hnames ▸ col?_none _ name hc
    rw [Option.some.injEq] at hr
    subst hr
    refine hB.inv_setCol _ rfl ?_
    show d.length = m' * lookupD (addBase pa name dflt stride d).stride name 1
    rw [(addBase_fields pa name dflt stride d).1, hsn hnm]
    have hmod : d.length % stride = 0 := by
      rcases hsz with e | e
      · exact h4 d rfl hdl hnm
      · exact e.2
    have hm : m' = d.length / stride := by
      by_cases hn : pa.n = 0
      · rw [← hm', if_pos hn]
      · rw [← hm', if_neg hn]; exact (hsz.resolve_left hn).1
    rw [hm]
    exact (Nat.div_mul_cancel (Nat.dvd_of_mod_eq_zero hmod)).symm

theorem inv_addProperty_n {pa pa' : PA} {name ctype : String} {dflt : Option Int} {stride : Nat}
    (h : Inv pa) (ok : AddOk pa name stride)
    (hr : pa.addProperty name ctype dflt none stride = some pa') : Inv pa' ∧ pa'.n = pa.n := by
  obtain ⟨m', hm, hm'⟩ := invF_addProperty h ok (fun _ e => by cases e) hr
  have := hm' (Or.inr fun _ e => by cases e)
  subst this
  exact hm.inv_and_n

theorem addProperty_fields {pa pa' : PA} {name ctype : String} {dflt : Option Int}
    {data : Option (List Int)} {stride : Nat}
    (hr : pa.addProperty name ctype dflt data stride = some pa') :
    pa'.stride = strideSet pa.stride name stride ∧ pa'.consts = pa.consts ∧
      pa'.name = pa.name ∧ pa'.outputs = pa.outputs := by
  -- every branch returns `q` or `q.setCol c` with `q` one of the two arrays below, and `setCol`
  -- leaves the four fields alone
  have nodata : pa.addProperty name ctype dflt none stride = some pa' →
      pa'.stride = strideSet pa.stride name stride ∧ pa'.consts = pa.consts ∧
        pa'.name = pa.name ∧ pa'.outputs = pa.outputs := by
    intro hr
    rw [addProperty_nodata, Option.some.injEq] at hr
    subst hr
    split
    · exact ⟨rfl, rfl, rfl, rfl⟩
    · rw [setCol_eq]; exact ⟨rfl, rfl, rfl, rfl⟩
  rcases data with _ | d
  · exact nodata hr
  by_cases hd : d = []
  · subst hd; rw [addProperty_some_nil] at hr; exact nodata hr
  have hB := addBase_fields pa name dflt stride d
  rw [addProperty_data _ _ _ _ _ hd] at hr
  split at hr
  swap
  · exact absurd hr (by simp)
  split at hr
  · cases hsd : setData _ d with
    | none => rw [hsd] at hr; exact absurd hr (by simp)
    | some nd =>
      rw [hsd, Option.map_some, Option.some.injEq] at hr
      subst hr
      rw [setCol_eq]; exact hB
  · rw [Option.some.injEq] at hr
    subst hr
    rw [setCol_eq]; exact hB

theorem addProperty_new {pa : PA} (name ctype : String) (dv : Int) {d : List Int} {stride : Nat}
    (hs : 1 ≤ stride) (hnm : name ∉ pa.props.map Col.name) (hlen : d.length = pa.n * stride) :
    pa.addProperty name ctype (some dv) (some d) stride =
      some ((addPA1 pa name (some dv) stride).setCol ⟨name, ctype, d⟩) := by
  have hp : ¬ pa.hasProp name = true := fun hp => hnm ((hasProp_iff pa name).mp hp)
  by_cases hd : d = []
  · subst hd
    have : pa.n * stride = 0 := hlen.symm
    rw [addProperty_some_nil, addProperty_nodata, if_neg hp, this]
    rfl
  have hn : pa.n ≠ 0 := by
    intro e; rw [e, Nat.zero_mul] at hlen; exact hd (List.length_eq_zero_iff.mp hlen)
  have hb : addBase pa name (some dv) stride d = addPA1 pa name (some dv) stride := if_neg hn
  have hc : (addPA1 pa name (some dv) stride).col? name = none := (col?_eq_none_iff _ name).mpr hnm
  rw [addProperty_data _ _ _ _ _ hd, hb, hc, if_pos]
  right
  rw [hlen, Nat.mul_div_cancel _ (by omega), Nat.mul_mod_left]
  exact ⟨rfl, rfl⟩

end PysphVerif.PArray
