import Mathlib.Algebra.Order.Field.Basic
import Mathlib.Tactic.Linarith
import PysphVerif.Lemmas.OrderChain
import PysphVerif.Model.SolverLoop
set_option linter.unusedSectionVars false
/-! The solver loop for C10.  For any number type with the operations the code uses (so also for
`Float`): `solve` makes some number `n` of passes, its loop heads are the iterates `head i` of the
body (`i ≤ n`), and its event trace is the initial dump, the events of the passes in order, and the
final dump (`Trace`).  Over a linearly ordered field: the relation `Pass` between a state and the
loop head `_get_timestep` and `_land_on_output_time` make of it, and the loop-head invariant `Inv`
that follows from it. -/
namespace PysphVerif.SolverLoop

section operations
variable {α : Type} [Add α] [Sub α] [Mul α] [Div α] [Neg α] [LT α] [DecidableLT α]
  [OfNat α 0] [OfNat α 1]

/-- the factor `_damp_timestep` stores at iteration count `k`; the model's `newDamp c s` is
`dampAt c s.count` by `rfl` -/
def dampAt (c : Cfg α) (k : Nat) : α := if k < c.nDamp ∧ 0 < c.nDamp then c.dampFac k else 1

/-- the step before any cut by `_land_on_output_time` -/
def saved (s : St α) : α :=
  match s.prevDt with
  | some p => p
  | none => s.dt

theorem solverData_eq (s : St α) : solverData s = saved s / s.damp := by
  unfold solverData saved undamped
  cases s.prevDt <;> rfl

theorem restorePrev_eq (s : St α) : restorePrev s = { s with dt := saved s, prevDt := none } := by
  obtain ⟨_, _, _, p, _, _, _, _, _⟩ := s
  cases p <;> rfl

theorem tooBig_iff (s : St α) (T : α) : tooBig s T = true ↔ s.eps < T - s.t ∧ T - s.t < s.dt := by
  simp [tooBig]

theorem landOn_cases (s : St α) (l : List α) : landOn s l = s ∨
    ∃ T ∈ l, s.eps < T - s.t ∧ T - s.t < s.dt ∧
      landOn s l = { s with prevDt := some s.dt, dt := T - s.t } := by
  induction l with
  | nil => exact Or.inl rfl
  | cons T rest ih =>
    rw [landOn]
    split
    · rename_i hb
      exact Or.inr ⟨T, List.mem_cons_self, ((tooBig_iff s T).mp hb).1, ((tooBig_iff s T).mp hb).2, rfl⟩
    · exact ih.imp_right fun ⟨T', h, r⟩ => ⟨T', List.mem_cons_of_mem _ h, r⟩

theorem landOn_frame (s : St α) (l : List α) : (landOn s l).t = s.t ∧ (landOn s l).eps = s.eps ∧
    (landOn s l).count = s.count ∧ (landOn s l).damp = s.damp ∧ (landOn s l).nom = s.nom ∧
    (landOn s l).landed = s.landed ∧ (landOn s l).calls = s.calls := by
  rcases landOn_cases s l with h | ⟨_, -, -, -, h⟩ <;> rw [h] <;>
    exact ⟨rfl, rfl, rfl, rfl, rfl, rfl, rfl⟩

theorem computeTimestep_spec (c : Cfg α) (s : St α) :
    ∃ u k, computeTimestep c s = (u, { s with calls := k }) ∧
      (u = undamped s ∨ c.adapt s.calls = some u) ∧ (c.adaptive = false → u = undamped s) ∧
      (c.adaptive = true → 1 ≤ k ∧ ∀ v, c.adapt (k - 1) = some v → u = v) := by
  unfold computeTimestep
  cases ha : c.adaptive with
  | false => exact ⟨_, s.calls, rfl, Or.inl rfl, fun _ => rfl, fun h => Bool.noConfusion h⟩
  | true =>
    cases hv : c.adapt s.calls with
    | none =>
      refine ⟨_, _, rfl, Or.inl rfl, fun h => Bool.noConfusion h, fun _ => ⟨Nat.le_add_left _ _, ?_⟩⟩
      intro v h
      rw [Nat.add_sub_cancel, hv] at h
      cases h
    | some v =>
      refine ⟨_, _, rfl, Or.inr rfl, fun h => Bool.noConfusion h, fun _ => ⟨Nat.le_add_left _ _, ?_⟩⟩
      intro v' h
      rw [Nat.add_sub_cancel, hv] at h
      exact Option.some.inj h

theorem getTimestep_clock (c : Cfg α) (a : St α) : (getTimestep c a).t = a.t ∧
    (getTimestep c a).eps = a.eps ∧ (getTimestep c a).count = a.count := by
  obtain ⟨u, k, hc, -⟩ := computeTimestep_spec c { a with dt := saved a, prevDt := none }
  rw [getTimestep, restorePrev_eq, hc]
  unfold dampAndLand
  split
  · exact ⟨rfl, rfl, rfl⟩
  · split <;> exact ⟨rfl, rfl, rfl⟩

theorem dumpIfNeeded_fst (c : Cfg α) (g : St α) :
    (dumpIfNeeded c g).1 = if absv (g.t - c.tf) < g.eps then g else landOn g c.outT := by
  unfold dumpIfNeeded
  split <;> rfl

theorem dumpIfNeeded_snd (c : Cfg α) (g : St α) :
    (dumpIfNeeded c g).2 = if absv (g.t - c.tf) < g.eps then []
      else if (g.count % c.pfreq == 0 || nearAny g c.outT) = true then [Ev.dump (dumpIfNeeded c g).1]
      else [] := by
  unfold dumpIfNeeded
  split <;> rfl

theorem iterSt_clock (c : Cfg α) (s : St α) : (iterSt c s).t = s.t + s.dt ∧
    (iterSt c s).count = s.count + 1 ∧ (iterSt c s).eps = c.EPS * c.tf * c.cast (s.count + 1) := by
  obtain ⟨h1, h2, h3⟩ := getTimestep_clock c (advance c s)
  obtain ⟨l1, l2, l3, -⟩ := landOn_frame (getTimestep c (advance c s)) c.outT
  rw [iterSt, dumpIfNeeded_fst]
  split
  · exact ⟨h1, h3, h2⟩
  · exact ⟨l1.trans h1, l3.trans h3, l2.trans h2⟩

theorem start_clock (c : Cfg α) (dt0 : α) :
    (start c dt0).t = 0 ∧ (start c dt0).count = 0 ∧ (start c dt0).eps = c.EPS * c.tf := by
  obtain ⟨h1, h2, h3⟩ := getTimestep_clock c (init c dt0)
  obtain ⟨l1, l2, l3, -⟩ := landOn_frame (getTimestep c (init c dt0)) c.outT
  exact ⟨l1.trans h1, l3.trans h3, l2.trans h2⟩

theorem iterEv_cases (c : Cfg α) (s : St α) :
    iterEv c s = [Ev.pre, Ev.step s, Ev.post] ∨
      iterEv c s = [Ev.pre, Ev.step s, Ev.post, Ev.dump (iterSt c s)] := by
  rw [iterEv, dumpIfNeeded_snd]
  split
  · exact Or.inl rfl
  · split
    · exact Or.inr rfl
    · exact Or.inl rfl

theorem mem_iterEv (c : Cfg α) (s : St α) (e : Ev α) (h : e ∈ iterEv c s) :
    e = Ev.pre ∨ e = Ev.step s ∨ e = Ev.post ∨ e = Ev.dump (iterSt c s) := by
  rcases iterEv_cases c s with h' | h' <;>
    simp only [h', List.mem_cons, List.not_mem_nil, or_false] at h
  · exact h.imp_right (Or.imp_right Or.inl)
  · exact h

theorem guard_eq_true (c : Cfg α) (s : St α) :
    guard c s = true ↔ s.eps < c.tf - s.t ∧ s.count < c.maxSteps := by
  simp [guard]

theorem loop_not_guard (c : Cfg α) (fuel : Nat) (s : St α) (h : guard c s = false) :
    loop c fuel s = (s, []) := by
  cases fuel with
  | zero => rfl
  | succ m => rw [loop, if_neg (Bool.eq_false_iff.mp h)]

theorem loop_guard (c : Cfg α) (n : Nat) (s : St α) (h : guard c s = true) :
    loop c (n + 1) s = ((loop c n (iterSt c s)).1, iterEv c s ++ (loop c n (iterSt c s)).2) := by
  rw [loop, if_pos h]

def head (c : Cfg α) (dt0 : α) (i : Nat) : St α := (iterSt c)^[i] (start c dt0)

theorem head_zero (c : Cfg α) (dt0 : α) : head c dt0 0 = start c dt0 := rfl

theorem head_succ (c : Cfg α) (dt0 : α) (i : Nat) :
    head c dt0 (i + 1) = iterSt c (head c dt0 i) :=
  Function.iterate_succ_apply' _ _ _

theorem head_count (c : Cfg α) (dt0 : α) (i : Nat) : (head c dt0 i).count = i := by
  induction i with
  | zero => exact (start_clock c dt0).2.1
  | succ i ih => rw [head_succ, (iterSt_clock c _).2.1, ih]

theorem loop_eq (c : Cfg α) (fuel : Nat) (s : St α) (hf : c.maxSteps - s.count ≤ fuel) :
    ∃ n, (∀ i < n, guard c ((iterSt c)^[i] s) = true) ∧ guard c ((iterSt c)^[n] s) = false ∧
      loop c fuel s =
        ((iterSt c)^[n] s, (List.range n).flatMap fun i => iterEv c ((iterSt c)^[i] s)) := by
  induction fuel generalizing s with
  | zero =>
    have : ¬ s.count < c.maxSteps := Nat.not_lt.mpr (Nat.le_of_sub_eq_zero (Nat.le_zero.mp hf))
    exact ⟨0, nofun, Bool.eq_false_iff.mpr fun h => this ((guard_eq_true c s).mp h).2, rfl⟩
  | succ m ih =>
    cases hg : guard c s with
    | false => exact ⟨0, nofun, hg, loop_not_guard c _ s hg⟩
    | true =>
      obtain ⟨n, h1, h2, h3⟩ := ih (iterSt c s)
        (by rw [(iterSt_clock c s).2.1, Nat.sub_add_eq]; exact Nat.sub_le_of_le_add hf)
      refine ⟨n + 1, fun i hi => ?_, h2, ?_⟩
      · cases i with
        | zero => exact hg
        | succ i => exact h1 i (Nat.lt_of_succ_lt_succ hi)
      · rw [loop_guard c m s hg, h3, List.range_succ_eq_map, List.flatMap_cons, List.flatMap_map]
        rfl

structure Trace (c : Cfg α) (dt0 : α) (n : Nat) : Prop where
  running : ∀ i < n, guard c (head c dt0 i) = true
  stopped : guard c (head c dt0 n) = false
  final : (solve c dt0).1 = head c dt0 n
  events : (solve c dt0).2 = Ev.dump (init c dt0) ::
    ((List.range n).flatMap fun i => iterEv c (head c dt0 i)) ++ [Ev.dump (head c dt0 n)]

theorem solve_trace (c : Cfg α) (dt0 : α) : Trace c dt0 (solve c dt0).1.count := by
  obtain ⟨n, h1, h2, h3⟩ := loop_eq c c.maxSteps (start c dt0) (Nat.sub_le _ _)
  have hf : (solve c dt0).1 = head c dt0 n := by rw [solve, h3]; rfl
  rw [hf, head_count]
  exact ⟨h1, h2, hf, by rw [solve, h3]; rfl⟩

section
variable {c : Cfg α} {dt0 : α} {n : Nat} (T : Trace c dt0 n)
include T

theorem Trace.count_le : n ≤ c.maxSteps := by
  cases n with
  | zero => exact Nat.zero_le _
  | succ m =>
    have h := ((guard_eq_true c _).mp (T.running m (Nat.lt_succ_self m))).2
    rwa [head_count] at h

theorem Trace.mem_events (e : Ev α) : e ∈ (solve c dt0).2 ↔ e = Ev.dump (init c dt0) ∨
    (∃ i < n, e ∈ iterEv c (head c dt0 i)) ∨ e = Ev.dump (head c dt0 n) := by
  simp only [T.events, List.mem_cons, List.mem_append, List.mem_flatMap, List.mem_range,
    List.not_mem_nil, or_false, or_assoc]

theorem Trace.final_dump : Ev.dump (head c dt0 n) ∈ (solve c dt0).2 :=
  (T.mem_events _).mpr (Or.inr (Or.inr rfl))

theorem Trace.of_dump_mem {s : St α} (h : Ev.dump s ∈ (solve c dt0).2) :
    s = init c dt0 ∨ ∃ i ≤ n, s = head c dt0 i := by
  rcases (T.mem_events _).mp h with h | ⟨i, hi, he⟩ | h
  · cases h; exact Or.inl rfl
  · rcases mem_iterEv c _ _ he with h | h | h | h <;> cases h
    exact Or.inr ⟨i + 1, hi, (head_succ c dt0 i).symm⟩
  · cases h; exact Or.inr ⟨n, Nat.le_refl n, rfl⟩

end

end operations

open scoped PysphVerif.OrderChain
variable {α : Type} [Field α] [LinearOrder α] [IsStrictOrderedRing α]

theorem absv_eq_abs (x : α) : absv x = |x| :=
  ite_eq_iff'.mpr ⟨fun h => (abs_of_neg h).symm, fun h => (abs_of_nonneg (not_lt.mp h)).symm⟩

/-- what C10 assumes about a run -/
structure Good (c : Cfg α) (dt0 : α) : Prop where
  hEPS : 0 ≤ c.EPS
  htf : 0 ≤ c.tf
  hcast : ∀ n, 0 ≤ c.cast n
  hdamp : ∀ k, 0 < c.dampFac k
  hadapt : ∀ k v, c.adapt k = some v → 0 < v
  hdt0 : 0 < dt0
  hsorted : c.outT.Pairwise (· ≤ ·)

/-- `guard` without the `max_steps` half -/
def Running (c : Cfg α) (s : St α) : Prop := s.eps < c.tf - s.t

/-- while the loop runs neither early return (of `_get_timestep`, of
`_dump_output_if_needed`) is taken -/
theorem running_not_early (c : Cfg α) (s : St α) (h : Running c s) :
    ¬ absv (c.tf - s.t) < s.eps ∧ ¬ absv (s.t - c.tf) < s.eps := by
  rw [absv_eq_abs, absv_eq_abs, abs_sub_comm s.t c.tf, and_self]
  exact not_lt.mpr (h.le.trans (le_abs_self _))

theorem dampAt_pos (c : Cfg α) (hdamp : ∀ k, 0 < c.dampFac k) (k : Nat) : 0 < dampAt c k := by
  unfold dampAt
  split
  · exact hdamp k
  · exact zero_lt_one

theorem landOn_not_past (s : St α) {l : List α} (hs : l.Pairwise (· ≤ ·)) {r : St α}
    (hr : landOn s l = r) : r.dt ≤ s.dt ∧ ∀ T ∈ l, s.eps < T - s.t → s.t + r.dt ≤ T := by
  subst hr
  induction l with
  | nil => exact ⟨le_rfl, nofun⟩
  | cons T rest ih =>
    obtain ⟨hT, hrest⟩ := List.pairwise_cons.mp hs
    rw [landOn]
    split
    · -- the step is cut to the first requested time inside it; the list being sorted, the earliest
      rename_i hb
      refine ⟨((tooBig_iff s T).mp hb).2.le, fun T' hT' _ => ?_⟩
      show s.t + (T - s.t) ≤ T'
      rw [add_sub_cancel]
      exact (List.mem_cons.mp hT').elim (fun h => h.ge) (hT T')
    · -- `T` is passed over: if more than ε ahead, the step ends at or before it; and it is not
      -- lengthened afterwards
      rename_i hb
      obtain ⟨h1, h2⟩ := ih hrest
      refine ⟨h1, List.forall_mem_cons.mpr ⟨fun hgt => ?_, h2⟩⟩
      have := not_and.mp (mt (tooBig_iff s T).mpr hb) hgt
      exact (add_le_add_right h1 _).trans (le_sub_iff_add_le'.mp (not_lt.mp this))

/-- `s` is the loop head that `_get_timestep` and then `_land_on_output_time` make of a state
`a` outside the early return, `u` being the step `_compute_timestep` proposed.  `saved s` is the
step `_get_timestep` chose (`land`); `s.dt` is that step, or its cut to a requested time (`cut`),
and ends at or before every requested time more than ε ahead (`not_past`, from `landOn_not_past`). -/
structure Pass (c : Cfg α) (a : St α) (u : α) (s : St α) : Prop where
  t : s.t = a.t
  eps : s.eps = a.eps
  count : s.count = a.count
  damp : s.damp = dampAt c a.count
  nom : s.nom = u * s.damp
  land : s.landed = true ∧ saved s = c.tf - s.t ∧ c.tf - s.eps < s.t + s.nom ∨
    s.landed = false ∧ saved s = s.nom ∧ s.t + s.nom ≤ c.tf - s.eps
  cut : s.prevDt = none ∨ ∃ T ∈ c.outT, s.eps < T - s.t ∧ T - s.t < saved s ∧ s.dt = T - s.t
  not_past : ∀ T ∈ c.outT, s.eps < T - s.t → s.t + s.dt ≤ T
  src : u = saved a / a.damp ∨ c.adapt a.calls = some u
  fixed : c.adaptive = false → u = saved a / a.damp
  adaptive : c.adaptive = true → 1 ≤ s.calls ∧ ∀ v, c.adapt (s.calls - 1) = some v → u = v

theorem pass_spec (c : Cfg α) (a : St α) (hr : Running c a) (hs : c.outT.Pairwise (· ≤ ·)) :
    ∃ u, Pass c a u (landOn (getTimestep c a) c.outT) := by
  obtain ⟨u, k, hc, h1, h2, h3⟩ := computeTimestep_spec c { a with dt := saved a, prevDt := none }
  refine ⟨u, ?_⟩
  rw [getTimestep, if_neg (running_not_early c a hr).1, restorePrev_eq, hc]
  unfold dampAndLand
  -- `_get_timestep` lands on `tf` or not; `_land_on_output_time` cuts the step or not
  split <;> rename_i hl <;>
    rcases landOn_cases _ c.outT with heq | ⟨T, hT, hT1, hT2, heq⟩ <;>
    have np := (landOn_not_past _ hs heq).2 <;> rw [heq]
  · exact ⟨rfl, rfl, rfl, rfl, rfl, Or.inl ⟨rfl, rfl, hl⟩, Or.inl rfl, np, h1, h2, h3⟩
  · exact ⟨rfl, rfl, rfl, rfl, rfl, Or.inl ⟨rfl, rfl, hl⟩, Or.inr ⟨T, hT, hT1, hT2, rfl⟩, np, h1, h2, h3⟩
  · exact ⟨rfl, rfl, rfl, rfl, rfl, Or.inr ⟨rfl, rfl, not_lt.mp hl⟩, Or.inl rfl, np, h1, h2, h3⟩
  · exact ⟨rfl, rfl, rfl, rfl, rfl, Or.inr ⟨rfl, rfl, not_lt.mp hl⟩, Or.inr ⟨T, hT, hT1, hT2, rfl⟩,
      np, h1, h2, h3⟩

theorem start_pass (c : Cfg α) (dt0 : α) (h : Running c (start c dt0))
    (hs : c.outT.Pairwise (· ≤ ·)) : ∃ u, Pass c (init c dt0) u (start c dt0) := by
  obtain ⟨h1, -, h3⟩ := start_clock c dt0
  have ha : Running c (init c dt0) := by
    unfold Running at h ⊢
    rw [h1, h3] at h
    exact h
  exact pass_spec c _ ha hs

theorem iterSt_pass (c : Cfg α) (s : St α) (h : Running c (iterSt c s))
    (hs : c.outT.Pairwise (· ≤ ·)) : ∃ u, Pass c (advance c s) u (iterSt c s) := by
  obtain ⟨h1, -, h3⟩ := iterSt_clock c s
  obtain ⟨g1, g2, -⟩ := getTimestep_clock c (advance c s)
  have ha : Running c (advance c s) := by
    unfold Running at h ⊢
    rw [h1, h3] at h
    exact h
  rw [iterSt, dumpIfNeeded_fst, if_neg]
  · exact pass_spec c _ ha hs
  · rw [g1, g2]
    exact (running_not_early c _ ha).2

/-- what holds at a loop head from which another pass is made -/
structure Live (c : Cfg α) (s : St α) : Prop where
  damp_pos : 0 < s.damp
  damp_eq : s.damp = dampAt c s.count
  dt_pos : 0 < s.dt
  within_tf : s.t + s.dt ≤ c.tf
  saved_pos : 0 < saved s
  saved_within : s.t + saved s ≤ c.tf
  /-- the step is the current step size, shortened, or lengthened by < ε to land on tf -/
  le_nom : s.dt ≤ s.nom ∨ (s.landed = true ∧ s.dt < s.nom + s.eps)
  not_past : ∀ T ∈ c.outT, s.eps < T - s.t → s.t + s.dt ≤ T
  /-- so `_get_solver_data` records `nom / damp`, the proposal itself -/
  rec_nom : s.landed = false → saved s = s.nom
  land_reach : s.landed = true → saved s = c.tf - s.t
  shape : s.prevDt = none ∨ ∃ T ∈ c.outT, s.dt = T - s.t ∧ s.t < T

/-- the loop-head invariant, which the final head satisfies too (`Running` may hold there: `max_steps`
can end the loop) -/
structure Inv (c : Cfg α) (s : St α) : Prop where
  eps_nonneg : 0 ≤ s.eps
  t_le_tf : s.t ≤ c.tf
  live : Running c s → Live c s

theorem Pass.live {c : Cfg α} {dt0 u : α} {a s : St α} (P : Pass c a u s) (G : Good c dt0)
    (heps : 0 ≤ a.eps) (hd : 0 < a.damp) (hsv : 0 < saved a) (hr : Running c s) : Live c s := by
  have hF := dampAt_pos c G.hdamp a.count
  have hu : 0 < u := P.src.elim (fun h => h ▸ div_pos hsv hd) (G.hadapt _ _)
  have hdamp : 0 < s.damp := P.damp ▸ hF
  have hnom : 0 < s.nom := P.nom ▸ mul_pos hu hdamp
  have hge : 0 ≤ s.eps := P.eps ▸ heps
  obtain ⟨hs0, hstf, hle, hrec, hreach⟩ : 0 < saved s ∧ s.t + saved s ≤ c.tf ∧
      (saved s ≤ s.nom ∨ (s.landed = true ∧ saved s < s.nom + s.eps)) ∧
      (s.landed = false → saved s = s.nom) ∧ (s.landed = true → saved s = c.tf - s.t) := by
    rcases P.land with ⟨h1, h, h'⟩ | ⟨h1, h, h'⟩ <;> rw [h]
    · exact ⟨lt_of_le_of_lt hge hr, le_of_eq (add_sub_cancel _ _),
        Or.inr ⟨h1, by linarith only [h']⟩, fun h0 => Bool.noConfusion (h1.symm.trans h0),
        fun _ => rfl⟩
    · exact ⟨hnom, h'.trans (sub_le_self _ hge), Or.inl le_rfl, fun _ => rfl,
        fun h0 => Bool.noConfusion (h1.symm.trans h0)⟩
  have hde : s.damp = dampAt c s.count := by rw [P.count]; exact P.damp
  rcases P.cut with hp | ⟨T, hT, hT1, hT2, hdt⟩
  · have hsd : saved s = s.dt := by unfold saved; rw [hp]
    rw [hsd] at hs0 hstf hle
    exact ⟨hdamp, hde, hs0, hstf, hsd ▸ hs0, hsd ▸ hstf, hle, P.not_past, hrec, hreach, Or.inl hp⟩
  · refine ⟨hdamp, hde, hdt ▸ lt_of_le_of_lt hge hT1, ?_, hs0, hstf,
      hle.imp (hdt ▸ hT2.le).trans (fun h => ⟨h.1, (hdt ▸ hT2).trans h.2⟩), P.not_past, hrec, hreach,
      Or.inr ⟨T, hT, hdt, sub_pos.mp (lt_of_le_of_lt hge hT1)⟩⟩
    rw [hdt]; exact le_trans (add_le_add_right hT2.le s.t) hstf

theorem head_eps_eq_zero (c : Cfg α) (dt0 : α) (h0 : c.EPS = 0) (i : Nat) :
    (head c dt0 i).eps = 0 := by
  cases i with
  | zero => rw [head_zero, (start_clock c dt0).2.2, h0, zero_mul]
  | succ i => rw [head_succ, (iterSt_clock c _).2.2, h0, zero_mul, zero_mul]

section
variable {c : Cfg α} {dt0 : α} {n : Nat} (T : Trace c dt0 n)
include T

theorem Trace.short {i : Nat} (hi : i < n) : Running c (head c dt0 i) :=
  ((guard_eq_true c _).mp (T.running i hi)).1

theorem Trace.reached (h : n < c.maxSteps) : ¬ Running c (head c dt0 n) := fun hr =>
  Bool.eq_false_iff.mp T.stopped ((guard_eq_true c _).mpr ⟨hr, (head_count c dt0 n).symm ▸ h⟩)

theorem Trace.inv (G : Good c dt0) {i : Nat} (hi : i ≤ n) : Inv c (head c dt0 i) := by
  induction i with
  | zero =>
    obtain ⟨h1, -, h3⟩ := start_clock c dt0
    have he := mul_nonneg G.hEPS G.htf
    rw [head_zero]
    refine ⟨h3 ▸ he, h1 ▸ G.htf, fun hr => ?_⟩
    obtain ⟨u, P⟩ := start_pass c dt0 hr G.hsorted
    exact P.live G he zero_lt_one G.hdt0 hr
  | succ i ih =>
    obtain ⟨h1, -, h3⟩ := iterSt_clock c (head c dt0 i)
    have L := (ih (Nat.le_of_succ_le hi)).live (T.short hi)
    have he : 0 ≤ c.EPS * c.tf * c.cast ((head c dt0 i).count + 1) :=
      mul_nonneg (mul_nonneg G.hEPS G.htf) (G.hcast _)
    rw [head_succ]
    refine ⟨h3 ▸ he, h1 ▸ L.within_tf, fun hr => ?_⟩
    obtain ⟨u, P⟩ := iterSt_pass c _ hr G.hsorted
    exact P.live G he L.damp_pos L.saved_pos hr

theorem Trace.live (G : Good c dt0) {i : Nat} (hi : i < n) : Live c (head c dt0 i) :=
  (T.inv G (Nat.le_of_lt hi)).live (T.short hi)

theorem Trace.final_inv (G : Good c dt0) : Inv c (solve c dt0).1 :=
  T.final ▸ T.inv G (Nat.le_refl n)

theorem Trace.t_mono (G : Good c dt0) {i j : Nat} (hij : i ≤ j) (hj : j ≤ n) :
    (head c dt0 i).t ≤ (head c dt0 j).t := by
  induction j, hij using Nat.le_induction with
  | base => exact le_rfl
  | succ j _ ih =>
    rw [head_succ, (iterSt_clock c _).1]
    exact (ih (Nat.le_of_succ_le hj)).trans (le_add_of_nonneg_right (T.live G hj).dt_pos.le)

theorem Trace.arrival_dumped {i : Nat} (hi : i < n)
    (h : (i + 1) % c.pfreq = 0 ∨
      ∃ T' ∈ c.outT, |T' - (head c dt0 (i + 1)).t| < (head c dt0 (i + 1)).eps) :
    Ev.dump (head c dt0 (i + 1)) ∈ (solve c dt0).2 := by
  obtain ⟨g1, g2, g3⟩ := getTimestep_clock c (advance c (head c dt0 i))
  obtain ⟨i1, i2, i3⟩ := iterSt_clock c (head c dt0 i)
  rw [← head_succ] at i1 i2 i3
  replace g1 := g1.trans i1.symm
  replace g2 := g2.trans i3.symm
  replace g3 := (g3.trans i2.symm).trans (head_count c dt0 (i + 1))
  by_cases hearly : absv ((head c dt0 (i + 1)).t - c.tf) < (head c dt0 (i + 1)).eps
  · -- within ε of `tf` `_dump_output_if_needed` returns early and the loop ends: the dump is `solve`'s final one
    obtain rfl : i + 1 = n := Nat.le_antisymm hi (Nat.not_lt.mp fun hlt =>
      (running_not_early c _ (T.short hlt)).2 hearly)
    exact T.final_dump
  · refine (T.mem_events _).mpr (Or.inr (Or.inl ⟨i, hi, List.mem_append_right _ ?_⟩))
    rw [dumpIfNeeded_snd, g1, g2, g3, if_neg hearly, if_pos, ← iterSt, ← head_succ]
    · exact List.mem_cons_self
    · rw [Bool.or_eq_true, beq_iff_eq]
      refine h.imp id (fun ⟨T', hT', hn⟩ => ?_)
      exact List.any_eq_true.mpr ⟨T', hT', by rw [nearOne, absv_eq_abs, g1, g2]; exact decide_eq_true hn⟩

end

end PysphVerif.SolverLoop
