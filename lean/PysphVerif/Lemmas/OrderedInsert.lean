/-!
Insertion into a sorted list.  The model has one insertion sort per `sorted(...)` / `std::sort` it
transcribes (by array name, by key, by number, …), each a structural recursion of its own so that
the kernel can run it.  What they share is the pair of defining equations of an ordered insert,
`ins x [] = [x]` and `ins x (y :: ys) = if p x y then x :: y :: ys else y :: ins x ys`; the two
facts every use needs follow from these equations alone.  Core Lean only.
-/
namespace PysphVerif.OrderedInsert

variable {α : Type} {ins : α → List α → List α} {p : α → α → Prop} [DecidableRel p]

theorem perm (h1 : ∀ x y ys, ins x (y :: ys) = if p x y then x :: y :: ys else y :: ins x ys)
    (h0 : ∀ x, ins x [] = [x])
    (x : α) (l : List α) : (ins x l).Perm (x :: l) := by
  induction l with
  | nil => rw [h0]
  | cons y ys ih =>
    rw [h1]
    split
    · exact List.Perm.refl _
    · exact (List.Perm.cons y ih).trans (List.Perm.swap x y ys)

theorem pairwise (h1 : ∀ x y ys, ins x (y :: ys) = if p x y then x :: y :: ys else y :: ins x ys)
    (h0 : ∀ x, ins x [] = [x])
    {R : α → α → Prop} (htrans : ∀ {a b c}, R a b → R b c → R a c)
    (hp : ∀ {x y}, p x y → R x y) (hn : ∀ {x y}, ¬ p x y → R y x)
    (x : α) {l : List α} (hl : l.Pairwise R) : (ins x l).Pairwise R := by
  induction l with
  | nil => rw [h0]; exact List.pairwise_singleton R x
  | cons y ys ih =>
    obtain ⟨hy, hys⟩ := List.pairwise_cons.mp hl
    rw [h1]
    split
    · next hxy =>
      exact List.pairwise_cons.mpr ⟨fun z hz => (List.mem_cons.mp hz).elim (· ▸ hp hxy)
        fun hz => htrans (hp hxy) (hy z hz), hl⟩
    · next hxy =>
      refine List.pairwise_cons.mpr ⟨fun z hz => ?_, ih hys⟩
      exact (List.mem_cons.mp ((perm h1 h0 x ys).mem_iff.mp hz)).elim (· ▸ hn hxy) (hy z)

theorem foldr_perm (h1 : ∀ x y ys, ins x (y :: ys) = if p x y then x :: y :: ys else y :: ins x ys)
    (h0 : ∀ x, ins x [] = [x])
    (l : List α) : (l.foldr ins []).Perm l := by
  induction l with
  | nil => exact List.Perm.refl _
  | cons x xs ih => exact (perm h1 h0 x _).trans (List.Perm.cons x ih)

theorem foldr_pairwise (h1 : ∀ x y ys, ins x (y :: ys) = if p x y then x :: y :: ys else y :: ins x ys)
    (h0 : ∀ x, ins x [] = [x])
    {R : α → α → Prop} (htrans : ∀ {a b c}, R a b → R b c → R a c)
    (hp : ∀ {x y}, p x y → R x y) (hn : ∀ {x y}, ¬ p x y → R y x) (l : List α) :
    (l.foldr ins []).Pairwise R :=
  List.foldrRecOn (motive := List.Pairwise R) l ins List.Pairwise.nil
    fun _ h x _ => pairwise h1 h0 @htrans @hp @hn x h

end PysphVerif.OrderedInsert
