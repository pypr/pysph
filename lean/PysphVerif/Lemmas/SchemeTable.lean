import PysphVerif.Lemmas.SchemeStages
import PysphVerif.Gen.Schemes
/-!
C12 — the generated table.  The kernel evaluates it twice: once over the bodies
(`bodies_ok`) and once over the grids (`grids_ok`).  `configOk` and `gridOk` say
what one pass establishes, for any table; what `Props/C12.lean` states about
every body, every grid and every grid point is read off these two facts (its
`rejections_only_magma2` and `schemes_covered` are evaluations of their own).
-/
namespace PysphVerif.SchemeNeeds

theorem all_imp {α : Type} {l : List α} {p q : α → Bool} (h : l.all p = true)
    (hpq : ∀ a, p a = true → q a = true) : l.all q = true :=
  List.all_eq_true.mpr fun a ha => hpq a (List.all_eq_true.mp h a ha)

/-- everything C12 asks of one configuration.  The stage check is made on the steppers of array `0` (the fluid)
alone: that is more than `stagesOk ik sk b` (`stagesOk_of_onlyArray`) and is what survives a caller's
`extra_steppers` for the other arrays (`stages_withExtra_of_array`). -/
def configOk (t : List PreSym) (kinds : List EqKind) (sk : List StepKind) (ik : List IntegKind)
    (b : Body) : Bool :=
  checkBody t kinds sk b && acceptsBody t kinds sk b && typesOk kinds sk b &&
  stagesOk ik sk (onlyArray b 0)

section
variable {t : List PreSym} {kinds : List EqKind} {sk : List StepKind} {ik : List IntegKind}
  {b : Body} (h : configOk t kinds sk ik b = true)
include h

theorem configOk_check : checkBody t kinds sk b = true := by
  simp only [configOk, Bool.and_eq_true] at h
  exact h.1.1.1

theorem configOk_accepts : acceptsBody t kinds sk b = true := by
  simp only [configOk, Bool.and_eq_true] at h
  exact h.1.1.2

theorem configOk_types : typesOk kinds sk b = true := by
  simp only [configOk, Bool.and_eq_true] at h
  exact h.1.2

theorem configOk_fluid_stages : stagesOk ik sk (onlyArray b 0) = true := by
  simp only [configOk, Bool.and_eq_true] at h
  exact h.2

end

theorem stagesOk_of_onlyArray {sk : List StepKind} {ik : List IntegKind} {b : Body} (a : Nat)
    (h : stagesOk ik sk (onlyArray b a) = true) : stagesOk ik sk b = true :=
  (stagesOk_iff ik sk b).mpr <|
    stagesProvided_mono ik (onlyArray b a) b (fun _ _ hk => hk) rfl
      (fun _ hst => (List.mem_filter.mp hst).1) ((stagesOk_iff ik sk _).mp h)

def gridOk (n : Nat) (g : SchemeGrid) : Bool := runsLength g.runs == gridSize g && runsInRange n g

theorem gridOk_length {n : Nat} {g : SchemeGrid} (h : gridOk n g = true) :
    g.bodyOf.length = gridSize g := by
  simp only [gridOk, Bool.and_eq_true, beq_iff_eq] at h
  rw [SchemeGrid.bodyOf, expandRuns_length, h.1]

theorem gridOk_range {n : Nat} {g : SchemeGrid} (h : gridOk n g = true) : runsInRange n g = true := by
  simp only [gridOk, Bool.and_eq_true] at h
  exact h.2

open PysphVerif.Gen.Schemes

theorem bodies_ok : bodies.all (configOk preTable eqKinds stepKinds integKinds) = true := by
  decide +kernel

theorem grids_ok : schemeTable.all (gridOk bodies.length) = true := by
  decide +kernel

theorem points_ok {g : SchemeGrid} (hg : g ∈ schemeTable) {i : Nat} (hi : i < gridSize g) :
    PointSat bodies (fun b => configOk preTable eqKinds stepKinds integKinds b = true) g i := by
  have hgo := List.all_eq_true.mp grids_ok g hg
  exact pointSat_of_runs bodies_ok (gridOk_range hgo) (gridOk_length hgo ▸ hi)

end PysphVerif.SchemeNeeds
