import PysphVerif.Model.NnpsZOrder
import PysphVerif.Lemmas.NnpsGrid
import PysphVerif.Lemmas.NnpsMorton
import PysphVerif.Lemmas.NnpsSort
/-!
C01, the z-order family (`Model/NnpsZOrder.lean`).  The cell-id numbering shared by all arrays is
a bijection between the occupied keys and their ids (`ZInv`, `zBuild_inv`).  Every row of
`nbr_boxes[src]` that belongs to the cell id of a particle of ANY array holds the boxes found for
that particle's cell, whichever pass wrote it and however often (`zRows_eq`).  Hence the walk over
a row is exact as soon as the row stands for distinct guarded boxes that hold every true neighbour
(`zRow_exact`, also behind the symmetric mode), and ZOrderNNPS / ExtendedZOrderNNPS (asymmetric)
are exact as soon as the mask covers the cut-off (`zOrder_exact`).
-/
namespace PysphVerif.Nnps

theorem runKeys_eq (K : List Nat) : runKeys K = runStarts id none K := by
  have aux : ∀ (ks : List Nat) (prev : Nat), runKeysAux prev ks = runStarts id (some prev) ks := by
    intro ks
    induction ks with
    | nil => intro _; rfl
    | cons a t ih =>
      intro prev
      unfold runKeysAux
      by_cases h : a = prev
      · subst h; simp [runStarts, runMarks, ih a]
      · simp [runStarts, runMarks, h, Ne.symm h, ih a]
  cases K with
  | nil => rfl
  | cons a t => simp [runKeys, aux, runStarts, runMarks]

theorem mem_runKeys (K : List Nat) (k : Nat) : k ∈ runKeys K ↔ k ∈ K := by
  rw [runKeys_eq]
  simpa using mem_runStarts id K k

theorem runKeys_nodup (K : List Nat) (hs : K.Pairwise (fun a b => a ≤ b)) : (runKeys K).Nodup := by
  rw [runKeys_eq]
  simpa using runStarts_nodup id K hs

theorem tabLookup_eq (k : Nat) (t : List (Nat × Nat)) :
    tabLookup k t = (t.find? (fun e => e.1 = k)).map (·.2) := by
  induction t with
  | nil => rfl
  | cons e es ih =>
    rw [tabLookup, List.find?_cons, ih]
    by_cases he : e.1 = k <;> simp [he]

/-- what `fill_array` keeps true after every array; `inj` ranges over the tables of ALL arrays -/
structure ZInv (zs : List ZArr) (cur : Nat) : Prop where
  sorted : ∀ a ∈ zs, a.pids.Pairwise (fun p q => a.key p ≤ a.key q)
  keysEq : ∀ a ∈ zs, a.keys = a.pids.map a.key
  tabkeys : ∀ a ∈ zs, a.tab.map (·.1) = runKeys a.keys
  bound : ∀ a ∈ zs, ∀ e ∈ a.tab, e.2 < cur
  inj : ∀ a ∈ zs, ∀ b ∈ zs, ∀ e ∈ a.tab, ∀ e' ∈ b.tab, (e.1 = e'.1 ↔ e.2 = e'.2)

theorem cids_mem_tab (a : ZArr) (hke : a.keys = a.pids.map a.key)
    (htk : a.tab.map (·.1) = runKeys a.keys) (p : Nat)
    (hp : p ∈ a.pids) : (a.key p, a.cids p) ∈ a.tab := by
  have hk : a.key p ∈ a.tab.map (·.1) := by
    rw [htk, mem_runKeys, hke]
    exact List.mem_map_of_mem hp
  obtain ⟨e, he, hek⟩ := List.mem_map.mp hk
  -- the lookup finds an entry with `p`'s key: that entry is `(key p, cids p)`
  obtain ⟨e', hf⟩ := Option.isSome_iff_exists.mp
    (List.find?_isSome.mpr ⟨e, he, decide_eq_true hek⟩ : (a.tab.find? (fun e => e.1 = a.key p)).isSome)
  have h1 : e'.1 = a.key p := by simpa using List.find?_some hf
  have h2 : a.cids p = e'.2 := by rw [ZArr.cids, tabLookup_eq, hf]; rfl
  rw [← h1, h2]
  exact List.mem_of_find?_eq_some hf

theorem cidOfKey_spec (a : ZArr) (hke : a.keys = a.pids.map a.key)
    (htk : a.tab.map (·.1) = runKeys a.keys) (k : Nat) :
    (∀ c, a.cidOfKey k = some c → (k, c) ∈ a.tab) ∧
    (a.cidOfKey k = none → ∀ e ∈ a.tab, e.1 ≠ k) := by
  unfold ZArr.cidOfKey ZArr.keyToIdx
  cases hf : firstIdx a.keys k with
  | none =>
    refine ⟨fun c h => by simp at h, fun _ e he hek => ?_⟩
    apply (firstIdx_eq_none_iff _ _).mp hf
    rw [← mem_runKeys, ← htk, ← hek]
    exact List.mem_map_of_mem he
  | some i =>
    rw [hke] at hf
    obtain ⟨hp, hkey⟩ := getD_firstIdx a.key k a.pids hf 0
    refine ⟨fun c h => ?_, fun h => by simp at h⟩
    have := cids_mem_tab a hke htk _ hp
    rwa [hkey, Option.some.inj h] at this

theorem lookPrev_eq (zs : List ZArr) (k : Nat) : lookPrev zs k = zs.findSome? (·.cidOfKey k) := by
  induction zs with
  | nil => rfl
  | cons a t ih => rw [lookPrev, List.findSome?_cons, ih]; cases a.cidOfKey k <;> rfl

theorem lookPrev_spec (zs : List ZArr) (hke : ∀ a ∈ zs, a.keys = a.pids.map a.key)
    (htk : ∀ a ∈ zs, a.tab.map (·.1) = runKeys a.keys) (k : Nat) :
    (∀ c, lookPrev zs k = some c → ∃ a ∈ zs, (k, c) ∈ a.tab) ∧
    (lookPrev zs k = none → ∀ a ∈ zs, ∀ e ∈ a.tab, e.1 ≠ k) := by
  rw [lookPrev_eq]
  refine ⟨fun c h => ?_, fun h a ha => ?_⟩
  · obtain ⟨a, ha, hc⟩ := List.exists_of_findSome?_eq_some h
    exact ⟨a, ha, (cidOfKey_spec a (hke a ha) (htk a ha) k).1 c hc⟩
  · exact (cidOfKey_spec a (hke a ha) (htk a ha) k).2 (List.findSome?_eq_none_iff.mp h a ha)

/-- loop invariant of the run-start loop of `fill_array` -/
structure StepInv (zs : List ZArr) (cur : Nat) (t : List (Nat × Nat)) (cur' : Nat) : Prop where
  le : cur ≤ cur'
  bound : ∀ e ∈ t, e.2 < cur'
  inj : ∀ e ∈ t ++ zs.flatMap (·.tab), ∀ e' ∈ t ++ zs.flatMap (·.tab), (e.1 = e'.1 ↔ e.2 = e'.2)

theorem keyId_inj_snoc (t Z : List (Nat × Nat)) (x : Nat × Nat)
    (h : ∀ e ∈ t ++ Z, ∀ e' ∈ t ++ Z, (e.1 = e'.1 ↔ e.2 = e'.2))
    (hx : x ∈ t ++ Z ∨ ∀ e ∈ t ++ Z, e.1 ≠ x.1 ∧ e.2 ≠ x.2) :
    ∀ e ∈ t ++ [x] ++ Z, ∀ e' ∈ t ++ [x] ++ Z, (e.1 = e'.1 ↔ e.2 = e'.2) := by
  have hm : ∀ e ∈ t ++ [x] ++ Z, e = x ∨ e ∈ t ++ Z := fun e he => by
    simpa [or_assoc, or_left_comm] using he
  intro e he e' he'
  rcases hx with hx | hx
  · exact h e ((hm e he).elim (fun q => q ▸ hx) id) e' ((hm e' he').elim (fun q => q ▸ hx) id)
  · rcases hm e he with rfl | h1 <;> rcases hm e' he' with rfl | h2
    · exact ⟨fun _ => rfl, fun _ => rfl⟩
    · exact ⟨fun q => absurd q.symm (hx e' h2).1, fun q => absurd q.symm (hx e' h2).2⟩
    · exact ⟨fun q => absurd q (hx e h1).1, fun q => absurd q (hx e h1).2⟩
    · exact h e h1 e' h2

theorem cidStep_inv (zs : List ZArr) (cur : Nat) (hz : ZInv zs cur) (t : List (Nat × Nat))
    (cur' : Nat) (h : StepInv zs cur t cur') (k : Nat) (hk : k ∉ t.map (·.1)) :
    StepInv zs cur (cidStep zs (t, cur') k).1 (cidStep zs (t, cur') k).2 ∧
      (cidStep zs (t, cur') k).1.map (·.1) = t.map (·.1) ++ [k] := by
  have hlp := lookPrev_spec zs hz.keysEq hz.tabkeys k
  unfold cidStep
  cases hl : lookPrev zs k with
  | some c =>
    obtain ⟨a0, ha0, hm0⟩ := hlp.1 c hl
    refine ⟨⟨h.le, ?_, keyId_inj_snoc t _ _ h.inj
      (Or.inl (List.mem_append_right _ (List.mem_flatMap.mpr ⟨a0, ha0, hm0⟩)))⟩, by simp⟩
    exact List.forall_mem_append.mpr ⟨h.bound,
      List.forall_mem_singleton.mpr (lt_of_lt_of_le (hz.bound a0 ha0 _ hm0) h.le)⟩
  | none =>
    refine ⟨⟨Nat.le_succ_of_le h.le, ?_, keyId_inj_snoc t _ _ h.inj (Or.inr fun e he => ?_)⟩,
      by simp⟩
    · exact List.forall_mem_append.mpr ⟨fun e he => Nat.lt_succ_of_lt (h.bound e he),
        List.forall_mem_singleton.mpr (Nat.lt_succ_self _)⟩
    · rcases List.mem_append.mp he with he | he
      · exact ⟨fun hek => hk (List.mem_map.mpr ⟨e, he, hek⟩), ne_of_lt (h.bound e he)⟩
      · obtain ⟨a, ha, hea⟩ := List.mem_flatMap.mp he
        exact ⟨hlp.2 hl a ha e hea, ne_of_lt (lt_of_lt_of_le (hz.bound a ha e hea) h.le)⟩

def ZIn.Sorted (inp : ZIn) : Prop :=
  inp.pids.Pairwise (fun p q => zKey (inp.cellAt p) ≤ zKey (inp.cellAt q))

def ZArr.toIn (a : ZArr) : ZIn := { n := a.n, cellAt := a.cellAt, pids := a.pids }

theorem zFill_toIn (prev : List ZArr) (cur : Nat) (inp : ZIn) : (zFill prev cur inp).1.toIn = inp := rfl

theorem zFill_inv (zs : List ZArr) (cur : Nat) (hz : ZInv zs cur) (inp : ZIn) (hs : inp.Sorted) :
    ZInv (zs ++ [(zFill zs cur inp).1]) (zFill zs cur inp).2 := by
  have hnd := runKeys_nodup (zFill zs cur inp).1.keys (List.pairwise_map.mpr hs)
  have hmem : ∀ a ∈ zs ++ [(zFill zs cur inp).1], ∀ e ∈ a.tab,
      e ∈ (zFill zs cur inp).1.tab ++ zs.flatMap (·.tab) :=
    List.forall_mem_append.mpr ⟨fun a ha e he => List.mem_append_right _ (List.mem_flatMap.mpr ⟨a, ha, he⟩),
      List.forall_mem_singleton.mpr fun e he => List.mem_append_left _ he⟩
  have h0 : StepInv zs cur [] cur := ⟨le_refl _, fun e he => (by cases he), fun e he e' he' => by
    obtain ⟨a, ha, hea⟩ := List.mem_flatMap.mp he
    obtain ⟨b, hb, heb⟩ := List.mem_flatMap.mp he'
    exact hz.inj a ha b hb e hea e' heb⟩
  -- run start by run start: the keys entered so far are new ones, `hnd`
  obtain ⟨hI, hK⟩ := foldl_prefix_inv (cidStep zs)
    (fun st done => StepInv zs cur st.1 st.2 ∧ st.1.map (·.1) = done)
    (runKeys (zFill zs cur inp).1.keys) ([], cur) ⟨h0, rfl⟩ fun st done k rest e ⟨h, hd⟩ => by
      have hk : k ∉ st.1.map (·.1) := hd ▸ not_mem_done (e ▸ hnd)
      obtain ⟨h1, h2⟩ := cidStep_inv zs cur hz st.1 st.2 h k hk
      exact ⟨h1, by rw [h2, hd]⟩
  exact ⟨List.forall_mem_append.mpr ⟨hz.sorted, List.forall_mem_singleton.mpr hs⟩,
    List.forall_mem_append.mpr ⟨hz.keysEq, List.forall_mem_singleton.mpr rfl⟩,
    List.forall_mem_append.mpr ⟨hz.tabkeys, List.forall_mem_singleton.mpr hK⟩,
    List.forall_mem_append.mpr ⟨fun a ha e he => lt_of_lt_of_le (hz.bound a ha e he) hI.le,
      List.forall_mem_singleton.mpr hI.bound⟩,
    fun a ha b hb e he e' he' => hI.inj e (hmem a ha e he) e' (hmem b hb e' he')⟩

/-- after the first loop of `_refresh` -/
theorem zBuild_inv (ins : List ZIn) (hs : ∀ inp ∈ ins, inp.Sorted) :
    ZInv (zBuild ins).1 (zBuild ins).2 ∧ (zBuild ins).1.map ZArr.toIn = ins := by
  have h0 : ZInv ([] : List ZArr) 0 :=
    ⟨fun a ha => (by cases ha), fun a ha => (by cases ha), fun a ha => (by cases ha),
      fun a ha => (by cases ha), fun a ha => (by cases ha)⟩
  exact foldl_prefix_inv zBuildStep (fun st done => ZInv st.1 st.2 ∧ st.1.map ZArr.toIn = done) ins
    ([], 0) ⟨h0, rfl⟩ fun st done inp rest e ⟨h, hd⟩ =>
      ⟨zFill_inv st.1 st.2 h inp (hs inp (e ▸ by simp)), by simp [zBuildStep, zFill_toIn, hd]⟩

theorem cids_eq_iff (zs : List ZArr) (cur : Nat) (hz : ZInv zs cur) (a b : ZArr) (ha : a ∈ zs)
    (hb : b ∈ zs) (p q : Nat) (hp : p ∈ a.pids) (hq : q ∈ b.pids) :
    a.cids p = b.cids q ↔ a.key p = b.key q := by
  have h1 := cids_mem_tab a (hz.keysEq a ha) (hz.tabkeys a ha) p hp
  have h2 := cids_mem_tab b (hz.keysEq b hb) (hz.tabkeys b hb) q hq
  exact (hz.inj a ha b hb _ h1 _ h2).symm

theorem zLens_eq (a : ZArr) (ps : List Nat) (prev : Option Nat) (l : Nat → Nat) :
    zLens a prev ps l = (runMarks a.key prev ps).foldl
      (fun l m c => if c = a.cids m.2 then (if m.1 then l c else l c + 1) else l c) l := by
  induction ps generalizing prev l with
  | nil => rfl
  | cons p ps ih =>
    unfold zLens runMarks
    by_cases hpr : prev = some (a.key p) <;> simp [hpr, ih]

theorem runMarks_filter_cid (zs : List ZArr) (cur : Nat) (hz : ZInv zs cur) (a : ZArr) (ha : a ∈ zs)
    (p : Nat) (hp : p ∈ a.pids) :
    (runMarks a.key none a.pids).filter (fun m => a.cids m.2 = a.cids p) =
      markRun true (a.pids.filter (fun q => a.key q = a.key p)) := by
  rw [← runMarks_filter_none a.key _ _ (hz.sorted a ha)]
  apply List.filter_congr
  intro m hm
  rw [decide_eq_decide]
  exact cids_eq_iff zs cur hz a a ha ha m.2 p (mem_of_mem_runMarks a.key hm) hp

theorem zLengths_eq_count (zs : List ZArr) (cur : Nat) (hz : ZInv zs cur) (a : ZArr) (ha : a ∈ zs)
    (p : Nat) (hp : p ∈ a.pids) :
    zLengths a (a.cids p) = a.pids.countP (fun q => a.key q = a.key p) := by
  unfold zLengths
  rw [zLens_eq, foldl_update_slot (fun m : Bool × Nat => a.cids m.2)
    (fun x m => if m.1 then x else x + 1), runMarks_filter_cid zs cur hz a ha p hp,
    List.countP_eq_length_filter]
  cases hf : a.pids.filter (fun q => a.key q = a.key p) with
  | nil => exact absurd (List.mem_filter.mpr ⟨hp, by simp⟩) (hf ▸ List.not_mem_nil)
  | cons p0 r =>
    -- the start leaves the initial 1, each of the others adds 1
    show (r.map (Prod.mk false)).foldl _ 1 = r.length + 1
    rw [List.foldl_map]
    exact List.foldl_add_const.trans (by rw [Nat.one_mul, Nat.add_comm])

/-- a row after `found` was written at its start: the rest keeps the initial -1 -/
def padRow (maskLen : Nat) (L : List Int) : List Int := L ++ (rowInit maskLen).drop L.length

theorem padRow_nil (maskLen : Nat) : padRow maskLen [] = rowInit maskLen := by simp [padRow]

theorem zWrites_eq (b : ZArr) (skip : Nat → Bool) (nbrOf : Cell → Nat → List Int) (ps : List Nat)
    (prev : Option Nat) :
    zWrites b skip nbrOf prev ps = (runMarks b.key prev ps).filterMap fun m =>
      if m.1 && !skip (b.key m.2) then some (b.cids m.2, nbrOf (b.cellAt m.2) (b.cids m.2))
      else none := by
  induction ps generalizing prev with
  | nil => rfl
  | cons p ps ih =>
    unfold zWrites runMarks
    by_cases hpr : prev = some (b.key p)
    · simp [hpr, ih]
    · by_cases hsk : skip (b.key p) = true <;> simp [hpr, hsk, ih]

theorem zWrites_mem (b : ZArr) (skip : Nat → Bool) (nbrOf : Cell → Nat → List Int) (ps : List Nat)
    (prev : Option Nat) (w : Nat × List Int) (hw : w ∈ zWrites b skip nbrOf prev ps) :
    ∃ p ∈ ps, w = (b.cids p, nbrOf (b.cellAt p) (b.cids p)) := by
  rw [zWrites_eq] at hw
  obtain ⟨m, hm, he⟩ := List.mem_filterMap.mp hw
  split at he
  · exact ⟨m.2, mem_of_mem_runMarks b.key hm, (Option.some.inj he).symm⟩
  · cases he

theorem zWrites_covers (b : ZArr) (skip : Nat → Bool) (nbrOf : Cell → Nat → List Int)
    (ps : List Nat) (p : Nat) (hp : p ∈ ps) (hskip : skip (b.key p) = false) :
    ∃ p' ∈ ps, b.key p' = b.key p ∧
      (b.cids p', nbrOf (b.cellAt p') (b.cids p')) ∈ zWrites b skip nbrOf none ps := by
  obtain ⟨p', hp', hk, hm⟩ := exists_start b.key ps none p hp (by simp)
  refine ⟨p', hp', hk, ?_⟩
  rw [zWrites_eq]
  exact List.mem_filterMap.mpr ⟨_, hm, by simp [hk, hskip]⟩

/-- `List.mem_of_getElem?` with explicit arguments -/
theorem getElem?_mem' {β : Type} (l : List β) (i : Nat) (x : β) (h : l[i]? = some x) : x ∈ l :=
  List.mem_of_getElem? h

theorem zRows_eq (maskLen : Nat) (zs : List ZArr) (cur : Nat) (hz : ZInv zs cur)
    (hcell : ∀ a ∈ zs, ∀ b ∈ zs, ∀ p ∈ a.pids, ∀ q ∈ b.pids, a.key p = b.key q →
      a.cellAt p = b.cellAt q)
    (s d : Nat) (a b : ZArr) (hs : zs[s]? = some a) (hd : zs[d]? = some b)
    (nbrOf : Cell → Nat → List Int) (hne : a.pids.isEmpty = false) (q : Nat) (hq : q ∈ b.pids) :
    zRows maskLen zs s a nbrOf (b.cids q) = padRow maskLen (nbrOf (b.cellAt q) (b.cids q)) := by
  have ha : a ∈ zs := List.mem_of_getElem? hs
  have hb : b ∈ zs := List.mem_of_getElem? hd
  unfold zRows
  simp only [hne, Bool.false_eq_true, if_false]
  -- every write to this row has the same content
  have hsame : ∀ w ∈ zAllWrites zs s a nbrOf, w.1 = b.cids q →
      w.2 = nbrOf (b.cellAt q) (b.cids q) := by
    intro w hw hwc
    have hfrom : ∃ o ∈ zs, ∃ p ∈ o.pids, w = (o.cids p, nbrOf (o.cellAt p) (o.cids p)) := by
      unfold zAllWrites at hw
      rcases List.mem_append.mp hw with hw | hw
      · obtain ⟨p, hp, e⟩ := zWrites_mem a _ nbrOf _ _ w hw
        exact ⟨a, ha, p, hp, e⟩
      · obtain ⟨d', _, hw'⟩ := List.mem_flatMap.mp hw
        cases ho : zs[d']? with
        | none => rw [ho] at hw'; cases hw'
        | some o =>
          rw [ho] at hw'
          obtain ⟨p, hp, e⟩ := zWrites_mem o _ nbrOf _ _ w hw'
          exact ⟨o, List.mem_of_getElem? ho, p, hp, e⟩
    obtain ⟨o, ho, p, hp, rfl⟩ := hfrom
    simp only at hwc ⊢
    have hk := (cids_eq_iff zs cur hz o b ho hb p q hp hq).mp hwc
    rw [hcell o ho b hb p hp q hq hk, hwc]
  -- and there is at least one
  have hex : ∃ w ∈ zAllWrites zs s a nbrOf, w.1 = b.cids q := by
    by_cases hin : b.key q ∈ a.keys
    · obtain ⟨p0, hp0, hk0⟩ := List.mem_map.mp (by rw [hz.keysEq a ha] at hin; exact hin)
      obtain ⟨p', hp', hk', hw⟩ := zWrites_covers a (fun _ => false) nbrOf a.pids p0 hp0 rfl
      refine ⟨(a.cids p', nbrOf (a.cellAt p') (a.cids p')), List.mem_append_left _ hw, ?_⟩
      exact (cids_eq_iff zs cur hz a b ha hb p' q hp' hq).mpr (hk'.trans hk0)
    · have hds : d ≠ s := by
        intro e
        subst e
        rw [hs] at hd
        simp only [Option.some.injEq] at hd
        subst hd
        exact hin (by rw [hz.keysEq a ha]; exact List.mem_map_of_mem hq)
      have hskip : (fun k => (a.keyToIdx k).isSome) (b.key q) = false := by
        simp only [ZArr.keyToIdx, (firstIdx_eq_none_iff _ _).mpr hin, Option.isSome_none]
      obtain ⟨p', hp', hk', hw⟩ := zWrites_covers b (fun k => (a.keyToIdx k).isSome) nbrOf b.pids
        q hq hskip
      have hdl : d < zs.length := (List.getElem?_eq_some_iff.mp hd).1
      exact ⟨(b.cids p', nbrOf (b.cellAt p') (b.cids p')),
        List.mem_append_right _ (List.mem_flatMap.mpr
          ⟨d, List.mem_filter.mpr ⟨List.mem_range.mpr hdl, by simpa using hds⟩, by rw [hd]; exact hw⟩),
        (cids_eq_iff zs cur hz b b hb hb p' q hp' hq).mpr hk'⟩
  -- so the row goes from -1 to that content, once and for all
  refine (foldl_slot writeRow (fun w => w.1 = b.cids q) (fun r => r (b.cids q) = rowInit maskLen)
    (fun r => r (b.cids q) = padRow maskLen (nbrOf (b.cellAt q) (b.cids q))) _ _ ?_ ?_).2 rfl hex
  · intro r w _ hw
    have e : writeRow r w (b.cids q) = r (b.cids q) := if_neg fun h => hw h.symm
    exact ⟨fun h => e.trans h, fun h => e.trans h⟩
  · intro r w hwm hw h0
    show (if b.cids q = w.1 then w.2 ++ (r (b.cids q)).drop w.2.length else r (b.cids q)) = _
    rw [if_pos hw.symm, hsame w hwm hw]
    -- over the initial row by definition; over the same content again nothing changes
    rcases h0 with h0 | h0 <;> rw [h0]
    · rfl
    · unfold padRow; rw [List.drop_left]

theorem takeWhile_padRow (maskLen : Nat) (L : List Int) (h : ∀ x ∈ L, 0 ≤ x) :
    (padRow maskLen L).takeWhile (fun s => decide (0 ≤ s)) = L := by
  unfold padRow rowInit
  rw [List.drop_replicate, List.takeWhile_append_of_pos (by intro x hx; simpa using h x hx),
    List.takeWhile_replicate]
  simp

theorem cellFits21_iff (c : Cell) : cellFits21 c = true ↔
    (0 ≤ c.1 ∧ c.1 < 2 ^ 21) ∧ (0 ≤ c.2.1 ∧ c.2.1 < 2 ^ 21) ∧ (0 ≤ c.2.2 ∧ c.2.2 < 2 ^ 21) := by
  simp only [cellFits21, Bool.and_eq_true, decide_eq_true_eq, and_assoc]

theorem cellFits21_nonneg (c : Cell) (h : cellFits21 c = true) : nonnegCell c = true := by
  rw [cellFits21_iff] at h
  rw [nonnegCell_iff]
  exact ⟨h.1.1, h.2.1.1, h.2.2.1⟩

theorem zKey_inj (a b : Cell) (ha : cellFits21 a = true) (hb : cellFits21 b = true)
    (h : zKey a = zKey b) : a = b := by
  have lt : ∀ {x : Int}, 0 ≤ x ∧ x < 2 ^ 21 → x.toNat < 2 ^ 21 := fun _ => by omega
  refine toNat3_inj a b (cellFits21_nonneg a ha) (cellFits21_nonneg b hb) ?_
  rw [cellFits21_iff] at ha hb
  obtain ⟨e1, e2, e3⟩ := mortonKey_inj _ _ _ _ _ _ (lt ha.1) (lt ha.2.1) (lt ha.2.2) (lt hb.1)
    (lt hb.2.1) (lt hb.2.2) h
  exact Prod.ext e1 (Prod.ext e2 e3)

structure ZIn.Ok (maxKey : Nat) (inp : ZIn) : Prop where
  perm : inp.pids.Perm (List.range inp.n)
  sorted : inp.Sorted
  fits : ∀ j, j < inp.n → cellFits21 (inp.cellAt j) = true
  below : ∀ j, j < inp.n → zKey (inp.cellAt j) < maxKey

theorem zNbrIdx_nonneg (maxKey : Nat) (mask : List Cell) (a : ZArr) (c : Cell) :
    ∀ x ∈ zNbrIdx maxKey mask a c, 0 ≤ x := by
  intro x hx
  unfold zNbrIdx at hx
  obtain ⟨b, _, hb⟩ := List.mem_filterMap.mp hx
  obtain ⟨s, _, rfl⟩ := Option.map_eq_some_iff.mp hb
  exact Int.natCast_nonneg s

/-- the per-box lookup of `find_nearest_neighbors` -/
def zLookup (maxKey : Nat) (a : ZArr) (c : Cell) : List Nat :=
  (((a.getIdx maxKey (zKey c)).map Int.ofNat).map (zRun a (zLengths a))).getD []

/-- the bounds test of `get_idx` only fires on keys the array does not have -/
theorem ZArr.getIdx_eq (maxKey : Nat) (a : ZArr) (hke : a.keys = a.pids.map a.key)
    (hbelow : ∀ p ∈ a.pids, a.key p < maxKey) (k : Nat) :
    a.getIdx maxKey k = firstIdx (a.pids.map a.key) k := by
  unfold ZArr.getIdx ZArr.keyToIdx
  rw [hke]
  split
  · refine ((firstIdx_eq_none_iff _ _).mpr fun hk => ?_).symm
    obtain ⟨p, hp, rfl⟩ := List.mem_map.mp hk
    have := hbelow p hp
    omega
  · rfl

theorem zLookup_eq_filter (maxKey : Nat) (zs : List ZArr) (cur : Nat) (hz : ZInv zs cur) (a : ZArr)
    (ha : a ∈ zs) (hbelow : ∀ p ∈ a.pids, a.key p < maxKey) (c : Cell) :
    zLookup maxKey a c = a.pids.filter (fun p => a.key p = zKey c) := by
  unfold zLookup
  rw [a.getIdx_eq maxKey (hz.keysEq a ha) hbelow]
  cases hf : firstIdx (a.pids.map a.key) (zKey c) with
  | none => exact (filter_eq_nil_of_firstIdx a.key _ _ hf).symm
  | some s =>
    obtain ⟨hp, hkey⟩ := getD_firstIdx a.key _ _ hf 0
    simp only [Option.map_some, Option.getD_some, zRun, Int.ofNat_eq_natCast, Int.toNat_natCast]
    rw [zLengths_eq_count zs cur hz a ha _ hp, hkey]
    exact (run_of_firstIdx a.key _ _ (hz.sorted a ha) hf).2

theorem ZIn.Ok.mem_pids {maxKey : Nat} {inp : ZIn} (h : inp.Ok maxKey) (p : Nat) :
    p ∈ inp.pids ↔ p < inp.n := by
  rw [h.perm.mem_iff, List.mem_range]

theorem ok_pids {maxKey : Nat} {x : ZArr} (hx : (x.toIn).Ok maxKey) {p : Nat} (hp : p ∈ x.pids) :
    cellFits21 (x.cellAt p) = true ∧ x.key p < maxKey :=
  ⟨hx.fits p ((hx.mem_pids p).mp hp), hx.below p ((hx.mem_pids p).mp hp)⟩

theorem zLookup_spec (maxKey : Nat) (zs : List ZArr) (cur : Nat) (hz : ZInv zs cur) (a : ZArr)
    (ha : a ∈ zs) (hok : (a.toIn).Ok maxKey) (c : Cell) (hc : cellFits21 c = true) :
    LookupSpec a.n a.cellAt (zLookup maxKey a) c := by
  rw [LookupSpec, zLookup_eq_filter maxKey zs cur hz a ha
    (fun p hp => (ok_pids hok hp).2) c]
  refine spec_of_perm_filter (hok.perm.filter _) fun j hj => ?_
  rw [decide_eq_true_iff]
  exact ⟨zKey_inj _ _ (hok.fits j hj) hc, fun h => congrArg zKey h⟩

/-- the boxes `_neighbor_boxes` looks at around `cq` -/
def zBoxes (mask : List Cell) (cq : Cell) : List Cell := (mask.map (Cell.add cq)).filter nonnegCell

/-- the context every candidate lemma works in; what `zBuild` makes of point clouds is one
(`ZCtx.ofPts`) -/
structure ZCtx (maxKey : Nat) (zs : List ZArr) (cur : Nat) (s d i : Nat) (a b : ZArr) : Prop where
  inv : ZInv zs cur
  has : zs[s]? = some a
  hbd : zs[d]? = some b
  oka : (a.toIn).Ok maxKey
  okb : (b.toIn).Ok maxKey
  hi : i < b.n
  okAll : ∀ x ∈ zs, (x.toIn).Ok maxKey

/-- `hflat`: the start indices found for the destination particle's cell stand for `boxes`.
`maskLen` (the row length) does not matter. -/
theorem zRow_exact {α : Type} [Add α] [Sub α] [Mul α] [LT α] [DecidableLT α] (rs : α)
    (src : List (Pt α)) (q : Pt α) (maxKey maskLen : Nat) (zs : List ZArr) (cur : Nat) (s d i : Nat)
    (a b : ZArr) (ctx : ZCtx maxKey zs cur s d i a b) (han : a.n = src.length)
    (nbrOf : Cell → Nat → List Int) (hnn : ∀ x ∈ nbrOf (b.cellAt i) (b.cids i), 0 ≤ x)
    (boxes : List Cell) (hnd : boxes.Nodup) (hfit : ∀ c ∈ boxes, cellFits21 c = true)
    (hflat : (nbrOf (b.cellAt i) (b.cids i)).flatMap (zRun a (zLengths a)) =
      boxes.flatMap (zLookup maxKey a))
    (hcover : ∀ j (hj : j < src.length), isNbr rs q src[j] = true → a.cellAt j ∈ boxes) :
    ExactNbrs rs src q
      (zCandsRow a (zLengths a) (zRows maskLen zs s a nbrOf (b.cids i))) := by
  by_cases hne : a.pids.isEmpty = true
  · have hp : a.pids.Perm (List.range a.n) := ctx.oka.perm
    rw [List.isEmpty_iff.mp hne] at hp
    exact exactNbrs_of_length_zero rs src q _ (han ▸ List.range_eq_nil.mp (List.nil_perm.mp hp))
  · -- equal keys are equal cells (the guard), so the row of `i`'s cell id holds the boxes found for
    -- `i`'s cell, and the walk stops at the first -1 behind them
    have hcell : ∀ x ∈ zs, ∀ y ∈ zs, ∀ p ∈ x.pids, ∀ q ∈ y.pids,
        x.key p = y.key q → x.cellAt p = y.cellAt q := fun x hx y hy p hp q hq hk =>
      zKey_inj _ _ (ok_pids (ctx.okAll x hx) hp).1 (ok_pids (ctx.okAll y hy) hq).1 hk
    rw [zRows_eq maskLen _ _ ctx.inv hcell s d a b ctx.has ctx.hbd _ (Bool.eq_false_iff.mpr hne) i
      ((ctx.okb.mem_pids i).mpr ctx.hi)]
    unfold zCandsRow
    rw [takeWhile_padRow maskLen _ hnn, hflat]
    exact exactNbrs_of_lookup rs src q hnd (fun c hc => han ▸ zLookup_spec maxKey _ _ ctx.inv a
      (List.mem_of_getElem? ctx.has) ctx.oka c (hfit c hc)) hcover

theorem mem_maskZ (H : Nat) (m : Cell) :
    m ∈ maskZ H ↔ m.1.natAbs ≤ H ∧ m.2.1.natAbs ≤ H ∧ m.2.2.natAbs ≤ H := by
  simp only [← mem_maskRange]; exact mem_triples_rev _ m

theorem maskZ_nodup (H : Nat) : (maskZ H).Nodup := triples_rev_nodup _ (maskRange_nodup H)

theorem cellGuard_iff (H : Nat) (c : Cell) : cellGuard H c = true ↔
    (0 ≤ c.1 ∧ c.1 + (H : Int) < 2 ^ 21) ∧ (0 ≤ c.2.1 ∧ c.2.1 + (H : Int) < 2 ^ 21) ∧
      (0 ≤ c.2.2 ∧ c.2.2 + (H : Int) < 2 ^ 21) := by
  simp only [cellGuard, Bool.and_eq_true, decide_eq_true_eq, and_assoc]

theorem cellGuard_fits (H : Nat) (c : Cell) (h : cellGuard H c = true) : cellFits21 c = true := by
  rw [cellGuard_iff] at h
  rw [cellFits21_iff]
  refine ⟨⟨h.1.1, ?_⟩, ⟨h.2.1.1, ?_⟩, ⟨h.2.2.1, ?_⟩⟩ <;> omega

theorem mem_zBoxes_maskZ (H : Nat) (cq c : Cell) :
    c ∈ zBoxes (maskZ H) cq ↔ nonnegCell c = true ∧
      ((c.1 - cq.1).natAbs ≤ H ∧ (c.2.1 - cq.2.1).natAbs ≤ H ∧ (c.2.2 - cq.2.2).natAbs ≤ H) :=
  mem_maskBoxes _ H (mem_maskZ H) cq c

theorem zBoxes_fit (H G : Nat) (hHG : H ≤ G) (cq : Cell) (hq : cellGuard G cq = true) :
    ∀ c ∈ zBoxes (maskZ H) cq, cellFits21 c = true := by
  -- one axis: at most `H ≤ G` from a coordinate with `G` to spare
  have axis : ∀ x q : Int, 0 ≤ x → (x - q).natAbs ≤ H → q + (G : Int) < 2 ^ 21 →
      0 ≤ x ∧ x < 2 ^ 21 := by omega
  intro c hc
  obtain ⟨hnn, h1, h2, h3⟩ := (mem_zBoxes_maskZ H cq c).mp hc
  rw [nonnegCell_iff] at hnn
  rw [cellGuard_iff] at hq
  rw [cellFits21_iff]
  exact ⟨axis _ _ hnn.1 h1 hq.1.2, axis _ _ hnn.2.1 h2 hq.2.1.2, axis _ _ hnn.2.2 h3 hq.2.2.2⟩

section points
variable {α : Type} [Field α] [LinearOrder α] [FloorRing α]

theorem zInOfPts_ok (cs : α) (o : Pt α) (maxKey : Nat) (srt : (Nat → Nat) → Nat → List Nat)
    (hsrt : C01.SortSpec srt) (arr : List (Pt α)) (hfit : ∀ p ∈ arr, cellFits21 (cell3 Int.floor cs o p) = true)
    (hkey : ∀ p ∈ arr, zKey (cell3 Int.floor cs o p) < maxKey) :
    (zInOfPts Int.floor cs o srt arr).Ok maxKey :=
  ⟨(hsrt _ _).1, (hsrt _ _).2, forall_cellAtOf Int.floor cs o arr (cellFits21 · = true) hfit,
    forall_cellAtOf Int.floor cs o arr (zKey · < maxKey) hkey⟩

/-- a query of a z-order class on point clouds, with the two guards of the class: cells with `H`
to spare below 2^21, keys below `max_key` -/
structure ZQuery (s : α) (H : Nat) (o : Pt α) (maxKey : Nat) (srt : (Nat → Nat) → Nat → List Nat)
    (arrs : List (List (Pt α))) (sI d i : Nat) (src dst : List (Pt α)) (q : Pt α) : Prop where
  sort : C01.SortSpec srt
  hs : arrs[sI]? = some src
  hd : arrs[d]? = some dst
  hq : dst[i]? = some q
  fit : ∀ a ∈ arrs, ∀ p ∈ a, cellGuard H (cell3 Int.floor s o p) = true
  key : ∀ a ∈ arrs, ∀ p ∈ a, zKey (cell3 Int.floor s o p) < maxKey

variable {s : α} {H : Nat} {o : Pt α} {maxKey : Nat} {srt : (Nat → Nat) → Nat → List Nat}
  {arrs : List (List (Pt α))} {sI d i : Nat} {src dst : List (Pt α)} {q : Pt α}

theorem ZCtx.ofPts (Q : ZQuery s H o maxKey srt arrs sI d i src dst q) :
    ∃ a b, ZCtx maxKey (zBuild (arrs.map (zInOfPts Int.floor s o srt))).1
        (zBuild (arrs.map (zInOfPts Int.floor s o srt))).2 sI d i a b ∧ a.n = src.length ∧
      a.cellAt = cellAtOf Int.floor s o src ∧ b.cellAt i = cell3 Int.floor s o q := by
  obtain ⟨hsrt, hs, hd, hq, hfit, hkey⟩ := Q
  have hok : ∀ inp ∈ arrs.map (zInOfPts Int.floor s o srt), inp.Ok maxKey :=
    List.forall_mem_map.mpr fun arr harr => zInOfPts_ok s o maxKey srt hsrt arr
      (fun p hp => cellGuard_fits H _ (hfit arr harr p hp)) (hkey arr harr)
  obtain ⟨hz, hm⟩ := zBuild_inv _ fun inp hi => (hok inp hi).sorted
  have hget : ∀ k arr, arrs[k]? = some arr → ∃ a : ZArr,
      (zBuild (arrs.map (zInOfPts Int.floor s o srt))).1[k]? = some a ∧
        a.toIn = zInOfPts Int.floor s o srt arr := fun k arr h =>
    Option.map_eq_some_iff.mp (by rw [← List.getElem?_map, hm, List.getElem?_map, h]; rfl)
  have hokAll : ∀ x ∈ (zBuild (arrs.map (zInOfPts Int.floor s o srt))).1, (x.toIn).Ok maxKey :=
    fun x hx => hok _ (hm ▸ List.mem_map_of_mem hx)
  obtain ⟨a, has, hai⟩ := hget sI src hs
  obtain ⟨b, hbd, hbi⟩ := hget d dst hd
  refine ⟨a, b, ⟨hz, has, hbd, hokAll a (List.mem_of_getElem? has),
    hokAll b (List.mem_of_getElem? hbd), ?_, hokAll⟩, congrArg ZIn.n hai, congrArg ZIn.cellAt hai, ?_⟩
  · rw [show b.n = dst.length from congrArg ZIn.n hbi]
    exact (List.getElem?_eq_some_iff.mp hq).1
  · rw [show b.cellAt = cellAtOf Int.floor s o dst from congrArg ZIn.cellAt hbi]
    simp only [cellAtOf, hq]

/-- ZOrderNNPS and ExtendedZOrderNNPS (asymmetric) at once: cells of any size `s`, the mask `±H`,
rows of any length; `hcover` is the cover lemma of the class -/
theorem zOrder_exact (rs : α) (maskLen : Nat)
    (Q : ZQuery s H o maxKey srt arrs sI d i src dst q)
    (hcover : ∀ p ∈ src, isNbr rs q p = true →
      ((cell3 Int.floor s o p).1 - (cell3 Int.floor s o q).1).natAbs ≤ H ∧
      ((cell3 Int.floor s o p).2.1 - (cell3 Int.floor s o q).2.1).natAbs ≤ H ∧
      ((cell3 Int.floor s o p).2.2 - (cell3 Int.floor s o q).2.2).natAbs ≤ H) :
    ExactNbrs rs src q (zCandsGen maskLen (zBuild (arrs.map (zInOfPts Int.floor s o srt))).1
      (fun a c _ => zNbrIdx maxKey (maskZ H) a c) sI d i) := by
  obtain ⟨a, b, ctx, han, hacell, hcq⟩ := ZCtx.ofPts Q
  obtain ⟨_, hs, hd, hq, hfit, _⟩ := Q
  unfold zCandsGen
  simp only [ctx.has, ctx.hbd]
  refine zRow_exact rs src q maxKey maskLen _ _ sI d i a b ctx han _
    (zNbrIdx_nonneg maxKey _ a _) (zBoxes (maskZ H) (b.cellAt i))
    (maskBoxes_nodup _ (maskZ_nodup H) _)
    (zBoxes_fit H H (le_refl _) _ (by
      rw [hcq]; exact hfit dst (List.mem_of_getElem? hd) q (List.mem_of_getElem? hq)))
    ?_ fun j hj hn => ?_
  · exact flatMap_filterMap_eq _ _ _
  · have hmem : src[j] ∈ src := List.getElem_mem hj
    rw [hacell, cellAtOf_of_lt _ _ _ _ hj, hcq, mem_zBoxes_maskZ]
    exact ⟨cellFits21_nonneg _ (cellGuard_fits H _ (hfit src (List.mem_of_getElem? hs) _ hmem)),
      hcover _ hmem hn⟩

end points

end PysphVerif.Nnps
