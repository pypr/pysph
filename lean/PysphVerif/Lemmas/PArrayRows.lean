import PysphVerif.Model.PArray
import Mathlib.Data.List.Basic
/-!
A flat array read as rows of `s` elements: `rowsOf` and `flat` are inverse to
each other on arrays whose length is a multiple of `s` (`flat_rowsOf` needs only `0 < s`;
`rowsOf_flat` needs rows of length `s`).  From the two: the rows of a concatenation, of a
constant array, of an array of stride 1.  Without the length hypothesis a row is at most `s` long
(`rowsOf_row_le`, `flat_length_le`: all that `inv_extractedPA` uses of the source column of
`extract_particles`, so the destination stays coherent whatever the source holds).
-/
namespace PysphVerif.PArray

theorem rowsOfAux_nil (s fuel : Nat) : rowsOfAux s fuel [] = [] := by
  cases fuel <;> simp [rowsOfAux]

theorem flat_rowsOfAux (s : Nat) (hs : 0 < s) (fuel : Nat) (d : List Int)
    (h : d.length ≤ fuel) : flat (rowsOfAux s fuel d) = d := by
  induction fuel generalizing d with
  | zero =>
    have : d = [] := List.length_eq_zero_iff.mp (by omega)
    subst this; simp [rowsOfAux, flat]
  | succ fuel ih =>
    unfold rowsOfAux
    split
    · rename_i he
      have : d = [] := by simpa using he
      subst this; simp [flat]
    · rename_i he
      have hne : d ≠ [] := by simpa using he
      have hpos : 0 < d.length := List.length_pos_iff.mpr hne
      have := ih (d.drop s) (by simp; omega)
      simp only [flat, List.flatten_cons] at this ⊢
      rw [this, List.take_append_drop]

theorem flat_rowsOf (s : Nat) (hs : 0 < s) (d : List Int) : flat (rowsOf s d) = d := by
  unfold rowsOf
  rw [if_neg (by omega)]
  exact flat_rowsOfAux s hs _ d (Nat.le_refl _)

theorem flat_length (s : Nat) (R : List (List Int)) (hR : ∀ r ∈ R, r.length = s) :
    (flat R).length = R.length * s := by
  rw [flat, List.length_flatten, List.map_congr_left hR, List.map_const', List.sum_replicate_nat]

theorem rowsOfAux_uniform (s : Nat) (hs : 0 < s) (n : Nat) (d : List Int)
    (hd : d.length = n * s) (fuel : Nat) (hf : n ≤ fuel) :
    (rowsOfAux s fuel d).length = n ∧ ∀ r ∈ rowsOfAux s fuel d, r.length = s := by
  induction n generalizing d fuel with
  | zero =>
    have : d = [] := List.length_eq_zero_iff.mp (by omega)
    subst this; simp [rowsOfAux_nil]
  | succ n ih =>
    cases fuel with
    | zero => omega
    | succ fuel =>
      have hlen : d.length = n * s + s := by rw [hd, Nat.succ_mul]
      have hne : d.isEmpty = false := by
        cases d with
        | nil => simp at hlen; omega
        | cons _ _ => rfl
      unfold rowsOfAux
      rw [hne]
      simp only [Bool.false_eq_true, if_false, List.length_cons, List.mem_cons]
      have := ih (d.drop s) (by simp; omega) fuel (by omega)
      refine ⟨by omega, ?_⟩
      rintro r (rfl | hr)
      · simp; omega
      · exact this.2 r hr

theorem rowsOf_uniform (s : Nat) (hs : 0 < s) (n : Nat) (d : List Int)
    (hd : d.length = n * s) :
    (rowsOf s d).length = n ∧ ∀ r ∈ rowsOf s d, r.length = s := by
  unfold rowsOf
  rw [if_neg (by omega)]
  apply rowsOfAux_uniform s hs n d hd
  rw [hd]; exact Nat.le_mul_of_pos_right _ hs

theorem rowsOf_flat (s : Nat) (hs : 0 < s) (R : List (List Int))
    (hR : ∀ r ∈ R, r.length = s) : rowsOf s (flat R) = R := by
  obtain ⟨hn, hu⟩ := rowsOf_uniform s hs R.length (flat R) (flat_length s R hR)
  refine List.eq_iff_flatten_eq.mpr ⟨flat_rowsOf s hs _, ?_⟩
  rw [List.map_congr_left hu, List.map_congr_left hR, List.map_const', List.map_const', hn]

theorem rowsOfAux_row_le (s fuel : Nat) (d : List Int) :
    ∀ r ∈ rowsOfAux s fuel d, r.length ≤ s := by
  induction fuel generalizing d with
  | zero => simp [rowsOfAux]
  | succ fuel ih =>
    unfold rowsOfAux
    split
    · simp
    · intro r hr
      rcases List.mem_cons.mp hr with rfl | hr
      · simp; omega
      · exact ih _ r hr

theorem rowsOf_row_le (s : Nat) (d : List Int) : ∀ r ∈ rowsOf s d, r.length ≤ s := by
  unfold rowsOf
  split
  · simp
  · exact rowsOfAux_row_le s _ d

theorem flat_append (A B : List (List Int)) : flat (A ++ B) = flat A ++ flat B :=
  List.flatten_append

theorem flat_length_le (s : Nat) (R : List (List Int)) (hR : ∀ r ∈ R, r.length ≤ s) :
    (flat R).length ≤ R.length * s := by
  induction R with
  | nil => simp [flat]
  | cons r R ih =>
    have hr : r.length ≤ s := hR r (by simp)
    have := ih (fun x hx => hR x (by simp [hx]))
    simp only [flat, List.flatten_cons, List.length_append, List.length_cons] at this ⊢
    rw [Nat.succ_mul]; omega

theorem rowsOf_append (s : Nat) (hs : 0 < s) (d1 d2 : List Int) (n1 n2 : Nat)
    (h1 : d1.length = n1 * s) (h2 : d2.length = n2 * s) :
    rowsOf s (d1 ++ d2) = rowsOf s d1 ++ rowsOf s d2 := by
  have u1 := rowsOf_uniform s hs n1 d1 h1
  have u2 := rowsOf_uniform s hs n2 d2 h2
  conv_lhs => rw [← flat_rowsOf s hs d1, ← flat_rowsOf s hs d2, ← flat_append]
  exact rowsOf_flat s hs _ (fun r hr => (List.mem_append.mp hr).elim (u1.2 r) (u2.2 r))

theorem rowsOf_replicate (n s : Nat) (hs : 0 < s) (x : Int) :
    rowsOf s (List.replicate (n * s) x) = List.replicate n (List.replicate s x) := by
  rw [← List.flatten_replicate_replicate]
  exact rowsOf_flat s hs _ (fun r hr => by rw [(List.mem_replicate.mp hr).2]; simp)

theorem flat_map_singleton (d : List Int) : flat (d.map (fun x => [x])) = d :=
  List.flatMap_def.symm.trans (List.flatMap_singleton' d)

theorem rowsOf_one (d : List Int) : rowsOf 1 d = d.map (fun x => [x]) := by
  have := rowsOf_flat 1 (by decide) (d.map (fun x => [x])) (by
    intro r hr
    obtain ⟨x, _, rfl⟩ := List.mem_map.mp hr
    rfl)
  rwa [flat_map_singleton] at this

end PysphVerif.PArray
