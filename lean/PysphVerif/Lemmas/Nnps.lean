import PysphVerif.Model.NnpsStore
import Mathlib.Algebra.Order.Floor.Ring
import Mathlib.Algebra.Order.Field.Basic
import Mathlib.Tactic.Ring
import Mathlib.Tactic.Linarith
import Mathlib.Tactic.Positivity
import Mathlib.Data.List.Perm.Basic
import Mathlib.Data.List.Nodup
import PysphVerif.Lemmas.FoldSelect
import PysphVerif.Lemmas.OrderChain
import PysphVerif.Lemmas.FoldInv
/-!
What the proofs of C01 (neighbour search) share.  Over a linearly ordered field: the one floor
inequality behind every stencil and mask (`floor_adj_le`) and the cover lemma every cell-based
class instantiates (`nbr_cells_within`).  What "exact" means for a candidate list (`ExactNbrs`)
and the master argument that reaches it (`exactNbrs_of_cover_nodup`).  Over `Nat`: the linked
list and the neighbour cache.
-/
set_option linter.unusedSectionVars false
namespace PysphVerif.Nnps

open scoped PysphVerif.OrderChain

section order
variable {α : Type} [LinearOrder α]

theorem fmaxA_eq_max (a b : α) : fmaxA a b = max a b := (max_def_lt a b).symm

theorem fmaxA_ge_left (a b : α) : a ≤ fmaxA a b := fmaxA_eq_max a b ▸ le_max_left a b

theorem fmaxA_ge_right (a b : α) : b ≤ fmaxA a b := fmaxA_eq_max a b ▸ le_max_right a b

theorem fmaxA_le {a b c : α} (ha : a ≤ c) (hb : b ≤ c) : fmaxA a b ≤ c :=
  fmaxA_eq_max a b ▸ max_le ha hb

theorem carrayMax_ge [Zero α] (l : List α) (x : α) (hx : x ∈ l) : x ≤ carrayMax l := by
  cases l with
  | nil => cases hx
  | cons a t => exact (foldl_max_spec (fun _ _ => rfl) t a).2 x hx

end order

theorem add_mul_div_of_lt (X r q : Nat) (hr : r < X) : (r + X * q) / X = q := by
  have hX : 0 < X := by omega
  rw [Nat.add_mul_div_left _ _ hX, Nat.div_eq_of_lt hr, Nat.zero_add]

theorem add_mul_mod_of_lt (X r q : Nat) (hr : r < X) : (r + X * q) % X = r := by
  rw [Nat.add_mul_mod_self_left, Nat.mod_eq_of_lt hr]

/-- level and stripped key can be read off a full key `level * 2^B + key` of StratifiedSFC -/
theorem fkey_decode (X a r b r' : Nat) (hr : r < X) (hr' : r' < X) (h : a * X + r = b * X + r') :
    a = b ∧ r = r' := by
  have hX : 0 < X := Nat.lt_of_le_of_lt (Nat.zero_le r) hr
  obtain ⟨a1, a2⟩ := (Nat.div_mod_unique hX).mpr
    ⟨(by rw [Nat.mul_comm, Nat.add_comm] : r + X * a = a * X + r), hr⟩
  obtain ⟨b1, b2⟩ := (Nat.div_mod_unique hX).mpr
    ⟨(by rw [h, Nat.mul_comm, Nat.add_comm] : r' + X * b = a * X + r), hr'⟩
  exact ⟨a1.symm.trans b1, a2.symm.trans b2⟩

section field
variable {α : Type} [Field α] [LinearOrder α] [IsStrictOrderedRing α]

theorem sq_def (a : α) : sq a = a * a := rfl

theorem dist2_comm (p q : Pt α) : dist2 p q = dist2 q p := by
  simp only [dist2, sq]; ring

theorem dist2_nonneg (p q : Pt α) : 0 ≤ dist2 p q :=
  add_nonneg (add_nonneg (mul_self_nonneg _) (mul_self_nonneg _)) (mul_self_nonneg _)

theorem abs_lt_of_mul_self_lt {d r : α} (hr : 0 ≤ r) (h : d * d < r * r) : |d| < r := by
  rw [← abs_of_nonneg hr]; exact abs_lt_iff_mul_self_lt.mpr h

theorem lt_cell_of_dist2_lt {p q : Pt α} {r : α} (hr : 0 ≤ r) (h : dist2 p q < r * r) :
    |p.x - q.x| < r ∧ |p.y - q.y| < r ∧ |p.z - q.z| < r := by
  simp only [dist2, sq] at h
  have h1 := mul_self_nonneg (p.x - q.x)
  have h2 := mul_self_nonneg (p.y - q.y)
  have h3 := mul_self_nonneg (p.z - q.z)
  refine ⟨abs_lt_of_mul_self_lt hr ?_, abs_lt_of_mul_self_lt hr ?_, abs_lt_of_mul_self_lt hr ?_⟩
    <;> linarith

theorem isNbr_eq_true_iff (rs : α) (q p : Pt α) :
    isNbr rs q p = true ↔
      dist2 p q < (rs * q.h) * (rs * q.h) ∨ dist2 p q < (rs * p.h) * (rs * p.h) := by
  simp only [isNbr, gather, scatter, sq, Bool.or_eq_true]
  exact or_congr decide_eq_true_iff decide_eq_true_iff

theorem isNbr_axis_lt (rs : α) (q p : Pt α) (hrs : 0 ≤ rs) (hq : 0 ≤ q.h) (hp : 0 ≤ p.h)
    (h : isNbr rs q p = true) :
    ∃ r, (r = rs * q.h ∨ r = rs * p.h) ∧ |p.x - q.x| < r ∧ |p.y - q.y| < r ∧ |p.z - q.z| < r := by
  rcases (isNbr_eq_true_iff rs q p).mp h with h | h
  · exact ⟨rs * q.h, Or.inl rfl, lt_cell_of_dist2_lt (mul_nonneg hrs hq) h⟩
  · exact ⟨rs * p.h, Or.inr rfl, lt_cell_of_dist2_lt (mul_nonneg hrs hp) h⟩

end field

section floor
variable {α : Type} [Field α] [LinearOrder α] [IsStrictOrderedRing α] [FloorRing α]

theorem floor_sub_floor_le {a b : α} {K : ℤ} (h : a - b < K) : ⌊a⌋ - ⌊b⌋ ≤ K := by
  have : ⌊a⌋ < ⌊b⌋ + 1 + K :=
    Int.floor_lt.mpr (by push_cast; linarith [Int.lt_floor_add_one b, Int.floor_le a])
  omega

theorem floor_adj_le (x y r s : α) (K : ℤ) (hs : 0 < s) (hK : r / s ≤ K) (h : |x - y| < r) :
    ((⌊x / s⌋ - ⌊y / s⌋).natAbs : Int) ≤ K := by
  have hxy : |x / s - y / s| < K := by
    rw [← sub_div, abs_div, abs_of_pos hs]
    exact lt_of_lt_of_le (div_lt_div_of_pos_right h hs) hK
  obtain ⟨h1, h2⟩ := abs_lt.mp hxy
  have a1 := floor_sub_floor_le h2
  have a2 : ⌊y / s⌋ - ⌊x / s⌋ ≤ K := floor_sub_floor_le (by linarith)
  omega

/-- the membership test of every mask; `K` is an integer because the code's half-widths are `⌈·⌉` -/
def Cell.Within (K : Int) (a b : Cell) : Prop :=
  ((a.1 - b.1).natAbs : Int) ≤ K ∧ ((a.2.1 - b.2.1).natAbs : Int) ≤ K ∧
    ((a.2.2 - b.2.2).natAbs : Int) ≤ K

theorem nbr_cells_within (rs s : α) (K : Int) (o q p : Pt α) (hs : 0 < s) (hrs : 0 ≤ rs)
    (hq : 0 ≤ q.h) (hp : 0 ≤ p.h) (hKq : rs * q.h / s ≤ K) (hKp : rs * p.h / s ≤ K)
    (h : isNbr rs q p = true) :
    Cell.Within K (cell3 Int.floor s o p) (cell3 Int.floor s o q) := by
  obtain ⟨r, hr, hx, hy, hz⟩ := isNbr_axis_lt rs q p hrs hq hp h
  have hrK : r / s ≤ K := by rcases hr with rfl | rfl <;> assumption
  have ax : ∀ u v o' : α, |u - v| < r →
      ((cellOf Int.floor s o' u - cellOf Int.floor s o' v).natAbs : Int) ≤ K := fun u v o' huv =>
    floor_adj_le (u - o') (v - o') r s K hs hrK (by rwa [sub_sub_sub_cancel_right])
  exact ⟨ax _ _ _ hx, ax _ _ _ hy, ax _ _ _ hz⟩

/-- `⌈M/s⌉` is the half-width the classes that cut their boxes compute, `M` built from an `h_max`
and the query's `h` -/
theorem nbr_cells_within_ceil (rs s M : α) (o q p : Pt α) (hs : 0 < s) (hrs : 0 ≤ rs)
    (hq : 0 ≤ q.h) (hp : 0 ≤ p.h) (hqM : rs * q.h ≤ M) (hpM : rs * p.h ≤ M)
    (h : isNbr rs q p = true) :
    Cell.Within ⌈M / s⌉ (cell3 Int.floor s o p) (cell3 Int.floor s o q) :=
  nbr_cells_within rs s _ o q p hs hrs hq hp
    (le_trans (div_le_div_of_nonneg_right hqM hs.le) (Int.le_ceil _))
    (le_trans (div_le_div_of_nonneg_right hpM hs.le) (Int.le_ceil _)) h

end floor

section exact
variable {α : Type} [Add α] [Sub α] [Mul α] [LT α] [DecidableLT α]

theorem accepts_iff (rs : α) (src : List (Pt α)) (q : Pt α) (j : Nat) :
    accepts rs src q j = true ↔ ∃ hj : j < src.length, isNbr rs q src[j] = true := by
  unfold accepts
  by_cases hj : j < src.length
  · simp only [List.getElem?_eq_getElem hj, hj, exists_true_left]
  · simp only [List.getElem?_eq_none (not_lt.mp hj), hj, Bool.false_eq_true, IsEmpty.exists_iff]

/-- what every `nbrs_exact_<Class>` theorem says of the class's candidate list -/
def ExactNbrs (rs : α) (src : List (Pt α)) (q : Pt α) (cands : List Nat) : Prop :=
  (nbrsOf rs src q cands).Perm (bruteForce rs src q) ∧ (nbrsOf rs src q cands).Nodup ∧
    ∀ j ∈ nbrsOf rs src q cands, j < src.length

theorem exactNbrs_of_perm (rs : α) (src : List (Pt α)) (q : Pt α) (cands : List Nat)
    (h : (nbrsOf rs src q cands).Perm (bruteForce rs src q)) : ExactNbrs rs src q cands :=
  ⟨h, h.nodup_iff.mpr (List.nodup_range.filter _), fun j hj =>
    ((accepts_iff rs src q j).mp (List.mem_filter.mp hj).2).1⟩

/-- the master argument (`C01.exact_of_cover_nodup`), whatever produces the candidates -/
theorem exactNbrs_of_cover_nodup (rs : α) (src : List (Pt α)) (q : Pt α) (cands : List Nat)
    (hcover : ∀ j (hj : j < src.length), isNbr rs q src[j] = true → j ∈ cands)
    (hnd : cands.Nodup) : ExactNbrs rs src q cands := by
  refine exactNbrs_of_perm rs src q cands
    ((List.perm_ext_iff_of_nodup (hnd.filter _) (List.nodup_range.filter _)).mpr fun j => ?_)
  simp only [List.mem_filter, List.mem_range]
  refine and_congr_left fun ha => ?_
  obtain ⟨hj, hn⟩ := (accepts_iff rs src q j).mp ha
  exact iff_of_true (hcover j hj hn) hj

/-- the z-order and SFC classes skip their bookkeeping on an empty source array -/
theorem exactNbrs_of_length_zero (rs : α) (src : List (Pt α)) (q : Pt α) (cands : List Nat)
    (h : src.length = 0) : ExactNbrs rs src q cands := by
  have e : ∀ cands, nbrsOf rs src q cands = [] := fun cands =>
    List.filter_eq_nil_iff.mpr fun j _ ha => by
      have := ((accepts_iff rs src q j).mp ha).1; omega
  exact exactNbrs_of_perm rs src q cands (by rw [bruteForce, e, e])

end exact

section cellsize
variable {α : Type} [Field α] [LinearOrder α] [IsStrictOrderedRing α]

theorem hmaxAll_ge (hss : List (List α)) (hs : List α) (hh : hs ∈ hss) (x : α)
    (hx : x ∈ hs) : x ≤ hmaxAll hss :=
  le_trans (carrayMax_ge hs x hx)
    ((foldl_max_key_spec (key := carrayMax) (fun _ _ => rfl) hss _).2.2 hs hh)

end cellsize

theorem walk_insert_of_not_mem (s : LL) (i c : Nat) (fuel : Nat) (o : Option Nat)
    (h : i ∉ s.walk fuel o) : (s.insert (i, c)).walk fuel o = s.walk fuel o := by
  induction fuel generalizing o with
  | zero => cases o <;> rfl
  | succ k ih =>
    cases o with
    | none => rfl
    | some j =>
      simp only [LL.walk] at h ⊢
      have hij : i ≠ j := fun e => h (by rw [e]; exact List.mem_cons_self ..)
      have hrest : i ∉ s.walk k (s.next j) := fun hm => h (List.mem_cons_of_mem _ hm)
      have hnext : (s.insert (i, c)).next j = s.next j := by
        simp only [LL.insert]
        rw [if_neg (fun e => hij e.symm)]
      rw [hnext, ih _ hrest]

theorem walk_fuel_mono (s : LL) (l : List Nat) :
    ∀ (fuel : Nat) (o : Option Nat), s.walk fuel o = l → l.length < fuel →
      ∀ fuel', fuel ≤ fuel' → s.walk fuel' o = l := by
  induction l with
  | nil =>
    intro fuel o h hl fuel' hf
    cases o with
    | none => cases fuel' <;> rfl
    | some j =>
      cases fuel with
      | zero => simp at hl
      | succ k => simp [LL.walk] at h
  | cons a t ih =>
    intro fuel o h hl fuel' hf
    cases fuel with
    | zero => simp [LL.walk] at h
    | succ k =>
      cases o with
      | none => simp [LL.walk] at h
      | some j =>
        simp only [LL.walk, List.cons.injEq] at h
        obtain ⟨rfl, ht⟩ := h
        cases fuel' with
        | zero => omega
        | succ k' =>
          simp only [LL.walk, List.cons.injEq, true_and]
          exact ih k _ ht (by simp at hl; omega) k' (by omega)

theorem build_snoc (items : List (Nat × Nat)) (x : Nat × Nat) :
    LL.build (items ++ [x]) = (LL.build items).insert x := by
  simp [LL.build, List.foldl_append]

theorem traverse_eq_bucket (items : List (Nat × Nat))
    (hnd : (items.map (·.1)).Nodup) (c : Nat) :
    ∀ n, items.length ≤ n →
      (LL.build items).traverse n c =
        ((items.filter (fun ic => ic.2 = c)).map (·.1)).reverse := by
  induction items using List.reverseRecOn with
  | nil =>
    intro n _
    simp [LL.traverse, LL.build, LL.empty]
    cases n <;> rfl
  | append_singleton items x ih =>
    intro n hn
    obtain ⟨i, c'⟩ := x
    rw [List.map_append, List.nodup_append] at hnd
    have hlen : items.length + 1 ≤ n := by simpa using hn
    -- the chain of `c` before this insertion (`traverse` unfolded), whatever fuel suffices …
    have ihn : ∀ m, items.length ≤ m →
        (LL.build items).walk m ((LL.build items).head c) =
          ((items.filter (fun ic => ic.2 = c)).map (·.1)).reverse := ih hnd.1
    -- … does not hold the new particle, so its walk is the same after the insertion
    have hnotin : ∀ m, items.length ≤ m →
        i ∉ (LL.build items).walk m ((LL.build items).head c) := by
      intro m hm hmem
      rw [ihn m hm] at hmem
      simp only [List.mem_reverse, List.mem_map, List.mem_filter] at hmem
      obtain ⟨a, ⟨ha, _⟩, hai⟩ := hmem
      exact hnd.2.2 i (List.mem_map.mpr ⟨a, ha, hai⟩) i (by simp) rfl
    rw [build_snoc]
    simp only [LL.traverse, List.filter_append, List.map_append, List.reverse_append]
    by_cases hcc : c' = c
    · subst hcc
      obtain ⟨m, rfl⟩ : ∃ m, n = m + 1 := ⟨n - 1, by omega⟩
      have hhead : ((LL.build items).insert (i, c')).head c' = some i := by simp [LL.insert]
      have hnext : ((LL.build items).insert (i, c')).next i = (LL.build items).head c' := by
        simp [LL.insert]
      rw [hhead]
      simp only [LL.walk, hnext]
      rw [walk_insert_of_not_mem _ _ _ _ _ (hnotin m (by omega)), ihn m (by omega)]
      simp
    · have hhead : ((LL.build items).insert (i, c')).head c = (LL.build items).head c := by
        simp only [LL.insert]
        rw [if_neg (fun e => hcc e.symm)]
      rw [hhead, walk_insert_of_not_mem _ _ _ _ _ (hnotin n (by omega)), ihn n (by omega)]
      simp [hcc]

/-- The middle clause (the slice ends inside the buffer of its thread) is why later appends to that
buffer do not change the slice (`inv_fill`). -/
def Cache.Good (find : Nat → List Nat) (s : Cache) (d : Nat) : Prop :=
  s.stop d = s.start d + (find d).length ∧
  s.stop d ≤ (s.bufs (s.tid d)).length ∧ s.view d = find d

/-- the invariant of `NeighborCache` -/
def Cache.Inv (find : Nat → List Nat) (s : Cache) : Prop :=
  ∀ d, s.cached d = true → Cache.Good find s d

theorem Cache.inv_reset (find : Nat → List Nat) : Cache.Inv find Cache.reset := by
  intro d h; simp [Cache.reset] at h

theorem Cache.inv_fill (find : Nat → List Nat) (s : Cache) (td : Nat × Nat)
    (h : Cache.Inv find s) : Cache.Inv find (s.fill find td) := by
  intro e he
  by_cases hed : e = td.2
  · subst hed
    refine ⟨?_, ?_, ?_⟩
    · simp [Cache.fill]
    · simp [Cache.fill]
    · simp [Cache.view, Cache.fill]
  · have hc : s.cached e = true := by simpa [Cache.fill, hed] using he
    obtain ⟨h1, h2, h3⟩ := h e hc
    by_cases ht : s.tid e = td.1
    · -- the buffer that holds the entry of `e` grows at its end, beyond `stop e`
      rw [ht] at h2
      simp only [Cache.Good, Cache.view, Cache.fill, hed, ht, if_false, if_true]
      refine ⟨h1, by rw [List.length_append]; omega, ?_⟩
      rw [List.drop_append_of_le_length (by omega), List.take_append_of_le_length (by simp; omega)]
      simpa [Cache.view, ht] using h3
    · simp only [Cache.Good, Cache.view, Cache.fill, hed, ht, if_false]
      exact ⟨h1, h2, h3⟩

theorem Cache.inv_fillGuarded (find : Nat → List Nat) (s : Cache) (td : Nat × Nat)
    (h : Cache.Inv find s) : Cache.Inv find (Cache.fillGuarded find s td) := by
  unfold Cache.fillGuarded; split
  · exact h
  · exact Cache.inv_fill find s td h

theorem Cache.inv_run (find : Nat → List Nat) (sched : List (Nat × Nat)) (s : Cache)
    (h : Cache.Inv find s) : Cache.Inv find (Cache.run find s sched) :=
  List.foldlRecOn sched _ h fun s hs td _ => Cache.inv_fillGuarded find s td hs

theorem Cache.cached_fillGuarded (find : Nat → List Nat) (s : Cache) (t d : Nat) :
    (Cache.fillGuarded find s (t, d)).cached d = true := by
  unfold Cache.fillGuarded
  by_cases h : s.cached d = true
  · simp [h]
  · simp [h, Cache.fill]

theorem Cache.get_of_inv (find : Nat → List Nat) (s : Cache) (h : Cache.Inv find s) (d : Nat) :
    (Cache.get find s d).2 = find d :=
  (Cache.inv_fillGuarded find s (0, d) h d (Cache.cached_fillGuarded find s 0 d)).2.2

end PysphVerif.Nnps
