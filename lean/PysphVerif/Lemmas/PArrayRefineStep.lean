import PysphVerif.Lemmas.PArrayStep
import PysphVerif.Lemmas.PArrayPool
import PysphVerif.Lemmas.PArraySpecAddProperty
/-!
`add_property` on the pool: `validOp` is used as it stands; what the property demands beyond it
is taken as plain hypotheses.
-/
namespace PysphVerif.PArray

theorem refines_addProperty {st : State} {s : Nat} {pa : PA} (hs : st[s]? = some pa)
    (hi : Inv pa) (nm ct : String) (df : Option Int) (da : Option (List Int)) (sd : Nat)
    (hv : validOp st (.addProperty s nm ct df da sd) = true)
    (hg : ∀ d, da = some d → (d.length == 0 || pa.n == 0 ||
      (if pa.hasProp nm then sd == pa.strideOf nm else d.length == pa.n * sd)) = true) :
    poolEquiv (absState (setAt st s (pa.addProperty nm ct df da sd)))
      ((absState st).set s (specAddProperty nm df da sd (absPA pa))) := by
  obtain ⟨h1, hpres, hdata⟩ := validOp_addProperty hv hs
  have nodata : poolEquiv (absState (setAt st s (pa.addProperty nm ct df none sd)))
      ((absState st).set s (specAddProperty nm df none sd (absPA pa))) := by
    obtain ⟨pa', hr, habs⟩ := addProperty_nodata_refines (ctype := ct) (dflt := df) hi h1 hpres
    rw [hr]
    exact refines_set (RA.equiv_of_eq habs)
  cases da with
  | none => exact nodata
  | some d =>
    by_cases hd : d.length = 0
    · have : d = [] := List.length_eq_zero_iff.mp hd
      subst this
      rw [addProperty_some_nil]
      exact nodata
    · -- non-empty data: the data clauses of `validOp` (`hnew` for a new name, `hold` for an existing
      -- one) and `hg` together give the three hypotheses of `addProperty_data_refines`: an existing
      -- name comes with its own stride, the data is whole rows, one per particle unless there are none
      have hg := hg d rfl
      simp only [hd, beq_iff_eq, false_or, Bool.or_eq_true] at hg
      obtain ⟨hnew, hold⟩ := hdata d rfl hd
      have hpres' : nm ∈ pa.props.map Col.name → sd = pa.strideOf nm := by
        intro hm
        by_cases hn0 : pa.n = 0
        · exact (hold hm).2.2 hn0
        · simpa [hn0, (hasProp_iff pa nm).mpr hm] using hg
      have hdiv : d.length % sd = 0 := by
        by_cases hm : nm ∈ pa.props.map Col.name
        · rw [hpres' hm]; exact (hold hm).1
        · exact hnew hm
      have hlen : pa.n ≠ 0 → d.length = pa.n * sd := by
        intro hn0
        by_cases hm : nm ∈ pa.props.map Col.name
        · rw [hpres' hm]; exact (hold hm).2.1 hn0
        · simpa [hn0, (hasProp_false_iff pa nm).mpr hm] using hg
      obtain ⟨pa', hr, habs⟩ := addProperty_data_refines (ctype := ct) (dflt := df) hi h1 hd
        hpres' hdiv hlen
      rw [hr]
      exact refines_set (RA.equiv_of_eq habs)

end PysphVerif.PArray
