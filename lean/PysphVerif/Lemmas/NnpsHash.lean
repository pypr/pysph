import PysphVerif.Lemmas.NnpsGrid
/-!
C01: the chained hash table of `spatial_hash.h` (for every hash function, hence every table size
and every pattern of collisions), the dict of `DictBoxSortNNPS`, and the `h_max` a hash entry
keeps (it bounds the smoothing lengths of its cell; ExtendedSpatialHashNNPS cuts its boxes by it).
-/
set_option linter.unusedSectionVars false
namespace PysphVerif.Nnps

section hash
variable {α : Type} [LT α] [DecidableLT α]

def chainIdx (c : Cell) (ch : List (HEntry α)) : List Nat :=
  match chainGet c ch with
  | some e => e.idx
  | none => []

theorem indices_eq_chainIdx (hash : Cell → Nat) (t : HTable α) (c : Cell) :
    HTable.indices hash t c = chainIdx c (t (hash c)) := rfl

theorem chainGet_chainAdd (c' c : Cell) (i : Nat) (h : α) (ch : List (HEntry α)) :
    chainGet c (chainAdd c' i h ch) =
      if c' = c then
        some (match chainGet c ch with
          | some e => e.add i h
          | none => { c := c', idx := [i], hmax := h })
      else chainGet c ch := by
  induction ch with
  | nil => rfl
  | cons e es ih =>
    unfold chainAdd
    by_cases he : e.c = c'
    · simp only [he, if_true]
      by_cases hc : c' = c
      · simp [chainGet, HEntry.add, he, hc]
      · simp [chainGet, HEntry.add, he, hc]
    · simp only [he, if_false]
      by_cases hec : e.c = c
      · have hc : ¬ c' = c := fun h => he (hec.trans h.symm)
        simp [chainGet, hec, hc]
      · have : chainGet c (e :: chainAdd c' i h es) = chainGet c (chainAdd c' i h es) := by
          simp [chainGet, hec]
        rw [this, ih]
        simp [chainGet, hec]

theorem get_add (hash : Cell → Nat) (t : HTable α) (item : Cell × Nat × α) (c : Cell) :
    HTable.get hash (HTable.add hash t item) c =
      if item.1 = c then
        some (match HTable.get hash t c with
          | some e => e.add item.2.1 item.2.2
          | none => { c := item.1, idx := [item.2.1], hmax := item.2.2 })
      else HTable.get hash t c := by
  simp only [HTable.get, HTable.add]
  by_cases hb : hash c = hash item.1
  · simp only [hb, if_true]
    exact chainGet_chainAdd item.1 c item.2.1 item.2.2 (t (hash item.1))
  · have hc : ¬ item.1 = c := fun h => hb (by rw [h])
    simp only [hb, hc, if_false]

theorem indices_add (hash : Cell → Nat) (t : HTable α) (item : Cell × Nat × α) (c : Cell) :
    HTable.indices hash (HTable.add hash t item) c =
      if item.1 = c then HTable.indices hash t c ++ [item.2.1] else HTable.indices hash t c := by
  unfold HTable.indices
  rw [get_add]
  by_cases hc : item.1 = c
  · rw [if_pos hc, if_pos hc]
    cases HTable.get hash t c <;> rfl
  · rw [if_neg hc, if_neg hc]

theorem indices_build (hash : Cell → Nat) (items : List (Cell × Nat × α)) (c : Cell) :
    HTable.indices hash (HTable.build hash items) c =
      (items.filter (fun it => it.1 = c)).map (·.2.1) :=
  (lookup_foldl (HTable.add hash) (fun t => HTable.indices hash t c) (fun it => decide (it.1 = c))
    (·.2.1) (fun t it => by simp only [indices_add, decide_eq_true_eq]) items _).trans
    (by simp [HTable.indices, HTable.get, chainGet])

theorem indices_hashItems (hash : Cell → Nat) (n : Nat) (cellAt : Nat → Cell) (hAt : Nat → α)
    (c : Cell) :
    HTable.indices hash (HTable.build hash (hashItems n cellAt hAt)) c =
      (List.range n).filter (fun j => cellAt j = c) := by
  rw [indices_build]
  unfold hashItems
  rw [List.filter_map, List.map_map]
  simp [Function.comp_def]

/-- SpatialHash, and the sub-cell table of ExtendedSpatialHash -/
theorem hash_lookup_spec (hash : Cell → Nat) (n : Nat) (cellAt : Nat → Cell) (hAt : Nat → α)
    (c : Cell) :
    LookupSpec n cellAt (HTable.indices hash (HTable.build hash (hashItems n cellAt hAt))) c :=
  spec_of_perm_filter (.of_eq (indices_hashItems hash n cellAt hAt c)) fun _ _ => decide_eq_true_iff

end hash

theorem spatialHash_lt (size : Nat) (hs : 1 ≤ size) (c : Cell) : spatialHash size c < size :=
  Nat.mod_lt _ (by omega)

theorem dictLookup_insert (d : DictCells) (t : Nat × Nat × Cell) (s : Nat) (c : Cell) :
    dictLookup (dictInsert d t) s c =
      if t.2.2 = c ∧ t.1 = s then dictLookup d s c ++ [t.2.1] else dictLookup d s c := by
  unfold dictLookup dictInsert
  by_cases hc : c = t.2.2
  · subst hc
    by_cases hs : s = t.1
    · subst hs
      cases hd : d t.2.2 <;> simp
    · have hs' : ¬ t.1 = s := fun h => hs h.symm
      cases hd : d t.2.2 <;> simp [hs, hs']
  · have hc' : ¬ t.2.2 = c := fun h => hc h.symm
    simp [hc, hc']

theorem dictLookup_build (items : List (Nat × Nat × Cell)) (s : Nat) (c : Cell) :
    dictLookup (dictBuild items) s c =
      (items.filter (fun t => t.2.2 = c ∧ t.1 = s)).map (·.2.1) :=
  (lookup_foldl dictInsert (fun d => dictLookup d s c) (fun t => decide (t.2.2 = c ∧ t.1 = s))
    (·.2.1) (fun d t => by simp only [dictLookup_insert, decide_eq_true_eq]) items _).trans
    (by simp [dictLookup])

theorem dict_lookup_spec (items : List (Nat × Nat × Cell)) (s n : Nat) (cellAt : Nat → Cell)
    (hitems : items.filter (fun t => t.1 = s) = dictItems s n cellAt) (c : Cell) :
    LookupSpec n cellAt (dictLookup (dictBuild items) s) c := by
  have e : dictLookup (dictBuild items) s c = (List.range n).filter (fun j => cellAt j = c) := by
    -- filter by array first, then by cell
    rw [dictLookup_build]
    simp only [Bool.decide_and, ← List.filter_filter]
    rw [hitems]
    unfold dictItems
    rw [List.filter_map, List.map_map]
    simp [Function.comp_def]
  exact spec_of_perm_filter (.of_eq e) fun _ _ => decide_eq_true_iff

section hmax
open scoped PysphVerif.OrderChain
variable {α : Type} [LinearOrder α]

/-- `(e.add i h).hmax` is `fmaxA e.hmax h`, by unfolding -/
theorem hmax_add_ge (e : HEntry α) (i : Nat) (h : α) :
    e.hmax ≤ (e.add i h).hmax ∧ h ≤ (e.add i h).hmax :=
  ⟨fmaxA_ge_left e.hmax h, fmaxA_ge_right e.hmax h⟩

/-- an item's own `add` gives it an entry whose `h_max` bounds its `h`; every other `add` keeps the
entry or raises its `h_max` -/
theorem hmax_build (hash : Cell → Nat) (items : List (Cell × Nat × α)) :
    ∀ it ∈ items, ∃ e, HTable.get hash (HTable.build hash items) it.1 = some e ∧ it.2.2 ≤ e.hmax := by
  intro it hit
  refine (foldl_slot (HTable.add hash) (· = it) (fun _ => True)
    (fun t => ∃ e, HTable.get hash t it.1 = some e ∧ it.2.2 ≤ e.hmax) items _ ?_ ?_).2 trivial
    ⟨it, hit, rfl⟩
  · rintro t w _ _
    refine ⟨fun _ => trivial, fun ⟨e0, hg, hb⟩ => ?_⟩
    rw [get_add]
    by_cases hc : w.1 = it.1
    · simp only [hc, if_true, hg]
      exact ⟨_, rfl, le_trans hb (hmax_add_ge e0 _ _).1⟩
    · simp only [hc, if_false]
      exact ⟨e0, hg, hb⟩
  · rintro t w _ rfl _
    rw [get_add, if_pos rfl]
    cases hg : HTable.get hash t w.1 with
    | none => exact ⟨_, rfl, le_refl _⟩
    | some e0 => exact ⟨_, rfl, (hmax_add_ge e0 _ _).2⟩

theorem hmax_hashItems (hash : Cell → Nat) (n : Nat) (cellAt : Nat → Cell) (hAt : Nat → α) (j : Nat)
    (hj : j < n) :
    ∃ e, HTable.get hash (HTable.build hash (hashItems n cellAt hAt)) (cellAt j) = some e ∧
      hAt j ≤ e.hmax :=
  hmax_build hash (hashItems n cellAt hAt) (cellAt j, j, hAt j)
    (List.mem_map.mpr ⟨j, List.mem_range.mpr hj, rfl⟩)

end hmax

end PysphVerif.Nnps
