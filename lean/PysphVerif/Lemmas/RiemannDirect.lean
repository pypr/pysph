import PysphVerif.Lemmas.Riemann
/-!
# C15 — `hll_ball` and `hlle`: from wave speeds to the star state

Both solvers estimate a left and a right wave speed and evaluate a closed formula, here a function
of its own (`hllBallTail`, `hlleTail`); the mirror image of the data maps the wave speeds
`(Sl, Sr)` to `(-Sr, -Sl)`.
-/
set_option linter.unusedSectionVars false
namespace PysphVerif.Riemann
open PysphVerif.Gen.Riemann
open scoped PysphVerif.OrderChain

variable {K : Type} [Field K] [LinearOrder K] [IsStrictOrderedRing K]

theorem hll_avg_self {R S : K} (h : R - S ≠ 0) (x : K) : (R * x - S * x) / (R - S) = x := by
  rw [← sub_mul, mul_div_cancel_left₀ _ h]

def hllBallU (rhol rhor ul ur Sl Sr : K) : K :=
  (Sr * Sl * (rhor - rhol) + rhol * ul * Sr - rhor * ur * Sl) / (rhol * (ul - Sl) + rhor * (Sr - ur))

def hllBallP (rhol rhor pl pr ul ur Sl Sr U : K) : K :=
  (pr * (U - Sl) - pl * (U - Sr) + rhor * ur * (U - Sl) * (ur - Sr) - rhol * ul * (U - Sr) * (ul - Sl)) /
    (Sr - Sl)

def hllBallTail (rhol rhor pl pr ul ur Sl Sr : K) : Res K :=
  ⟨0, hllBallP rhol rhor pl pr ul ur Sl Sr (hllBallU rhol rhor ul ur Sl Sr), hllBallU rhol rhor ul ur Sl Sr⟩

/-- the averaged velocity `ulr` of `hll_ball` -/
def hllBallV (a b ul ur : K) : K := (a * ul + b * ur) / (a * b)

/-- the signal speed `cslr` of `hll_ball` -/
def hllBallC (s : K → K) (a b cl cr gamma ul ur : K) : K :=
  s ((a * cl * cl + b * cr * cr) / (a * b) +
    1 / 2 * (gamma - 1) * (b * a) * (1 / (b + a)) * (1 / (b + a)) * (|ur| - |ul|) * (|ur| - |ul|))

theorem hll_ball_eq (sqrt : K → K) (pow : K → K → K) (rhol rhor pl pr ul ur gamma : K) (niter : Int)
    (tol r0 r1 : K) :
    hll_ball (fieldOps sqrt pow) rhol rhor pl pr ul ur gamma niter tol r0 r1 =
      hllBallTail rhol rhor pl pr ul ur
        (min (hllBallV (sqrt rhol) (sqrt rhor) ul ur -
            hllBallC sqrt (sqrt rhol) (sqrt rhor) (sqrt (gamma * pl / rhol)) (sqrt (gamma * pr / rhor)) gamma ul ur)
          (ul - sqrt (gamma * pl / rhol)))
        (max (hllBallV (sqrt rhol) (sqrt rhor) ul ur +
            hllBallC sqrt (sqrt rhol) (sqrt rhor) (sqrt (gamma * pl / rhol)) (sqrt (gamma * pr / rhor)) gamma ul ur)
          (ur + sqrt (gamma * pr / rhor))) := by
  /- Both sides are unfolded by name: up to the spelling of numerals and of `max`/`min` they are the
  same text, which `simp only` sees at once.  (A `rfl` from the unfolded solver to the folded normal
  form costs ten times as much: at default transparency the unifier has to find its way through
  several layers of definitions and unfolds whole solver bodies again and again on the way.  The
  other `*_eq` lemmas of C15 are proved in the same way.) -/
  unfold hll_ball hllBallTail hllBallP hllBallU hllBallV hllBallC
  simp only [fieldOps_sqrt, fieldOps_abs, Nat.cast_ofNat, Nat.cast_one, pymax_eq_max, pymin_eq_min]

theorem hllBallV_mirror (a b ul ur : K) : hllBallV b a (-ur) (-ul) = -hllBallV a b ul ur := by
  unfold hllBallV; ring

theorem hllBallC_mirror (s : K → K) (a b cl cr gamma ul ur : K) :
    hllBallC s b a cr cl gamma (-ur) (-ul) = hllBallC s a b cl cr gamma ul ur := by
  unfold hllBallC
  rw [abs_neg, abs_neg]
  congr 1
  ring

theorem hllBallU_mirror (rhol rhor ul ur Sl Sr : K) :
    hllBallU rhor rhol (-ur) (-ul) (-Sr) (-Sl) = -hllBallU rhol rhor ul ur Sl Sr := by
  unfold hllBallU
  -- the numerator changes sign, the denominator stays
  rw [← neg_div]
  congr 1
  · ring
  · ring

theorem hllBallP_mirror (rhol rhor pl pr ul ur Sl Sr U : K) :
    hllBallP rhor rhol pr pl (-ur) (-ul) (-Sr) (-Sl) (-U) = hllBallP rhol rhor pl pr ul ur Sl Sr U := by
  unfold hllBallP
  rw [neg_sub_neg Sl Sr]
  congr 1
  ring

theorem hllBallTail_mirror (rhol rhor pl pr ul ur Sl Sr : K) :
    Res.Rel id Neg.neg (hllBallTail rhor rhol pr pl (-ur) (-ul) (-Sr) (-Sl))
      (hllBallTail rhol rhor pl pr ul ur Sl Sr) := by
  refine .of_eq ?_
  unfold hllBallTail
  rw [hllBallU_mirror, hllBallP_mirror]
  rfl

theorem hllBallTail_equal {rho S R : K} (hrho : rho ≠ 0) (h : R - S ≠ 0) (p u : K) :
    hllBallTail rho rho p p u u S R = ⟨0, p, u⟩ := by
  have hU : hllBallU rho rho u u S R = u := by
    unfold hllBallU
    rw [sub_self, mul_zero, zero_add, show rho * (u - S) + rho * (R - u) = rho * (R - S) by ring,
      show rho * u * R - rho * u * S = rho * (R - S) * u by ring, mul_div_cancel_left₀ _ (mul_ne_zero hrho h)]
  unfold hllBallTail
  rw [hU]
  congr 1
  unfold hllBallP
  rw [show p * (u - S) - p * (u - R) + rho * u * (u - S) * (u - R) - rho * u * (u - R) * (u - S)
    = (R - S) * p by ring, mul_div_cancel_left₀ _ h]

/-- `p*` and `u* = (p u)* / p*` of `hlle` from the extreme wave speeds `m ≤ M` -/
def hlleTail (M m pl pr ul ur El Er : K) : Res K :=
  ⟨0, (M * pl - m * pr) / (M - m) + M * m / (M - m) * (ur - ul),
    ((M * pl * ul - m * pr * ur) / (M - m) + M * m / (M - m) * (Er - El)) /
      ((M * pl - m * pr) / (M - m) + M * m / (M - m) * (ur - ul))⟩

/-- `hlle` after its square roots: `cl, cr` are the Lagrangian sound speeds, `C` their average -/
def hlleFrom (C cl cr rhol rhor pl pr ul ur g1 : K) : Res K :=
  hlleTail (max (min (ul - cl) (-C)) (max (ur + cr) C))
    (min (min (ul - cl) (-C)) (max (ur + cr) C)) pl pr ul ur
    (pl * g1 / rhol + 1 / 2 * ul * ul) (pr * g1 / rhor + 1 / 2 * ur * ur)

theorem hlle_eq (sqrt : K → K) (pow : K → K → K) (rhol rhor pl pr ul ur gamma : K) (niter : Int)
    (tol r0 r1 : K) :
    hlle (fieldOps sqrt pow) rhol rhor pl pr ul ur gamma niter tol r0 r1 =
      hlleFrom ((sqrt rhol * sqrt (gamma * pl * rhol) + sqrt rhor * sqrt (gamma * pr * rhor)) /
          (sqrt rhol + sqrt rhor))
        (sqrt (gamma * pl * rhol)) (sqrt (gamma * pr * rhor)) rhol rhor pl pr ul ur (1 / (gamma - 1)) := by
  unfold hlle hlleFrom hlleTail
  simp only [fieldOps_sqrt, Nat.cast_ofNat, Nat.cast_one, pymax_eq_max, pymin_eq_min]

theorem hlleTail_mirror (M m pl pr ul ur El Er : K) :
    Res.Rel id Neg.neg (hlleTail (-m) (-M) pr pl (-ur) (-ul) Er El) (hlleTail M m pl pr ul ur El Er) := by
  refine .of_eq ?_
  unfold hlleTail
  have eP : (-m * pr - -M * pl) / (-m - -M) + -m * -M / (-m - -M) * (-ul - -ur)
      = (M * pl - m * pr) / (M - m) + M * m / (M - m) * (ur - ul) := by
    rw [neg_sub_neg]; ring
  rw [eP, ← neg_div]
  congr 2
  rw [neg_sub_neg]; ring

theorem hlleTail_equal {R S p : K} (h : R - S ≠ 0) (hp : p ≠ 0) (u E : K) :
    hlleTail R S p p u u E E = ⟨0, p, u⟩ := by
  unfold hlleTail
  rw [sub_self, mul_zero, add_zero, sub_self, mul_zero, add_zero, hll_avg_self h,
    show R * p * u - S * p * u = R * (p * u) - S * (p * u) by ring, hll_avg_self h, mul_div_cancel_left₀ _ hp]

theorem hlleFrom_mirror (C cl cr rhol rhor pl pr ul ur g1 : K) :
    Res.Rel id Neg.neg (hlleFrom C cr cl rhor rhol pr pl (-ur) (-ul) g1)
      (hlleFrom C cl cr rhol rhor pl pr ul ur g1) := by
  unfold hlleFrom
  -- the wave speeds `(sl, sr)` become `(-sr, -sl)`, hence `(M, m)` becomes `(-m, -M)`; the energies are even in `u`
  rw [min_sub_mirror, max_add_mirror, max_neg_neg, min_neg_neg, max_comm (max _ _), min_comm (max _ _)]
  simp only [mul_neg, neg_mul, neg_neg]
  exact hlleTail_mirror ..

/-- the wave speeds are `S ≤ -C < 0 < C ≤ R`, whatever the sound speed `c` is -/
theorem hlleFrom_equal {C p : K} (hC : 0 < C) (hp : p ≠ 0) (c rho u g1 : K) :
    hlleFrom C c c rho rho p p u u g1 = ⟨0, p, u⟩ := by
  unfold hlleFrom
  have h : min (u - c) (-C) < max (u + c) C :=
    (min_lt_of_right_lt (neg_neg_of_pos hC)).trans (lt_max_of_lt_right hC)
  rw [max_eq_right h.le, min_eq_left h.le]
  exact hlleTail_equal (sub_pos.mpr h).ne' hp ..

end PysphVerif.Riemann
