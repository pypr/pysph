import PysphVerif.Lemmas.ControllerLocks
/-!
C18, repaired protocol, ALL operations (get / blocking set / queued commands / get_result of
arbitrary ids / pause_on_next / wait / cont): a state that satisfies the invariants always has an
enabled thread (`full_not_stuck`).  The only thing a program must respect for this is `WF`: it does
not END inside a pause section (every `pause_on_next` is eventually followed by a `cont` of the same
thread).
-/
namespace PysphVerif.Controller

/-- `b` = the thread is currently in `pause`; the program must not end there -/
def WF : Bool → List Op → Bool
  | b, [] => !b
  | _, Op.pause :: r => WF true r
  | _, Op.cont :: r => WF false r
  | b, _ :: r => WF b r

/-- well-formed program of the pause fragment (no queued commands, no `get_result`;
balanced pause sections, `wait`/`cont` only inside), `b` = inside a pause section -/
def WFp : Bool → List Op → Bool
  | b, [] => !b
  | b, Op.pause :: r => !b && WFp true r
  | b, Op.wait :: r => b && WFp true r
  | b, Op.cont :: r => b && WFp false r
  | b, Op.get :: r => WFp b r
  | b, Op.setNow _ :: r => WFp b r
  | _, _ => false

theorem wf_of_wfp : ∀ (b : Bool) (p : List Op), WFp b p = true → WF b p = true
  | b, [] => by simp [WFp, WF]
  | b, op :: r => by
    intro h
    cases op <;> simp only [WFp, WF, Bool.and_eq_true, Bool.not_eq_true'] at h ⊢
    · exact wf_of_wfp b r h
    · exact wf_of_wfp b r h
    · cases h
    · cases h
    · cases h
    · exact wf_of_wfp true r h.2
    · obtain ⟨hb, h⟩ := h; subst hb; exact wf_of_wfp true r h
    · exact wf_of_wfp false r h.2

/-- consistency of a thread's pc and remaining program with its membership in `pause`; at the
first primitive of `pause_on_next` / `cont` the program is already that of the membership to come -/
def consF (inPause : Bool) (pc : IPc) (prog : List Op) : Bool :=
  match pc with
  | IPc.pAcqP => WF true prog
  | IPc.cAcqP => WF false prog
  | _ => WF inPause prog

/-- a `cont()` that has left `pause` and has not yet notified `qlock` -/
def contInFlight : IPc → Bool
  | IPc.cNtfP | IPc.cRelP false | IPc.cAcqQ | IPc.cNtaQ => true
  | _ => false

/-- the solver is inside the loop of `wait_for_cmd`, past `paused.update(pause)` -/
def honoured : SPc → Bool
  | SPc.ntaP | SPc.relP | SPc.waitQ => true
  | SPc.runAcqRes ctx _ _ | SPc.runRelC ctx _ | SPc.runRelRes ctx => decide (ctx = Ctx.loop)
  | _ => false

theorem honoured_sOwnsQ {pc : SPc} (h : honoured pc = true) : sOwnsQ pc = true := by
  cases pc <;> simp_all [honoured, sOwnsQ]

/-- program consistency of every thread; only the threads `1 … n` have programs -/
structure LiveC (n : Nat) (s : State) : Prop where
  cons : ∀ u, consF (decide (u ∈ s.pause)) (s.th u).pc (s.th u).prog = true
  inert : ∀ u, n < u → (s.th u).pc = IPc.idle ∧ (s.th u).prog = []
  zprog : (s.th 0).prog = []
  /-- the converse of `PW` -/
  wb : ∀ u, (s.th u).pc = IPc.wBlocked → u ∈ s.pWait

/-- pending notifications of the pause protocol: why a solver that is in the loop of `wait_for_cmd`
will be woken.  The solver is there for a pause request, and whoever withdraws the request is a
`cont()` on its way to `qlock.notify_all()`. -/
structure LiveJ (s : State) : Prop where
  j1 : s.spc = SPc.acqP → (∀ u, contInFlight (s.th u).pc = false) → s.pause ≠ []
  j2 : (honoured s.spc = true ∨ s.qWaiting = true) →
        (∀ u, contInFlight (s.th u).pc = false) → s.paused ≠ []
  np : (s.spc = SPc.ntaP ∨ s.spc = SPc.relP) → ∀ u ∈ s.pause, u ∈ s.paused

/-- the two invariants that deadlock freedom needs beyond safety, for `n` threads with programs -/
structure Live (n : Nat) (s : State) : Prop where
  c : LiveC n s
  j : LiveJ s

theorem addSet_ne_nil (l : List Tid) (t : Tid) : addSet l t ≠ [] :=
  List.ne_nil_of_mem (mem_addSet.mpr (Or.inr rfl))

theorem consF_firstPc (s : State) (t : Tid) (op : Op) (rest : List Op) (b : Bool) :
    consF b (firstPc s t op) rest = WF b (op :: rest) := by
  cases op <;> simp only [firstPc] <;> (repeat' split) <;> rfl

theorem LiveC.frame {n : Nat} {cfg : Cfg} {s D : State} {t : Tid} {old new : IPc} (h : LiveC n s)
    (hw : PW s) (hpc : (s.th t).pc = old) (he : Edge cfg s t old new D) (ht : t ≠ 0)
    (e1 : ∀ u, u ≠ t → (u ∈ D.pause ↔ u ∈ s.pause))
    (e2 : ∀ u ∈ s.pWait, u ∈ D.pWait ∨ (D.th u).pc = IPc.wReacqP)
    (hc : consF (decide (t ∈ D.pause)) new (D.th t).prog = true)
    (hnb : new = IPc.wBlocked → t ∈ D.pWait) : LiveC n (setPc D t new) := by
  have hs : IfaceStep cfg s t _ := ⟨hpc, he⟩
  have hoth : ∀ u, u ≠ t → (setPc D t new).th u = s.th u ∨
      ((s.th u).pc = IPc.wBlocked ∧ (setPc D t new).th u = { s.th u with pc := IPc.wReacqP }) :=
    fun u hu => (hs.others hu).imp_right fun ⟨hm, e⟩ => ⟨hw u (hm ▸ List.mem_cons_self), e⟩
  refine ⟨fun u => ?_, fun u hu => ?_, ?_, fun u hu => ?_⟩
  · by_cases hut : u = t
    · subst hut; rw [setPc_th_same, setPc_th_prog]; exact hc
    · have := h.cons u
      rw [show (setPc D t new).pause = D.pause from rfl, decide_eq_decide.mpr (e1 u hut)]
      rcases hoth u hut with e | ⟨hb, e⟩ <;> rw [e]
      · exact this
      · rw [hb] at this; exact this
  · -- threads without a program do not step
    have hut : u ≠ t := fun e => hs.awake.2.elim (· (e ▸ (h.inert u hu).1)) (· (e ▸ (h.inert u hu).2))
    rcases hoth u hut with e | ⟨hb, _⟩
    · rw [e]; exact h.inert u hu
    · rw [(h.inert u hu).1] at hb; cases hb
  · rcases hoth 0 (Ne.symm ht) with e | ⟨_, e⟩ <;> rw [e] <;> exact h.zprog
  · by_cases hut : u = t
    · subst hut; exact hnb ((setPc_th_same ..).symm.trans hu)
    · rcases hoth u hut with e | ⟨_, e⟩
      · exact (e2 u (h.wb u (e ▸ hu))).resolve_right
          (by rw [← setPc_th_other D t u new hut, hu]; nofun)
      · rw [e] at hu; cases hu

theorem livec_stepIface {n : Nat} {cfg : Cfg} {s s' : State} {t : Tid}
    (h : LiveC n s) (hw : PW s) (ht : t ≠ 0)
    (hs : IfaceStep cfg s t s') : LiveC n s' := by
  obtain ⟨hpc, he⟩ := hs
  have frame := h.frame hw hpc he ht
  have hct := h.cons t
  rw [hpc] at hct
  cases he with
  | @start op rest hprog =>
    rw [hprog] at hct
    refine frame (fun _ _ => Iff.rfl) (fun _ h => Or.inl h)
      (by simpa [setProg] using (consF_firstPc s t op rest _).trans hct) fun e => ?_
    have := firstPc_entry s t op
    rw [e] at this; cases this
  | pAcqP =>
    exact frame (fun u hu => mem_addSet.trans (or_iff_left hu)) (fun _ h => Or.inl h)
      (by simpa [consF, mem_addSet] using hct) nofun
  | cAcqP =>
    exact frame (fun u hu => by simp [hu]) (fun _ h => Or.inl h) (by simpa [consF] using hct) nofun
  | cAcqP_err _ hnp =>
    exact frame (fun _ _ => Iff.rfl) (fun _ h => Or.inl h) (by simpa [consF, hnp] using hct) nofun
  | wWaitP =>
    exact frame (fun _ _ => Iff.rfl) (fun _ h => Or.inl (List.mem_append_left _ h)) hct
      fun _ => List.mem_append_right _ (List.mem_singleton_self t)
  | pNtfP_wake hwk | cNtfP_wake hwk _ | cNtfP_wake_orig hwk _ =>
    -- the head of the wait set leaves it for `wReacqP`
    refine frame (fun _ _ => Iff.rfl) (fun u hu => ?_) (by rw [setPc_th_prog]; exact hct) nofun
    rcases List.mem_cons.mp (hwk ▸ hu) with e | hm
    · exact Or.inr (by rw [e, setPc_th_same])
    · exact Or.inl hm
  | qRelD =>
    exact frame (fun _ _ => Iff.rfl) (fun _ h => Or.inl h)
      (by simp only [addMine, ↓reduceIte]; exact hct) nofun
  | _ => exact frame (fun _ _ => Iff.rfl) (fun _ h => Or.inl h) hct nofun

theorem livec_stepSolver {n : Nat} {cfg : Cfg} {s s' : State}
    (h : LiveC n s) (hw : PW s) (hs : SolverStep cfg s s') : LiveC n s' := by
  cases hs with
  | ntaP =>
    -- every thread blocked in `plock.wait()` is in the wait set, hence woken
    obtain ⟨a1, a2, a3, a4⟩ := h
    unfold PW at hw
    constructor <;> simp only [wakeAllP] <;> grind [consF, WF]
  | _ => exact ⟨h.cons, h.inert, h.zprog, h.wb⟩

theorem contInFlight_entry {pc : IPc} (h : isEntry pc = true) : contInFlight pc = false := by
  cases pc <;> simp [isEntry, contInFlight] at h ⊢

/-- `e5`: `pause` grows only while the solver is outside `with self.plock:` -/
theorem LiveJ.frame {cfg : Cfg} {s D : State} {t : Tid} {old new : IPc} (h : LiveJ s)
    (hpc : (s.th t).pc = old) (he : Edge cfg s t old new D) (hw : PW s) (e1 : D.spc = s.spc)
    (e2 : D.qWaiting = s.qWaiting) (e3 : s.pause ≠ [] → D.pause ≠ []) (e4 : D.paused = s.paused)
    (e5 : (s.spc = SPc.ntaP ∨ s.spc = SPc.relP) → ∀ u ∈ D.pause, u ∈ s.pause)
    (hc : contInFlight new = contInFlight old) : LiveJ (setPc D t new) := by
  have hc := Edge.classify contInFlight hpc he hw rfl hc
  have e1 : (setPc D t new).spc = s.spc := e1
  have e2 : (setPc D t new).qWaiting = s.qWaiting := e2
  have e4 : (setPc D t new).paused = s.paused := e4
  obtain ⟨a5, a6, a7⟩ := h
  refine ⟨fun hp hn => e3 ?_, ?_, fun hq u hu => ?_⟩
  · simp only [e1, hc] at *; exact a5 hp hn
  · simp only [e1, e2, e4, hc] at *; exact a6
  · rw [e1] at hq; rw [e4]; exact a7 hq u (e5 hq u hu)

theorem LiveJ.idle {s : State} (h1 : s.spc ≠ SPc.acqP) (h2 : honoured s.spc = false)
    (h3 : s.qWaiting = false) : LiveJ s :=
  ⟨fun e => absurd e h1, fun hor => (by rw [h2, h3] at hor; rcases hor with h | h <;> cases h),
    fun hc => by rcases hc with e | e <;> rw [e] at h2 <;> cases h2⟩

theorem livej_stepIface {s s' : State} {t : Tid}
    (h : LiveJ s) (hw : PW s) (hl : LQ s) (hlp : LP s) (ht : t ≠ 0)
    (hs : IfaceStep Cfg.fixed s t s') : LiveJ s' := by
  obtain ⟨hpc, he⟩ := hs
  have frame := h.frame hpc he hw
  cases he with
  | start =>
    exact frame rfl rfl id rfl (fun _ _ h => h) (contInFlight_entry (firstPc_entry ..))
  | cRelP_orig h | cRelQ_orig h => exact absurd h (by decide)
  | pAcqP hfree =>
    -- `plock` is free, so the solver is not inside `with self.plock:`
    exact frame rfl rfl (fun _ => addSet_ne_nil s.pause t) rfl
      (fun hc => absurd (hlp.sfwd hc) (by rw [hfree]; nofun)) rfl
  | cAcqP =>
    -- after this step `t` is between leaving `pause` and notifying `qlock` (`contInFlight`)
    refine ⟨fun _ hn => ?_, fun _ hn => ?_, fun hc u hu =>
      List.mem_filter.mpr ⟨h.np hc u (List.mem_filter.mp hu).1, (List.mem_filter.mp hu).2⟩⟩ <;>
      (have := hn t; rw [setPc_th_same] at this; cases this)
  | cNtaQ_wake | qNtaQ_wake => exact .idle nofun rfl rfl
  | cNtaQ hqw =>
    -- `t` holds `qlock`, so the solver is outside its critical sections
    have hns : sOwnsQ s.spc ≠ true := fun hso => by
      cases (hl.fwd t (by rw [hpc]; rfl)).symm.trans (hl.sfwd hso); exact ht rfl
    exact .idle (fun e : s.spc = SPc.acqP => hns (by rw [e]; rfl))
      (Bool.eq_false_iff.mpr fun hh => hns (honoured_sOwnsQ hh)) hqw
  | _ => exact frame rfl rfl id rfl (fun _ _ h => h) rfl

theorem Next.livej {cfg : Cfg} {s : State} {k : Entry} {pc : SPc} {q : List Nat}
    (h : Next cfg s k pc q) :
    (pc = SPc.acqP → s.pause ≠ []) ∧ (honoured pc = true → k = .run Ctx.loop) := by
  induction h with
  | pop => exact ⟨nofun, fun h => by rw [of_decide_eq_true h]⟩
  | sleep => exact ⟨nofun, fun _ => rfl⟩
  | recheck _ _ _ ih => exact ⟨ih.1, fun hh => nomatch ih.2 hh⟩
  | again hp => exact ⟨fun _ => hp, nofun⟩
  | _ => exact ⟨nofun, nofun⟩

/-- `hh`, `hq`: the solver enters the honoured part of the loop, or `qlock`'s wait set, only from the
honoured part; `hn`: it stays inside `with self.plock:` only from `notify_all` -/
theorem LiveJ.sframe {s s' : State} (h : LiveJ s)
    (hc : ∀ u, contInFlight (s'.th u).pc = contInFlight (s.th u).pc)
    (e3 : s'.pause = s.pause) (e4 : s'.paused = s.paused) (h1 : s'.spc = SPc.acqP → s.pause ≠ [])
    (hh : honoured s'.spc = true → honoured s.spc = true ∨ s.qWaiting = true)
    (hq : s'.qWaiting = true → honoured s.spc = true ∨ s.qWaiting = true)
    (hn : (s'.spc ≠ SPc.ntaP ∧ s'.spc ≠ SPc.relP) ∨ s.spc = SPc.ntaP) : LiveJ s' := by
  refine ⟨fun hp _ => e3 ▸ h1 hp, fun hor hn => e4 ▸ h.j2 (hor.elim hh hq) fun u => ?_,
    fun hc => ?_⟩
  · rw [← hc u]; exact hn u
  · rw [e3, e4]
    exact h.np (hn.elim (fun hn => absurd hc (not_or.mpr hn)) Or.inl)

theorem livej_stepSolver {s s' : State}
    (h : LiveJ s) (hw : PW s) (hs : SolverStep Cfg.fixed s s') : LiveJ s' := by
  have hc := hs.classify contInFlight hw rfl
  have frame := h.sframe hc
  cases hs with
  | acqP hspc =>
    -- `paused.update(pause)` with somebody pausing (`j1`), who is then honoured
    refine ⟨nofun, fun _ hn => ?_, fun _ u hu => mem_unionSet.mpr (Or.inr hu)⟩
    obtain ⟨u, hu⟩ := List.exists_mem_of_ne_nil _ (h.j1 hspc hn)
    exact List.ne_nil_of_mem (mem_unionSet.mpr (Or.inr hu))
  | reacqQ_orig _ _ h | relP_orig _ h => exact absurd h (by decide)
  | waitQ hspc =>
    exact frame rfl rfl nofun (fun _ => Or.inl (by rw [hspc]; rfl)) (fun _ => Or.inl (by rw [hspc]; rfl))
      (Or.inl ⟨nofun, nofun⟩)
  | ntaP hspc =>
    exact frame rfl rfl nofun (fun _ => Or.inl (by rw [hspc]; rfl)) Or.inr (Or.inr hspc)
  | relP hspc _ ho =>
    exact frame rfl rfl ho.livej.1 (fun _ => Or.inl (by rw [hspc]; rfl)) Or.inr (Or.inl ho.notP)
  | acqQ1 _ _ ho | acqQ2 _ _ ho | reacqQ _ _ _ ho =>
    exact frame rfl rfl ho.livej.1 (fun hh => nomatch ho.livej.2 hh) Or.inr (Or.inl ho.notP)
  | runRelRes hspc ho =>
    exact frame rfl rfl ho.livej.1
      (fun hh => Or.inl (by rw [hspc, Entry.run.inj (ho.livej.2 hh)]; rfl)) Or.inr (Or.inl ho.notP)
  | runAcqRes hspc | runRelC hspc =>
    exact frame rfl rfl nofun (fun hh => Or.inl (by rw [hspc]; exact hh)) Or.inr (Or.inl ⟨nofun, nofun⟩)
  | _ => exact frame rfl rfl nofun nofun Or.inr (Or.inl ⟨nofun, nofun⟩)

theorem progsOf_cases (ps : List (List Op)) (u : Tid) :
    progsOf ps u = [] ∨ (1 ≤ u ∧ u ≤ ps.length ∧ progsOf ps u ∈ ps) := by
  unfold progsOf
  split
  · exact Or.inl rfl
  · by_cases hu : u - 1 < ps.length
    · rw [List.getD_eq_getElem?_getD, List.getElem?_eq_getElem hu]
      exact Or.inr ⟨Nat.pos_of_ne_zero ‹_›, Nat.le_of_pred_lt hu, List.getElem_mem hu⟩
    · rw [List.getD_eq_getElem?_getD, List.getElem?_eq_none (Nat.le_of_not_lt hu)]
      exact Or.inl rfl

theorem live_init (ps : List (List Op)) (hwf : ∀ p ∈ ps, WF false p = true) :
    Live ps.length (init (progsOf ps)) := by
  refine ⟨⟨fun u => ?_, fun u hu => ⟨rfl, ?_⟩, ?_, nofun⟩,
    by constructor <;> simp [init, contInFlight, honoured]⟩
  · show WF false (progsOf ps u) = true
    rcases progsOf_cases ps u with e | ⟨_, _, hm⟩
    · rw [e]; rfl
    · exact hwf _ hm
  · exact (progsOf_cases ps u).resolve_right fun h => Nat.not_le_of_lt hu h.2.1
  · exact (progsOf_cases ps 0).resolve_right fun h => Nat.not_succ_le_zero 0 h.1

theorem reachable_live {ps : List (List Op)} {s : State} (hwf : ∀ p ∈ ps, WF false p = true)
    (hr : Reachable Cfg.fixed (progsOf ps) s) : Live ps.length s := by
  refine hr.induct (live_init ps hwf) (fun hr _ ih hs => ?_) fun hr _ ih ht hs => ?_
  all_goals have hw := (reachable_w (cfg := Cfg.fixed) rfl rfl hr).waiting
  · exact ⟨livec_stepSolver ih.c hw hs, livej_stepSolver ih.j hw hs⟩
  · have hL := reachable_locks hr
    exact ⟨livec_stepIface ih.c hw ht hs, livej_stepIface ih.j hw hL.lq hL.lp ht hs⟩

/-- what is known of a reachable state of the repaired protocol running well-formed programs -/
structure Good (n : Nat) (s : State) : Prop where
  inv : Inv s
  pinv : PInv s
  safe : Safe s
  w : W s
  locks : Locks s
  live : Live n s

theorem reachable_good {ps : List (List Op)} {s : State} (hwf : ∀ p ∈ ps, WF false p = true)
    (hr : Reachable Cfg.fixed (progsOf ps) s) : Good ps.length s :=
  ⟨(reachable_inv hr).1, reachable_pinv hr, reachable_safe hr, reachable_w rfl rfl hr,
    reachable_locks hr, reachable_live hwf hr⟩

/-- what "thread `v` cannot take a step" says about its program counter -/
structure Stuck (s : State) (v : Tid) : Prop where
  noP : holdsP (s.th v).pc = false
  noQ : ownsQ (s.th v).pc = false
  noRes : ownsRes (s.th v).pc = false
  done : (s.th v).pc = IPc.idle → (s.th v).prog = []
  wantP : ((s.th v).pc = IPc.pAcqP ∨ (s.th v).pc = IPc.wAcqP ∨ (s.th v).pc = IPc.wReacqP ∨
        (s.th v).pc = IPc.cAcqP) → s.pOwner ≠ none
  wantQ : ((s.th v).pc = IPc.cAcqQ ∨ ∃ c id, (s.th v).pc = IPc.qAcqQ c id) → s.qOwner ≠ none
  wantRes : (∀ k, (s.th v).pc = IPc.rAcqRes k → s.resLock ≠ none)
  hasD : ownsD (s.th v).pc = true → ∃ c id, (s.th v).pc = IPc.qAcqQ c id
  wantD : ((s.th v).pc = IPc.gAcqD ∨ (∃ x, (s.th v).pc = IPc.sAcqD x) ∨
        ∃ c, (s.th v).pc = IPc.qAcqD c) → s.dlock ≠ none
  wantC : ∀ k, (s.th v).pc = IPc.rAcqC k → k ∈ s.cLocked
  hasC : ∀ k, holding (s.th v).pc = some k → (s.th v).pc = IPc.rAcqRes k
  fly : contInFlight (s.th v).pc = true → (s.th v).pc = IPc.cAcqQ

theorem stuck_of_none {s : State} {v : Tid} (h : stepIface Cfg.fixed s v = none) : Stuck s v := by
  -- by program counter first: at most of them the step is enabled, contradicting `h`
  unfold stepIface at h
  cases hpc : (s.th v).pc <;> simp [hpc, Cfg.fixed, wakeOneP, wakeQ] at h <;>
    (constructor <;>
      simp [hpc, holdsP, ownsQ, ownsD, ownsRes, holding, contInFlight] <;>
      (try (split at h <;> simp_all)) <;> (try simp_all))

theorem Stuck.idle_or_blocked {s : State} {u : Tid} (hst : Stuck s u) (hp0 : s.pOwner = none)
    (hr0 : s.resLock = none) (hq0 : s.qOwner = none) (hd0 : s.dlock = none)
    (hnoC : ∀ k, (s.th u).pc ≠ IPc.rAcqC k) :
    (s.th u).pc = IPc.idle ∨ (s.th u).pc = IPc.wBlocked := by
  obtain ⟨s1, s2, s3, s4, s5, s6, s7, s8, s9, s10, s11, s12⟩ := hst
  cases hpc : (s.th u).pc
  case idle => exact Or.inl rfl
  case wBlocked => exact Or.inr rfl
  -- at every other program counter the thread holds a lock or wants one, and all are free
  all_goals
    exfalso
    simp [hpc, holdsP, ownsQ, ownsD, ownsRes, contInFlight, holding, hp0, hr0, hq0, hd0]
      at s1 s2 s3 s5 s6 s7 s8 s9 s10 s11 s12 hnoC

/-- every lock is free, and with an empty queue nobody waits for the result of a command (its lock
would be free) -/
theorem stuck_idle_or_blocked {s : State} (hL : Locks s) (hi : Inv s) (hst : ∀ v, Stuck s v)
    (hsp : s.spc = SPc.blocked ∨ s.spc = SPc.acqQ2) :
    s.qOwner = none ∧
      (s.queue = [] → ∀ u, (s.th u).pc = IPc.idle ∨ (s.th u).pc = IPc.wBlocked) := by
  have hp0 : s.pOwner = none :=
    (hL.lp.free_or_solver fun v hh => by rw [(hst v).noP] at hh; cases hh).resolve_right
      fun ⟨_, hs⟩ => by rcases hsp with e | e <;> rw [e] at hs <;> rcases hs with hs | hs <;> cases hs
  have hr0 : s.resLock = none :=
    (hL.lr.free_or_solver fun v hh => by rw [(hst v).noRes] at hh; cases hh).resolve_right
      fun ⟨_, hs⟩ => by rcases hsp with e | e <;> rw [e] at hs <;> cases hs
  have hq0 : s.qOwner = none :=
    (hL.lq.free_or_solver fun v hh => by rw [(hst v).noQ] at hh; cases hh).resolve_right
      fun ⟨_, hs⟩ => by rcases hsp with e | e <;> rw [e] at hs <;> cases hs
  have hd0 : s.dlock = none := by
    cases hdl : s.dlock with
    | none => rfl
    | some v =>
      obtain ⟨c, id, hpc⟩ := (hst v).hasD ((hL.ld.bwd v hdl).resolve_left fun h => h.2)
      exact absurd hq0 ((hst v).wantQ (Or.inr ⟨c, id, hpc⟩))
  refine ⟨hq0, fun hqe u => (hst u).idle_or_blocked hp0 hr0 hq0 hd0 fun k hpc => ?_⟩
  obtain ⟨hkq, hk2⟩ := hL.co.cown k ((hst u).wantC k hpc)
    (fun v c hv => absurd hq0 ((hst v).wantQ (Or.inr ⟨c, k, hv⟩)))
    (fun v hv => absurd hr0 ((hst v).wantRes k ((hst v).hasC k hv)))
  have hfl : inflight s = [] ∧ relcId s.spc = none := by
    rcases hsp with e | e <;> rw [inflight, e] <;> exact ⟨rfl, rfl⟩
  rw [hi.fifo, hqe, hfl.1, List.append_nil, List.append_nil] at hkq
  exact hk2.elim (· hkq) fun h => by rw [hfl.2] at h; cases h

/-- if no interface thread can step, the solver can: otherwise it sleeps in `qlock.wait()` with an
empty queue (`QS.nq`) for a request it has honoured (`LiveJ.j2`), and the requesting thread has
finished (against `LiveC.cons`) or sleeps in `plock.wait()` although honoured (against `W.kept`) -/
theorem stuck_solver_moves {n : Nat} {s : State} (hg : Good n s) (hst : ∀ v, Stuck s v) :
    stepSolver Cfg.fixed s ≠ none := by
  intro h0
  obtain ⟨hi, hp, hS, hw, hL, h⟩ := hg
  have hpo := hL.lp.free_or_solver fun v hh => by rw [(hst v).noP] at hh; cases hh
  have hro := hL.lr.free_or_solver fun v hh => by rw [(hst v).noRes] at hh; cases hh
  have hqo := hL.lq.free_or_solver fun v hh => by rw [(hst v).noQ] at hh; cases hh
  -- the solver cannot move and has not crashed, so it sits in `qlock.wait()`
  have hsp : s.spc = SPc.blocked := by
    have hal := hS.alive
    clear h hw hp hL hS hi hst
    unfold stepSolver at h0
    cases hspc : s.spc <;>
      simp [hspc, Cfg.fixed, sOwnsQ, sOwnsRes] at h0 hal hqo hpo hro ⊢ <;>
      (try split at h0) <;> simp_all
  obtain ⟨hq0, hib⟩ := stuck_idle_or_blocked hL hi hst (Or.inl hsp)
  have hqe : s.queue = [] := hL.qs.nq hsp (by intro u hu; rw [hq0] at hu; cases hu)
  have hnofl : ∀ u, contInFlight (s.th u).pc = false := by
    intro u
    cases hf : contInFlight (s.th u).pc with
    | false => rfl
    | true => exact absurd hq0 ((hst u).wantQ (Or.inl ((hst u).fly hf)))
  have hne := h.j.j2 (Or.inr (hL.qs.bw hsp)) hnofl
  obtain ⟨u, hu⟩ := List.exists_mem_of_ne_nil _ hne
  have hcs := h.c.cons u
  rw [decide_eq_true (hp.sub u hu)] at hcs
  rcases hib hqe u with hpc | hpc
  · rw [hpc, (hst u).done hpc] at hcs; cases hcs
  · refine ((hw.kept u (h.c.wb u hpc)).2.elim (· hu) fun e => ?_)
    rw [hsp] at e; cases e

theorem stepIface_done {cfg : Cfg} {s : State} {v : Tid} (hpc : (s.th v).pc = IPc.idle)
    (hp : (s.th v).prog = []) : stepIface cfg s v = none := by
  simp [stepIface, hpc, hp]

theorem LiveC.inert_none {n : Nat} {s : State} (h : LiveC n s) {v : Tid} (hv : n < v) :
    stepIface Cfg.fixed s v = none :=
  stepIface_done (h.inert v hv).1 (h.inert v hv).2

theorem stuck_all {n : Nat} {s : State} (hg : Good n s)
    (hno : ∀ v, 1 ≤ v → v ≤ n → stepIface Cfg.fixed s v = none) (v : Tid) : Stuck s v := by
  apply stuck_of_none
  by_cases hv : v = 0
  · exact hv ▸ stepIface_done hg.w.zero hg.live.c.zprog
  · by_cases hvn : v ≤ n
    · exact hno v (Nat.pos_of_ne_zero hv) hvn
    · exact hg.live.c.inert_none (Nat.lt_of_not_le hvn)

theorem full_not_stuck {n : Nat} {s : State} (hg : Good n s) :
    ∃ t, t ≤ n ∧ enabled Cfg.fixed s t = true := by
  by_cases hex : ∃ t, 1 ≤ t ∧ t ≤ n ∧ stepIface Cfg.fixed s t ≠ none
  · obtain ⟨t, ht1, htn, hne⟩ := hex
    refine ⟨t, htn, ?_⟩
    rw [enabled, step, if_neg (Nat.ne_of_gt ht1)]
    exact Option.isSome_iff_ne_none.mpr hne
  · refine ⟨0, Nat.zero_le _, Option.isSome_iff_ne_none.mpr ?_⟩
    exact stuck_solver_moves hg (stuck_all hg fun v hv hvn =>
      Classical.not_not.mp fun hne => hex ⟨v, hv, hvn, hne⟩)

theorem stuck_idle_all_done {n : Nat} {s : State} (hg : Good n s) (hst : ∀ v, Stuck s v)
    (hsp : s.spc = SPc.acqQ2) (hpe : s.pause = []) (hqe : s.queue = []) (u : Tid) :
    (s.th u).pc = IPc.idle ∧ (s.th u).prog = [] := by
  refine ((stuck_idle_or_blocked hg.locks hg.inv hst (Or.inr hsp)).2 hqe u).elim
    (fun hpc => ⟨hpc, (hst u).done hpc⟩) fun hpc => ?_
  -- nobody pauses, so nobody sleeps in `plock.wait()`
  have := (hg.w.kept u (hg.live.c.wb u hpc)).1
  rw [hpe] at this; cases this

end PysphVerif.Controller
