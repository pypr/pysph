import PysphVerif.Model.NnpsStore
import Mathlib.Data.Nat.Bitwise
/-!
C01 helper lemmas: the Morton key of `z_order.h` (`get_key`).  Each of the five
magic-number steps is linear over bitwise OR, a single bit `b < 21` is moved to
bit `3b` (checked for the 21 bits), hence bit `3b + r` of the key is bit `b` of
coordinate `r`, and the key is injective on coordinates below 2^21.
-/
namespace PysphVerif.Nnps

/-- one of the five steps `i = (i | (i << s)) & m` of `get_key`'s bit spreading -/
def spreadStep (s m x : Nat) : Nat := (x ||| (x <<< s)) &&& m

theorem spreadStep_or (s m x y : Nat) :
    spreadStep s m (x ||| y) = spreadStep s m x ||| spreadStep s m y := by
  apply Nat.eq_of_testBit_eq
  intro k
  simp only [spreadStep, Nat.testBit_and, Nat.testBit_or, Nat.testBit_shiftLeft]
  cases x.testBit k <;> cases y.testBit k <;> cases decide (k ≥ s) <;> cases x.testBit (k - s) <;>
    cases y.testBit (k - s) <;> cases m.testBit k <;> rfl

theorem mortonSpread_eq (i : Nat) : mortonSpread i =
    spreadStep 2 0x1249249249249249 (spreadStep 4 0x10c30c30c30c30c3 (spreadStep 8 0x100f00f00f00f00f
      (spreadStep 16 0x1f0000ff0000ff (spreadStep 32 0x1f00000000ffff i)))) := rfl

theorem mortonSpread_or (x y : Nat) : mortonSpread (x ||| y) = mortonSpread x ||| mortonSpread y := by
  simp only [mortonSpread_eq, spreadStep_or]

theorem mortonSpread_zero : mortonSpread 0 = 0 := by decide

theorem mortonSpread_pow : ∀ b, b < 21 → mortonSpread (2 ^ b) = 2 ^ (3 * b) := by decide +kernel

theorem testBit_of_or_hom (f g : Nat → Nat) (N : Nat) (hor : ∀ x y, f (x ||| y) = f x ||| f y)
    (h0 : f 0 = 0) (hpow : ∀ b, b < N → f (2 ^ b) = 2 ^ g b) :
    ∀ n, n ≤ N → ∀ i, i < 2 ^ n → ∀ m,
      ((f i).testBit m = true ↔ ∃ b, b < n ∧ i.testBit b = true ∧ g b = m) := by
  intro n
  induction n with
  | zero =>
    intro _ i hi m
    obtain rfl : i = 0 := by simpa using hi
    simp [h0]
  | succ n ih =>
    intro hn i hi m
    have hn' : ∀ {j b}, j < 2 ^ n → j.testBit b = true → b ≠ n := fun hj h1 e => by
      rw [e, Nat.testBit_lt_two_pow hj] at h1; cases h1
    by_cases hlo : i < 2 ^ n
    · rw [ih (by omega) i hlo m]
      exact ⟨fun ⟨b, hb, h⟩ => ⟨b, by omega, h⟩,
        fun ⟨b, hb, h1, h2⟩ => ⟨b, by have := hn' hlo h1; omega, h1, h2⟩⟩
    · obtain ⟨j, hj, rfl⟩ : ∃ j, j < 2 ^ n ∧ i = 2 ^ n ||| j := by
        have hj : i - 2 ^ n < 2 ^ n := by rw [Nat.pow_succ] at hi; omega
        exact ⟨i - 2 ^ n, hj, by rw [Nat.or_comm, Nat.or_two_pow_eq_add_of_lt hj]; omega⟩
      rw [hor, hpow n (by omega), Nat.testBit_or, Nat.testBit_two_pow, Bool.or_eq_true,
        decide_eq_true_iff, ih (by omega) j hj m]
      simp only [Nat.testBit_or, Nat.testBit_two_pow, Bool.or_eq_true, decide_eq_true_iff]
      constructor
      · rintro (h | ⟨b, hb, h1, h2⟩)
        · exact ⟨n, by omega, Or.inl rfl, h⟩
        · exact ⟨b, by omega, Or.inr h1, h2⟩
      · rintro ⟨b, hb, h | h1, h2⟩
        · exact Or.inl (h ▸ h2)
        · exact Or.inr ⟨b, by have := hn' hj h1; omega, h1, h2⟩

theorem spread_bit (i : Nat) (hi : i < 2 ^ 21) (m : Nat) :
    (mortonSpread i).testBit m = true ↔ ∃ b, b < 21 ∧ i.testBit b = true ∧ 3 * b = m :=
  testBit_of_or_hom mortonSpread (3 * ·) 21 mortonSpread_or mortonSpread_zero mortonSpread_pow 21
    (le_refl _) i hi m

theorem key_bits (i j k : Nat) (hi : i < 2 ^ 21) (hj : j < 2 ^ 21) (hk : k < 2 ^ 21) (b : Nat)
    (hb : b < 21) :
    (mortonKey i j k).testBit (3 * b) = i.testBit b ∧
    (mortonKey i j k).testBit (3 * b + 1) = j.testBit b ∧
    (mortonKey i j k).testBit (3 * b + 2) = k.testBit b := by
  -- of the three shifted spreads only one has a bit at a given position modulo 3
  refine ⟨?_, ?_, ?_⟩ <;> rw [Bool.eq_iff_iff] <;>
    simp only [mortonKey, Nat.testBit_or, Nat.testBit_shiftLeft, Bool.or_eq_true, Bool.and_eq_true,
      decide_eq_true_iff, spread_bit i hi, spread_bit j hj, spread_bit k hk]
  · refine ⟨?_, fun h => Or.inl (Or.inl ⟨b, hb, h, rfl⟩)⟩
    rintro ((⟨b', _, h, e⟩ | ⟨_, b', _, h, e⟩) | ⟨_, b', _, h, e⟩)
    · obtain rfl : b' = b := by omega
      exact h
    all_goals omega
  · refine ⟨?_, fun h => Or.inl (Or.inr ⟨by omega, b, hb, h, by omega⟩)⟩
    rintro ((⟨b', _, h, e⟩ | ⟨_, b', _, h, e⟩) | ⟨_, b', _, h, e⟩)
    · omega
    · obtain rfl : b' = b := by omega
      exact h
    · omega
  · refine ⟨?_, fun h => Or.inr ⟨by omega, b, hb, h, by omega⟩⟩
    rintro ((⟨b', _, h, e⟩ | ⟨_, b', _, h, e⟩) | ⟨_, b', _, h, e⟩)
    · omega
    · omega
    · obtain rfl : b' = b := by omega
      exact h

theorem mortonKey_inj (i j k i' j' k' : Nat) (hi : i < 2 ^ 21) (hj : j < 2 ^ 21) (hk : k < 2 ^ 21)
    (hi' : i' < 2 ^ 21) (hj' : j' < 2 ^ 21) (hk' : k' < 2 ^ 21)
    (h : mortonKey i j k = mortonKey i' j' k') : i = i' ∧ j = j' ∧ k = k' := by
  have ext : ∀ a a' : Nat, a < 2 ^ 21 → a' < 2 ^ 21 → (∀ b, b < 21 → a.testBit b = a'.testBit b) →
      a = a' := by
    intro a a' ha ha' hbits
    apply Nat.eq_of_testBit_eq
    intro b
    by_cases hb : b < 21
    · exact hbits b hb
    · have hle : 2 ^ 21 ≤ 2 ^ b := Nat.pow_le_pow_right (by omega) (by omega)
      rw [Nat.testBit_lt_two_pow (lt_of_lt_of_le ha hle),
        Nat.testBit_lt_two_pow (lt_of_lt_of_le ha' hle)]
  refine ⟨ext i i' hi hi' ?_, ext j j' hj hj' ?_, ext k k' hk hk' ?_⟩
  · intro b hb
    rw [← (key_bits i j k hi hj hk b hb).1, ← (key_bits i' j' k' hi' hj' hk' b hb).1, h]
  · intro b hb
    rw [← (key_bits i j k hi hj hk b hb).2.1, ← (key_bits i' j' k' hi' hj' hk' b hb).2.1, h]
  · intro b hb
    rw [← (key_bits i j k hi hj hk b hb).2.2, ← (key_bits i' j' k' hi' hj' hk' b hb).2.2, h]

end PysphVerif.Nnps
