import PysphVerif.Lemmas.Eigen3Tql2
import Mathlib.Tactic.Abel
/-!
The loops of `tql2` (`while cont`, `for l`; the sort that follows them is `sortEig_spec` of
`Eigen3`): invariants for every number of sweeps (any fuel) — `V` stays orthogonal, `V T Vᵀ` plus the dropped sub-diagonal entries
stays the matrix `tql2` was given.
-/
set_option linter.unusedSectionVars false
namespace PysphVerif.Eigen3
open Matrix

variable {K : Type} [Field K] [LinearOrder K] [IsStrictOrderedRing K]

/-- the symmetric perturbations `W offM(j, x) Wᵀ` that correspond to the sub-diagonal entries
`tql2` replaced by `0.0` (`TQ.drops`), summed -/
def dropSum (drops : List (K × Nat × Mat K)) : Matrix (Fin 3) (Fin 3) K :=
  (drops.map fun x => x.2.2.toM * offM x.2.1 x.1 * x.2.2.toMᵀ).sum

@[simp] theorem dropSum_nil : dropSum ([] : List (K × Nat × Mat K)) = 0 := rfl
@[simp] theorem dropSum_cons (x : K) (j : Nat) (W : Mat K) (ds : List (K × Nat × Mat K)) :
    dropSum ((x, j, W) :: ds) = W.toM * offM j x * W.toMᵀ + dropSum ds := by
  simp [dropSum]

theorem dropSum_eq_zero (ds : List (K × Nat × Mat K)) (h : ∀ x ∈ ds, x.1 = 0) : dropSum ds = 0 :=
  List.sum_eq_zero fun y hy => by
    obtain ⟨x, hx, rfl⟩ := List.mem_map.mp hy
    rw [h x hx, offM_zero, Matrix.mul_zero, Matrix.zero_mul]

theorem dropSum_push (V : Mat K) (T : Matrix (Fin 3) (Fin 3) K) (j : Nat) (x : K)
    (ds : List (K × Nat × Mat K)) :
    V.toM * T * V.toMᵀ + dropSum ds =
      V.toM * (T - offM j x) * V.toMᵀ + dropSum ((x, j, V) :: ds) := by
  rw [dropSum_cons, Matrix.mul_sub, Matrix.sub_mul]
  abel

theorem findM_spec (eps tst1 : K) (e : Vec K) : ∀ (fuel m0 : Nat),
    m0 ≤ findM abs eps tst1 e fuel m0 ∧
    ∀ i, m0 ≤ i → i < findM abs eps tst1 e fuel m0 → eps * tst1 < |e i| := by
  intro fuel
  induction fuel with
  | zero => intro m0; exact ⟨le_refl _, fun i h1 h2 => by simp [findM] at h2; omega⟩
  | succ n ih =>
    intro m0
    unfold findM
    split
    · split
      · exact ⟨le_refl _, fun i h1 h2 => by omega⟩
      · rename_i hlt hne
        obtain ⟨h1, h2⟩ := ih (m0 + 1)
        refine ⟨by omega, fun i hi1 hi2 => ?_⟩
        rcases Nat.eq_or_lt_of_le hi1 with rfl | hlt'
        · exact not_le.mp hne
        · exact h2 i (by omega) hi2
    · exact ⟨le_refl _, fun i h1 h2 => by omega⟩

theorem maxC_eq_max (a b : K) : maxC a b = max a b :=
  (max_def_lt' a b).symm

theorem ne_zero_of_lt_abs {eps tst x : K} (heps : 0 ≤ eps) (htst : 0 ≤ tst) (h : eps * tst < |x|) :
    x ≠ 0 :=
  abs_pos.mp ((mul_nonneg heps htst).trans_lt h)

/-- invariant of the QL iteration for the block `l..m`; `A0` is the matrix being decomposed.
`e[m]` is left out of the tridiagonal matrix: it is among the dropped entries already -/
structure IterInv (A0 : Matrix (Fin 3) (Fin 3) K) (l m : Nat) (t : TQ K) : Prop where
  orth : Orthonormal t.V
  sim : A0 = t.V.toM * (Tm l t.d t.e t.f - offM m (t.e m)) * t.V.toMᵀ + dropSum t.drops
  low : ∀ i, i < l → t.e i = 0
  tst : 0 ≤ t.tst1

theorem IterInv.sweep {A0 : Matrix (Fin 3) (Fin 3) K} {l m : Nat} {t t' : TQ K}
    (hi : IterInv A0 l m t) (sp : SweepSpec l m t t') : IterInv A0 l m t' := by
  obtain ⟨G, hG1, hV, hT⟩ := sp.sim
  refine ⟨orthonormal_mul_rot t.V t'.V G hG1 hV hi.orth, ?_,
    fun i h => by rw [sp.low i h]; exact hi.low i h, by rw [sp.tst]; exact hi.tst⟩
  rw [sp.em, offM_zero, sub_zero, hV, hi.sim, ← hT, sp.drops]
  congr 1
  simp only [Matrix.transpose_mul, Matrix.mul_assoc]

theorem qlIter_inv (hyp : K → K → K) (hh : HypOK hyp) (eps : K) (heps : 0 ≤ eps)
    (A0 : Matrix (Fin 3) (Fin 3) K) (l m : Nat) (hlm : l < m) (hm : m < 3) :
    ∀ (fuel it : Nat) (t : TQ K) (r : TQ K × Nat), IterInv A0 l m t →
      (∀ i, l ≤ i → i < m → t.e i ≠ 0) →
      qlIter abs hyp eps l m fuel it t = .ok r →
      IterInv A0 l m r.1 ∧ r.1.e m = 0 := by
  intro fuel
  induction fuel with
  | zero => intro it t r _ _ h; simp [qlIter] at h
  | succ n ih =>
    intro it t r hi hne h
    unfold qlIter at h
    have sp := qlSweep_spec hyp hh l m hlm hm t hne hi.low
    have hi' := hi.sweep sp
    simp only at h
    split at h
    · rename_i hc
      have hne' : ∀ i, l ≤ i → i < m → (qlSweep hyp l m t).e i ≠ 0 := by
        intro i h1 h2
        rcases Nat.eq_or_lt_of_le h1 with rfl | hlt
        · exact ne_zero_of_lt_abs heps hi'.tst hc
        · exact sp.mid i hlt h2
      exact ih (it + 1) _ r hi' hne' h
    · injection h with h
      subst h
      exact ⟨hi', sp.em⟩

/-- invariant of the `for l` loop of `tql2` -/
structure TqInv (A0 : Matrix (Fin 3) (Fin 3) K) (l : Nat) (t : TQ K) : Prop where
  orth : Orthonormal t.V
  sim : A0 = t.V.toM * Tm l t.d t.e t.f * t.V.toMᵀ + dropSum t.drops
  low : ∀ i, i < l → t.e i = 0

theorem Tm_finish (l : Nat) (hl : l < 3) (d e : Vec K) (f : K) :
    Tm l d e f = Tm (l+1) (setV d l (d l + f)) (setV e l 0) f + offM l (e l) := by
  have : l = 0 ∨ l = 1 ∨ l = 2 := by omega
  rcases this with rfl | rfl | rfl <;> simp [Tm, offM, setV, Vec.get]

theorem tqFinish_inv (A0 : Matrix (Fin 3) (Fin 3) K) (l m it : Nat) (hl : l < 3) (u : TQ K)
    (hu : TqInv A0 l u) : TqInv A0 (l+1) (tqFinish l m u it) := by
  obtain ⟨orth, sim, low⟩ := hu
  refine ⟨orth, ?_, ?_⟩
  · show A0 = u.V.toM * Tm (l+1) (setV u.d l (u.d l + u.f)) (setV u.e l 0) u.f * u.V.toMᵀ +
      dropSum ((u.e l, l, u.V) :: u.drops)
    rw [sim, dropSum_push u.V _ l (u.e l), Tm_finish l hl u.d u.e u.f, add_sub_cancel_right]
  · intro i hi
    show (setV u.e l 0) i = 0
    rw [Vec.get_setV u.e (by omega)]
    split
    · rfl
    · exact low i (by omega)

theorem tqStep_inv (hyp : K → K → K) (hh : HypOK hyp) (eps : K) (heps : 0 ≤ eps) (fuel : Nat)
    (A0 : Matrix (Fin 3) (Fin 3) K) (l : Nat) (hl : l < 3) (t t' : TQ K) (hi : TqInv A0 l t)
    (h : tqStep abs hyp eps fuel t l = .ok t') : TqInv A0 (l+1) t' := by
  unfold tqStep at h
  simp only at h
  set tst1 := maxC t.tst1 (|t.d l| + |t.e l|)
  have htst0 : 0 ≤ tst1 := le_trans (add_nonneg (abs_nonneg _) (abs_nonneg _))
    ((le_max_right _ _).trans_eq (maxC_eq_max _ _).symm)
  obtain ⟨hlm, hne⟩ := findM_spec eps tst1 t.e 3 l
  set m := findM abs eps tst1 t.e 3 l
  split at h
  · exact absurd h (by simp)
  · rename_i hm3
    have hm3 : m < 3 := by omega
    split at h
    · rename_i hlt
      cases hq : qlIter abs hyp eps l m fuel 0
          { t with tst1 := tst1, drops := (t.e m, m, t.V) :: t.drops } with
      | error err => rw [hq] at h; exact absurd h (by simp)
      | ok ti =>
        rw [hq] at h
        simp only at h
        injection h with h
        subst h
        -- `e[m]`, found negligible, goes to the ghost record before the first sweep overwrites it:
        -- that is `IterInv`'s form of `TqInv` (`dropSum_push`)
        have hI : IterInv A0 l m
            { t with tst1 := tst1, drops := (t.e m, m, t.V) :: t.drops } :=
          ⟨hi.orth, hi.sim.trans (dropSum_push t.V _ m (t.e m) t.drops), hi.low, htst0⟩
        have hne' : ∀ i, l ≤ i → i < m → t.e i ≠ 0 := fun i h1 h2 =>
          ne_zero_of_lt_abs heps htst0 (hne i h1 h2)
        obtain ⟨hJ, hem⟩ := qlIter_inv hyp hh eps heps A0 l m hlt hm3 fuel 0 _ ti hI hne' hq
        -- the sweeps left `e[m] = 0`, so `IterInv` is `TqInv` again
        have hsim := hJ.sim
        rw [hem, offM_zero, sub_zero] at hsim
        exact tqFinish_inv A0 l m ti.2 hl ti.1 ⟨hJ.orth, hsim, hJ.low⟩
    · injection h with h
      subst h
      exact tqFinish_inv A0 l m 0 hl _ ⟨hi.orth, hi.sim, hi.low⟩

theorem Tm_three (d e : Vec K) (f : K) (h0 : e 0 = 0) (h1 : e 1 = 0) :
    Tm 3 d e f = Matrix.diagonal d.toF := by
  rw [diagonal_fin_three]
  exact mat3_congr (add_zero _) h0 rfl h0 (add_zero _) h1 rfl h1 (add_zero _)

/-- the symmetric tridiagonal matrix `tred2` hands to `tql2` -/
def Ttri (d e : Vec K) : Matrix (Fin 3) (Fin 3) K :=
  !![d 0, e 1, 0; e 1, d 1, e 2; 0, e 2, d 2]

/-- the state `tql2` starts its `for l` loop with (`e` renumbered, `e[n-1] = 0`) -/
def tqInit (s : St K) : TQ K :=
  { V := s.V, d := s.d, e := ⟨s.e 1, s.e 2, 0⟩, f := 0, tst1 := 0, log := s.log, drops := [] }

theorem bind_ok {ε α β : Type} {x : Except ε α} {f : α → Except ε β} {b : β}
    (h : x >>= f = .ok b) : ∃ a, x = .ok a ∧ f a = .ok b := by
  cases x with
  | error e => exact absurd h (by simp [bind, Except.bind])
  | ok a => exact ⟨a, rfl, h⟩

theorem tql2Core_eq (hyp : K → K → K) (eps : K) (fuel : Nat) (s : St K) :
    tql2Core abs hyp eps fuel s =
      (tqStep abs hyp eps fuel (tqInit s) 0 >>= fun t1 =>
       tqStep abs hyp eps fuel t1 1 >>= fun t2 => tqStep abs hyp eps fuel t2 2) := by
  unfold tql2Core
  simp only [List.range, List.range.loop, List.foldlM, bind_pure]
  rfl

theorem tql2Core_spec (hyp : K → K → K) (hh : HypOK hyp) (eps : K) (heps : 0 ≤ eps) (fuel : Nat)
    (s : St K) (t : TQ K) (hV : Orthonormal s.V) (h : tql2Core abs hyp eps fuel s = .ok t) :
    Orthonormal t.V ∧
    s.V.toM * Ttri s.d s.e * s.V.toMᵀ =
      t.V.toM * Matrix.diagonal t.d.toF * t.V.toMᵀ + dropSum t.drops := by
  rw [tql2Core_eq] at h
  set t0 := tqInit s
  have hi0 : TqInv (s.V.toM * Ttri s.d s.e * s.V.toMᵀ) 0 t0 := by
    refine ⟨hV, ?_, fun i hi => by omega⟩
    show _ = s.V.toM * Tm 0 s.d ⟨s.e 1, s.e 2, 0⟩ 0 * s.V.toMᵀ + dropSum []
    rw [dropSum_nil, add_zero]
    congr 2
    rw [Tm_zero]
    exact mat3_congr (add_zero _).symm rfl rfl rfl (add_zero _).symm rfl rfl rfl (add_zero _).symm
  obtain ⟨t1, h1, h⟩ := bind_ok h
  obtain ⟨t2, h2, h3⟩ := bind_ok h
  have hi1 := tqStep_inv hyp hh eps heps fuel _ 0 (by omega) t0 t1 hi0 h1
  have hi2 := tqStep_inv hyp hh eps heps fuel _ 1 (by omega) t1 t2 hi1 h2
  have hi3 := tqStep_inv hyp hh eps heps fuel _ 2 (by omega) t2 t hi2 h3
  exact ⟨hi3.orth, by
    rw [hi3.sim, Tm_three _ _ _ (hi3.low 0 (by omega)) (hi3.low 1 (by omega))]⟩

theorem tql2_spec (hyp : K → K → K) (hh : HypOK hyp) (eps : K) (heps : 0 ≤ eps) (fuel : Nat)
    (s : St K) (t : TQ K) (hV : Orthonormal s.V) (h : tql2 abs hyp eps fuel s = .ok t) :
    Orthonormal t.V ∧
    s.V.toM * Ttri s.d s.e * s.V.toMᵀ =
      t.V.toM * Matrix.diagonal t.d.toF * t.V.toMᵀ + dropSum t.drops ∧
    t.d 0 ≤ t.d 1 ∧ t.d 1 ≤ t.d 2 := by
  unfold tql2 at h
  cases hc : tql2Core abs hyp eps fuel s with
  | error e => rw [hc] at h; exact absurd h (by simp)
  | ok tc =>
    rw [hc] at h
    injection h with h
    subst h
    obtain ⟨c1, c3⟩ := tql2Core_spec hyp hh eps heps fuel s tc hV hc
    obtain ⟨σ, hp, hs1, hs2⟩ := sortEig_spec tc
    refine ⟨hp.orthonormal c1, ?_, hs1, hs2⟩
    rw [recon_permuted hp, c3]
    congr 1
    have : ∀ (t : TQ K) i, (sortOuter t i).drops = t.drops := by
      intro t i; unfold sortOuter; simp only; split <;> rfl
    simp [sortEig, List.range, List.range.loop, List.foldl, this]

end PysphVerif.Eigen3
