import PysphVerif.Lemmas.InletOutlet
import Mathlib.Data.List.Perm.Subperm
/-!
C16, the mirror outlet and the labels: `removeRows` with one index list acts the
same way on every array of the same length (it commutes with `map`); what the
ParticleArray operations reduce to on an array all of whose particles are Local
(`align_particles` makes no move, the real-particle view is the whole array);
`arrivals`, the rows the mirror outlet hands to `add_particles`; label
bookkeeping (`lbl`) for the outlet updates.
Mathlib for `Subperm` (`labels_step_subperm` counts label by label).
-/
namespace PysphVerif.InletOutlet
open List

section generic
variable {β γ : Type}

theorem removeRows_subset (idx : List Nat) (l : List β) : ∀ x ∈ removeRows idx l, x ∈ l :=
  ArrayRows.removeRows_subset idx l

theorem removeRows_map (f : β → γ) (idx : List Nat) (l : List β) :
    (removeRows idx l).map f = removeRows idx (l.map f) :=
  ArrayRows.removeRows_map f idx l

theorem removeRows_zip (idx : List Nat) (l : List β) (l' : List γ) (h : l.length = l'.length) :
    removeRows idx (List.zip l l') = List.zip (removeRows idx l) (removeRows idx l') := by
  have h1 : (removeRows idx (List.zip l l')).map Prod.fst = removeRows idx l := by
    rw [removeRows_map, ← List.unzip_fst, List.unzip_zip_left (Nat.le_of_eq h)]
  have h2 : (removeRows idx (List.zip l l')).map Prod.snd = removeRows idx l' := by
    rw [removeRows_map, ← List.unzip_snd, List.unzip_zip_right (Nat.le_of_eq h.symm)]
  rw [← h1, ← h2, ← List.unzip_fst, ← List.unzip_snd, List.zip_unzip]

end generic

section particles
variable {α : Type}

theorem align_of_all_local (l : List (Particle α)) (h : ∀ p ∈ l, isLocal p = true) :
    align l = l := by
  have hfl : l.map isLocal = List.replicate l.length true ++ [] := by
    rw [List.append_nil, List.eq_replicate_iff]
    exact ⟨List.length_map _, fun b hb => by
      obtain ⟨p, hp, rfl⟩ := List.mem_map.mp hb
      exact h p hp⟩
  unfold align
  rw [alignIndex_eq, hfl, ArrayRows.alignPerm_of_sorted _ [] fun _ h => nomatch h]
  rfl

theorem nReal_of_all_local (l : List (Particle α)) (h : ∀ p ∈ l, isLocal p = true) :
    nReal l = l.length := by
  unfold nReal
  rw [List.filter_eq_self.mpr h]

theorem realView_of_all_local (l : List (Particle α)) (h : ∀ p ∈ l, isLocal p = true) :
    realView l = l := by
  unfold realView
  rw [nReal_of_all_local l h, List.take_length]

theorem addParticles_of_all_local (given l : List (Particle α))
    (h : ∀ p ∈ l ++ given, isLocal p = true) : addParticles given l = l ++ given := by
  unfold addParticles
  split
  · exact align_of_all_local _ h
  · rfl

theorem removeParticles_of_all_local (idx : List Nat) (l l' : List (Particle α))
    (h : ∀ p ∈ l, isLocal p = true) (hr : removeParticles idx l = some l') :
    l' = removeRows idx l := by
  unfold removeParticles at hr
  split at hr
  · cases hr
  · cases hr
    split
    · exact align_of_all_local _ (fun p hp => h p (removeRows_subset idx l p hp))
    · rfl

end particles

section mirror
variable {α : Type}

theorem all_local_selected_map (pred : Particle α → Bool) (c : Particle α → Particle α)
    (F : List (Particle α)) (hF : ∀ p ∈ F, isLocal p = true)
    (hc : ∀ p, isLocal p = true → isLocal (c p) = true) :
    ∀ q ∈ (F.filter pred).map c, isLocal q = true :=
  List.forall_mem_map.mpr fun p hp => hc p (hF p (List.mem_filter.mp hp).1)

/-- the rows `extract_particles(np.where(pred))` + `get_property_arrays()` hand to
`add_particles`, `c` being what the copy of one row looks like (the temporary
array is aligned, its real-particle view is read); nothing when no row is selected.
`mirrorOutletBody` unfolds to this text with `pred = ioidIs 1`, `F` the evaluated fluid and
`c = copyInto m { dO with tag := 0 }` for the outlet (`Props/C16.lean` writes that instance out
as `mirrorArrivals`), `c` of the reflected particle for the ghost. -/
def arrivals (pred : Particle α → Bool) (c : Particle α → Particle α) (F : List (Particle α)) :
    List (Particle α) :=
  if (whereFrom pred 0 (realView F)).length = 0 then []
  else realView (align ((gather (whereFrom pred 0 (realView F)) F).map c))

/-- the ghost array receives them under `if len(all_idx) > 0`, which changes nothing -/
theorem addParticles_arrivals_guarded (pred : Particle α → Bool) (c : Particle α → Particle α)
    (F g : List (Particle α)) :
    (if (whereFrom pred 0 (realView F)).length > 0 then
       addParticles (realView (align ((gather (whereFrom pred 0 (realView F)) F).map c))) g
     else g) = addParticles (arrivals pred c F) g := by
  unfold arrivals
  by_cases h : (whereFrom pred 0 (realView F)).length = 0
  · rw [if_neg (Nat.not_lt.mpr (Nat.le_of_eq h)), if_pos h]
    exact (List.append_nil g).symm
  · rw [if_pos (Nat.pos_of_ne_zero h), if_neg h]

/-- the test on `len(all_idx)` is immaterial -/
theorem arrivals_eq (pred : Particle α → Bool) (c : Particle α → Particle α) (F : List (Particle α)) :
    arrivals pred c F = realView (align (((realView F).filter pred).map c)) := by
  rw [arrivals, gather_where_realView, whereFrom_length]
  split
  · rename_i h0; rw [List.eq_nil_of_length_eq_zero h0]; rfl
  · rfl

theorem arrivals_perm (pred : Particle α → Bool) (c : Particle α → Particle α)
    (F : List (Particle α)) :
    (arrivals pred c F).Perm ((((realView F).filter pred).map c).filter isLocal) := by
  rw [arrivals_eq]
  exact realView_align_perm _

theorem arrivals_of_all_local (pred : Particle α → Bool) (c : Particle α → Particle α)
    (F : List (Particle α)) (hF : ∀ p ∈ F, isLocal p = true)
    (hc : ∀ p, isLocal p = true → isLocal (c p) = true) :
    arrivals pred c F = (F.filter pred).map c := by
  have hall := all_local_selected_map pred c F hF hc
  rw [arrivals_eq, realView_of_all_local F hF, align_of_all_local _ hall,
    realView_of_all_local _ hall]

theorem copyInto_lbl (m : Mask) (d p : Particle α) (h : m.lbl = true) :
    (copyInto m d p).lbl = p.lbl := by
  simp [copyInto, h]

end mirror

section labels
variable {α : Type}

theorem nodup_of_subperm {γ : Type} {l₁ l₂ : List γ} (h : l₁.Subperm l₂) (hd : l₂.Nodup) :
    l₁.Nodup := by
  obtain ⟨l, hp, hs⟩ := h
  exact hp.nodup_iff.mp (hd.sublist hs)

/-- bookkeeping of one outlet update in terms of labels: the source loses `L`,
the destination gains `Arr` (labels among those of `L`) and loses `D` -/
theorem labels_step_subperm {A A' O O' L D Arr : List (Particle α)}
    (h1 : (A' ++ L).Perm A) (h2 : (O' ++ D).Perm (O ++ Arr))
    (h3 : (Arr.map (·.lbl)).Subperm (L.map (·.lbl))) :
    ((A' ++ O').map (·.lbl)).Subperm ((A ++ O).map (·.lbl)) := by
  refine subperm_ext_iff.mpr fun x _ => ?_
  have c1 := (h1.map (·.lbl)).count_eq x
  have c2 := (h2.map (·.lbl)).count_eq x
  have c3 := h3.count_le x
  simp only [map_append, count_append] at c1 c2 ⊢
  omega

theorem map_lbl_of (f : Particle α → Particle α) (h : ∀ p, (f p).lbl = p.lbl)
    (l : List (Particle α)) : (l.map f).map (·.lbl) = l.map (·.lbl) := by
  rw [List.map_map]
  exact List.map_congr_left (fun p _ => h p)

/-- the labels of `X` after the arrivals from `F` and the removal of the rows `idx2` are a function of
the labels alone -/
theorem labels_after_arrivals_removal (pred : Particle α → Bool) (c : Particle α → Particle α)
    (F X X' : List (Particle α)) (idx2 : List Nat)
    (hF : ∀ p ∈ F, isLocal p = true) (hX : ∀ p ∈ X, isLocal p = true)
    (hc : ∀ p, isLocal p = true → isLocal (c p) = true) (hl : ∀ p, (c p).lbl = p.lbl)
    (h : removeParticles idx2 (addParticles (arrivals pred c F) X) = some X') :
    X'.map (·.lbl) = removeRows idx2 (X.map (·.lbl) ++ (F.filter pred).map (·.lbl)) := by
  have hall := List.forall_mem_append.mpr ⟨hX, all_local_selected_map pred c F hF hc⟩
  rw [arrivals_of_all_local pred c F hF hc, addParticles_of_all_local _ _ hall] at h
  rw [removeParticles_of_all_local idx2 _ X' hall h, removeRows_map, List.map_append,
    map_lbl_of c hl]

theorem map_lbl_mapIdx (f : Nat → Particle α → Particle α) (l : List (Particle α))
    (h : ∀ i p, (f i p).lbl = p.lbl) : (l.mapIdx f).map (·.lbl) = l.map (·.lbl) := by
  apply List.ext_getElem
  · simp
  · intro i h1 h2
    simp [h]

end labels

set_option linter.unusedSectionVars false
section evalOne
variable {α : Type} [Add α] [Sub α] [Mul α] [Neg α] [LT α] [DecidableLT α]
  [OfNat α 1] [OfNat α 2]

theorem evalOne_all_local (zn : Zone α) (d : α) (l : List (Particle α))
    (h : ∀ p ∈ l, isLocal p = true) : ∀ p ∈ l.map (evalOne zn d), isLocal p = true :=
  List.forall_mem_map.mpr h

theorem map_lbl_evalOne (zn : Zone α) (d : α) (l : List (Particle α)) :
    (l.map (evalOne zn d)).map (·.lbl) = l.map (·.lbl) :=
  map_lbl_of (evalOne zn d) (fun _ => rfl) l

end evalOne
end PysphVerif.InletOutlet
