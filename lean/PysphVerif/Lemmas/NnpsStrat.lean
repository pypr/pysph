import PysphVerif.Model.NnpsStrat
import PysphVerif.Lemmas.NnpsHash
/-!
C01, StratifiedHashNNPS: the level loop is exact once the masks cover (`stratGen_exact`, an
instance of `exactNbrs_of_levels`); a particle's cut-off is below its level's cell size
(`strat_level_bound`) and every particle's level exists (`strat_level_lt`).
-/
namespace PysphVerif.Nnps

open scoped PysphVerif.OrderChain

section store
variable {α : Type} [LT α] [DecidableLT α]

theorem strat_lookup (hash : Cell → Nat) (n : Nat) (levelOf : Nat → Nat)
    (cellAtL : Nat → Nat → Cell) (hAt : Nat → α) (l : Nat) (c : Cell) :
    HTable.indices hash (HTable.build hash (stratItems n levelOf cellAtL hAt l)) c =
      (List.range n).filter (fun j => decide (levelOf j = l) && decide (cellAtL l j = c)) := by
  rw [indices_build]
  unfold stratItems
  rw [List.filter_map, List.map_map, List.filter_filter]
  simp [Function.comp_def, Bool.and_comm]

theorem mem_stratBoxes (Hq : Nat) (cq c : Cell) :
    c ∈ stratBoxes Hq cq ↔ nonnegCell c = true ∧
      ((c.1 - cq.1).natAbs ≤ Hq ∧ (c.2.1 - cq.2.1).natAbs ≤ Hq ∧ (c.2.2 - cq.2.2).natAbs ≤ Hq) :=
  mem_maskBoxes _ Hq (mem_hMaskExact Hq) cq c

/-- the `number_of_particles() == 0` shortcut changes nothing: an empty table finds nothing -/
theorem stratLevelCands_eq (hash : Cell → Nat) (n : Nat) (levelOf : Nat → Nat)
    (cellAtL : Nat → Nat → Cell) (hAt : Nat → α) (Hq : Nat → Nat) (cq : Nat → Cell) (l : Nat) :
    stratLevelCands hash n levelOf cellAtL hAt Hq cq l = (stratBoxes (Hq l) (cq l)).flatMap
      (HTable.indices hash (HTable.build hash (stratItems n levelOf cellAtL hAt l))) := by
  unfold stratLevelCands
  split
  · rename_i he
    rw [List.isEmpty_iff.mp he]
    exact (List.flatMap_eq_nil_iff.mpr fun b _ => rfl).symm
  · rfl

theorem stratGen_exact {β : Type} [Add β] [Sub β] [Mul β] [LT β] [DecidableLT β] (rs : β)
    (src : List (Pt β)) (q : Pt β) (hash : Cell → Nat) (L : Nat) (levelOf : Nat → Nat)
    (cellAtL : Nat → Nat → Cell) (hAt : Nat → α) (Hq : Nat → Nat) (cq : Nat → Cell)
    (hcover : ∀ j (hj : j < src.length), isNbr rs q src[j] = true → levelOf j < L ∧
      cellAtL (levelOf j) j ∈ stratBoxes (Hq (levelOf j)) (cq (levelOf j))) :
    ExactNbrs rs src q (stratHashCandsGen hash L src.length levelOf cellAtL hAt Hq cq) := by
  unfold stratHashCandsGen
  rw [funext (stratLevelCands_eq hash src.length levelOf cellAtL hAt Hq cq)]
  refine exactNbrs_of_levels rs src q L levelOf cellAtL _ _
    (fun k => maskBoxes_nodup _ (hMaskExact_nodup _) _) (fun k _ b _ => ?_) hcover
  exact spec_of_perm_filter (.of_eq (strat_lookup hash _ levelOf cellAtL hAt k b)) fun j _ => by
    simp only [Bool.and_eq_true, decide_eq_true_eq]

end store

/-- `_get_h_max` multiplies back the `radius_scale` that `_set_h_max` divided by: the level's
cell size is the upper end of its interval -/
theorem stratHmaxLevel_eq {α : Type} [Field α] (rs hmin ivl : α) (l : Nat) (hrs : rs ≠ 0) :
    stratHmaxLevel rs hmin ivl l = hmin + ((l : α) + 1) * ivl :=
  mul_div_cancel₀ _ hrs

section num
variable {α : Type} [Field α] [LinearOrder α] [IsStrictOrderedRing α]

theorem stratInterval_pos (cs hmin eps : α) (L : Nat) (heps : 0 < eps) (hcs : hmin ≤ cs) :
    0 < stratInterval cs hmin eps L :=
  add_pos_of_nonneg_of_pos (div_nonneg (sub_nonneg.mpr hcs) (Nat.cast_nonneg L)) heps

theorem stratHmaxLevel_pos (rs hmin ivl : α) (l : Nat) (hrs : 0 < rs) (hmin0 : 0 ≤ hmin)
    (hivl : 0 < ivl) : 0 < stratHmaxLevel rs hmin ivl l := by
  rw [stratHmaxLevel_eq rs hmin ivl l (ne_of_gt hrs)]
  exact add_pos_of_nonneg_of_pos hmin0 (mul_pos (Nat.cast_add_one_pos l) hivl)

variable [FloorRing α]

theorem strat_level_bound (rs hmin ivl h : α) (hrs : 0 < rs) (hivl : 0 < ivl) :
    rs * h < stratHmaxLevel rs hmin ivl (stratLevel Int.floor rs hmin ivl h) := by
  rw [stratHmaxLevel_eq rs hmin ivl _ (ne_of_gt hrs)]
  unfold stratLevel
  have h1 := Int.lt_floor_add_one ((rs * h - hmin) / ivl)
  have h2 : (⌊(rs * h - hmin) / ivl⌋ : α) ≤ ((⌊(rs * h - hmin) / ivl⌋.toNat : Nat) : α) := by
    have : ⌊(rs * h - hmin) / ivl⌋ ≤ ((⌊(rs * h - hmin) / ivl⌋.toNat : Nat) : Int) := Int.self_le_toNat _
    exact_mod_cast this
  have h3 : (rs * h - hmin) / ivl < ((⌊(rs * h - hmin) / ivl⌋.toNat : Nat) : α) + 1 := by linarith
  rw [div_lt_iff₀ hivl] at h3
  linarith

/-- `_get_hash_id` stays below `num_levels` thanks to the `+ EPS` in the interval -/
theorem strat_level_lt (rs cs hmin eps h : α) (L : Nat) (hL : 1 ≤ L) (heps : 0 < eps)
    (hcs : hmin ≤ cs) (hh : rs * h ≤ cs) :
    stratLevel Int.floor rs hmin (stratInterval cs hmin eps L) h < L := by
  have hivl := stratInterval_pos cs hmin eps L heps hcs
  have hLpos : (0 : α) < (L : α) := by exact_mod_cast hL
  unfold stratLevel
  have hx : (rs * h - hmin) / stratInterval cs hmin eps L < (L : α) := by
    rw [div_lt_iff₀ hivl]
    unfold stratInterval
    have e : (L : α) * ((cs - hmin) / (L : α) + eps) = (cs - hmin) + (L : α) * eps := by
      field_simp
    rw [e]
    have : 0 < (L : α) * eps := mul_pos hLpos heps
    linarith
  have hfl : ⌊(rs * h - hmin) / stratInterval cs hmin eps L⌋ < (L : Int) := by
    rw [Int.floor_lt]; exact_mod_cast hx
  omega

end num

end PysphVerif.Nnps
