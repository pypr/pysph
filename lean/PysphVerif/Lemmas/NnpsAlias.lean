import PysphVerif.Model.NnpsAlias
import PysphVerif.Lemmas.Nnps
/-!
Lemmas for the ownership model of the query API (`Model/NnpsAlias.lean`): every safe call
preserves the cache invariant of every cache and hands the caller exactly `find c d`.
-/
namespace PysphVerif.Nnps

def AState.Inv (find : Nat → Nat → List Nat) (s : AState) : Prop :=
  ∀ c, Cache.Inv (find c) (s.caches c)

theorem AState.inv_init (find : Nat → Nat → List Nat) : AState.Inv find AState.init :=
  fun c => Cache.inv_reset (find c)

theorem stepCached_inv (find : Nat → Nat → List Nat) (s : AState) (c d a : Nat)
    (h : AState.Inv find s) : AState.Inv find (stepCached find s c d a) := by
  intro e
  by_cases hec : e = c
  · subst hec
    simp only [stepCached, if_true]
    exact Cache.inv_fillGuarded (find e) _ (0, d) (h e)
  · simp only [stepCached, hec, if_false]
    exact h e

theorem stepCached_read (find : Nat → Nat → List Nat) (s : AState) (c d a : Nat)
    (h : AState.Inv find s) : (stepCached find s c d a).read a = find c d := by
  have hv := Cache.get_of_inv (find c) (s.caches c) (h c) d
  simp only [AState.read, stepCached, if_true]
  simpa [Cache.get, Cache.view] using hv

theorem emptied_detach (A : Scratch) : (emptied true A).view = none := by
  simp [emptied]

theorem emptied_keep (A : Scratch) : (emptied false A).view = A.view := by
  simp [emptied]

theorem stepDirect_caches (find : Nat → Nat → List Nat) (s : AState) (detach : Bool) (c d a : Nat)
    (hv : (emptied detach (s.arrs a)).view = none) :
    (stepDirect find s detach c d a).caches = s.caches := by
  unfold stepDirect
  simp only [hv]

theorem stepDirect_read (find : Nat → Nat → List Nat) (s : AState) (detach : Bool) (c d a : Nat)
    (hv : (emptied detach (s.arrs a)).view = none) :
    (stepDirect find s detach c d a).read a = find c d := by
  unfold stepDirect
  simp only [hv, AState.read, if_true, List.take_length]

theorem safe_emptied_view (s : AState) (detach : Bool) (c d a : Nat)
    (hs : (AOp.direct detach c d a).safe s = true) : (emptied detach (s.arrs a)).view = none := by
  cases detach with
  | true => exact emptied_detach _
  | false =>
    rw [emptied_keep]
    simpa [AOp.safe, Option.isNone_iff_eq_none] using hs

theorem stepReset_inv (find : Nat → Nat → List Nat) (s : AState) (lo hi : Nat)
    (h : AState.Inv find s) : AState.Inv find (stepReset s lo hi) := by
  intro e
  simp only [stepReset]
  split
  · exact Cache.inv_reset (find e)
  · exact h e

theorem AState.step_ok (find : Nat → Nat → List Nat) (s : AState) (op : AOp)
    (h : AState.Inv find s) (hs : op.safe s = true) :
    AState.Inv find (s.step find op).1 ∧ (s.step find op).2 = op.expected find := by
  cases op with
  | cached c d a =>
    exact ⟨stepCached_inv find s c d a h, stepCached_read find s c d a h⟩
  | direct detach c d a =>
    have hv := safe_emptied_view s detach c d a hs
    refine ⟨?_, stepDirect_read find s detach c d a hv⟩
    intro e
    simp only [AState.step]
    rw [stepDirect_caches find s detach c d a hv]
    exact h e
  | reset lo hi =>
    exact ⟨stepReset_inv find s lo hi h, rfl⟩

theorem AState.run_ok (find : Nat → Nat → List Nat) (ops : List AOp) (s : AState)
    (h : AState.Inv find s) (hs : AState.safeRun find s ops = true) :
    AState.Inv find (AState.run find s ops).1 ∧
      (AState.run find s ops).2 = ops.map (AOp.expected find) := by
  induction ops generalizing s with
  | nil => exact ⟨h, rfl⟩
  | cons op ops ih =>
    simp only [AState.safeRun, Bool.and_eq_true] at hs
    obtain ⟨h1, h2⟩ := AState.step_ok find s op h hs.1
    obtain ⟨i1, i2⟩ := ih (s.step find op).1 h1 hs.2
    refine ⟨by simpa [AState.run] using i1, ?_⟩
    simp only [AState.run, List.map_cons]
    rw [h2, i2]

end PysphVerif.Nnps
