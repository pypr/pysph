import Mathlib.Algebra.Order.Field.Basic
import Mathlib.Data.List.Perm.Basic
import Mathlib.Tactic.Ring
import PysphVerif.Model.Domain
import PysphVerif.Lemmas.OrderChain
set_option linter.unusedSectionVars false
/-!
Helper lemmas for C07 (periodic / mirror ghosts).  One axis block of the ghost creation turns the
rows present so far (`base ++ g`) into `(base ++ g).flatMap variants`, up to order (`passYZ_perm`;
the three blocks together: `ghostsFor_perm`): pure list combinatorics, for any particle type with
decidable equality.  The rest, over a
linearly ordered field, is how `pos`/`vel` read what the model's updates write, and the tag
bookkeeping of `removeGhosts`.
-/
namespace PysphVerif.Domain

section Comb
variable {α : Type} [DecidableEq α]

inductive Dir where
  | none | low | high
  deriving DecidableEq, Repr

def dirs : List Dir := [Dir.none, Dir.low, Dir.high]

def AxisOps.ok (ops : AxisOps α) : Dir → Particle α → Bool
  | .none, _ => true
  | .low, q => ops.selLow q
  | .high, q => ops.selHigh q

def AxisOps.img (ops : AxisOps α) : Dir → Particle α → Particle α
  | .none, q => q
  | .low, q => ops.imgLow q
  | .high, q => ops.imgHigh q

def AxisOps.variants (ops : AxisOps α) (q : Particle α) : List (Particle α) :=
  q :: ((if ops.selLow q then [ops.imgLow q] else []) ++
        (if ops.selHigh q then [ops.imgHigh q] else []))

def offOps : AxisOps α :=
  { selLow := fun _ => false, selHigh := fun _ => false, imgLow := id, imgHigh := id }

def eff (on : Axis → Bool) (ops : Axis → AxisOps α) (a : Axis) : AxisOps α :=
  if on a then ops a else offOps

/-- a particle with all its face, edge and corner images; the head is the particle itself -/
def allVariants (on : Axis → Bool) (ops : Axis → AxisOps α) (q : Particle α) :
    List (Particle α) :=
  (((eff on ops .x).variants q).flatMap (eff on ops .y).variants).flatMap
    (eff on ops .z).variants

def imagesOf (on : Axis → Bool) (ops : Axis → AxisOps α) (q : Particle α) :
    List (Particle α) :=
  (allVariants on ops q).tail

theorem mem_dirs (d : Dir) : d ∈ dirs := by cases d <;> decide

theorem variants_eq_filter_map (ops : AxisOps α) (q : Particle α) :
    ops.variants q = (dirs.filter (fun d => ops.ok d q)).map (fun d => ops.img d q) := by
  unfold AxisOps.variants dirs
  cases h1 : ops.selLow q <;> cases h2 : ops.selHigh q <;>
    simp [List.filter, AxisOps.ok, AxisOps.img, h1, h2]

theorem offOps_variants (q : Particle α) : (offOps : AxisOps α).variants q = [q] := by
  simp [AxisOps.variants, offOps]

theorem flatMap_offOps (l : List (Particle α)) :
    l.flatMap (offOps : AxisOps α).variants = l := by
  rw [show (offOps : AxisOps α).variants = fun q => [q] from funext offOps_variants,
    List.flatMap_singleton']

theorem count_flatMap_variants (ops : AxisOps α) (l : List (Particle α)) (a : Particle α) :
    List.count a (l.flatMap ops.variants) =
      List.count a l + List.count a ((l.filter ops.selLow).map ops.imgLow)
        + List.count a ((l.filter ops.selHigh).map ops.imgHigh) := by
  induction l with
  | nil => rfl
  | cons b l ih =>
    simp only [List.flatMap_cons, List.count_append, ih, List.filter_cons, AxisOps.variants,
      List.count_cons]
    split <;> split <;> simp only [List.map_cons, List.count_cons, List.count_nil] <;> omega

theorem filter_map_pre (sel : Particle α → Bool) (pre : Particle α → Particle α)
    (hsel : ∀ p, sel (pre p) = sel p) (l : List (Particle α)) :
    (l.filter sel).map pre = (l.map pre).filter sel := by
  rw [List.filter_map, show sel ∘ pre = sel from funext hsel]

def SelInvariant (ops : AxisOps α) (pre : Particle α → Particle α) : Prop :=
  (∀ p, ops.selLow (pre p) = ops.selLow p) ∧ (∀ p, ops.selHigh (pre p) = ops.selHigh p)

theorem passYZ_perm (ops : AxisOps α) (pre : Particle α → Particle α)
    (hpre : SelInvariant ops pre) (base g : List (Particle α)) :
    (base.map pre ++ passYZ ops pre base g).Perm ((base.map pre ++ g).flatMap ops.variants) := by
  -- by counting occurrences: the segments the code appends are the low and high images of `g`
  -- and of `base.map pre`, in another order
  rw [List.perm_iff_count]
  intro a
  simp only [passYZ, filter_map_pre _ pre hpre.1, filter_map_pre _ pre hpre.2,
    count_flatMap_variants, List.count_append, List.filter_append, List.map_append]
  omega

/-- on an empty buffer the x block is the y/z block, which appends the high images before
the low ones -/
theorem passX_perm (ops : AxisOps α) (pre : Particle α → Particle α)
    (hpre : SelInvariant ops pre) (base : List (Particle α)) :
    (base.map pre ++ passX ops pre base []).Perm ((base.map pre ++ []).flatMap ops.variants) :=
  (List.Perm.append_left _ (by
    simp only [passX, passYZ, List.filter_nil, List.map_nil, List.append_nil, List.nil_append]
    exact List.perm_append_comm)).trans (passYZ_perm ops pre hpre base [])

theorem guarded_perm {on : Bool} {ops : AxisOps α} {B g g' : List (Particle α)}
    (h : (B ++ g').Perm ((B ++ g).flatMap ops.variants)) :
    (B ++ if on then g' else g).Perm ((B ++ g).flatMap (if on then ops else offOps).variants) := by
  cases on
  · simp [flatMap_offOps]
  · exact h

theorem allVariants_head (on : Axis → Bool) (ops : Axis → AxisOps α) (q : Particle α) :
    allVariants on ops q = q :: imagesOf on ops q := by
  simp [imagesOf, allVariants, AxisOps.variants, List.flatMap_cons]

theorem ghostsFor_perm (on : Axis → Bool) (ops : Axis → AxisOps α)
    (pre : Particle α → Particle α) (hpre : ∀ a, SelInvariant (ops a) pre)
    (base : List (Particle α)) :
    (ghostsFor on ops pre base).Perm ((base.map pre).flatMap (imagesOf on ops)) := by
  -- each block turns the rows present (`base.map pre` and the buffer) into their variants
  have hx := guarded_perm (on := on .x) (passX_perm (ops .x) pre (hpre .x) base)
  have hy := guarded_perm (on := on .y) (passYZ_perm (ops .y) pre (hpre .y) base
    (if on .x then passX (ops .x) pre base [] else []))
  have hz := guarded_perm (on := on .z) (passYZ_perm (ops .z) pre (hpre .z) base
    (if on .y then passYZ (ops .y) pre base (if on .x then passX (ops .x) pre base [] else [])
      else (if on .x then passX (ops .x) pre base [] else [])))
  have h := hz.trans ((hy.trans (hx.flatMap_right _)).flatMap_right _)
  rw [List.append_nil] at h
  have h : (base.map pre ++ ghostsFor on ops pre base).Perm
      ((base.map pre).flatMap fun q => q :: imagesOf on ops q) := by
    simp only [← allVariants_head, allVariants, ← List.flatMap_assoc]
    exact h
  -- regrouped per source row; the rows themselves cancel
  have h' := List.flatMap_append_perm (base.map pre) (fun q => [q]) (imagesOf on ops)
  rw [List.flatMap_singleton'] at h'
  exact (List.perm_append_left_iff _).mp (h.trans h'.symm)

theorem length_flatMap_le {β γ : Type} (f : β → List γ) (k : Nat) (hf : ∀ b, (f b).length ≤ k)
    (l : List β) : (l.flatMap f).length ≤ k * l.length := by
  induction l with
  | nil => exact Nat.le_refl 0
  | cons b l ih =>
    rw [List.flatMap_cons, List.length_append, List.length_cons, Nat.mul_succ]
    have := hf b
    omega

theorem variants_length_le (o : AxisOps α) (q : Particle α) : (o.variants q).length ≤ 3 := by
  unfold AxisOps.variants
  split <;> split <;> exact Nat.le_of_ble_eq_true rfl

/-- `26 = 3³ − 1` -/
theorem imagesOf_length_le (on : Axis → Bool) (ops : Axis → AxisOps α) (q : Particle α) :
    (imagesOf on ops q).length ≤ 26 := by
  have h1 := variants_length_le (eff on ops .x) q
  have h2 := length_flatMap_le _ 3 (variants_length_le (eff on ops .y)) ((eff on ops .x).variants q)
  have h3 := length_flatMap_le _ 3 (variants_length_le (eff on ops .z))
    (((eff on ops .x).variants q).flatMap (eff on ops .y).variants)
  have : (allVariants on ops q).length = (imagesOf on ops q).length + 1 :=
    congrArg List.length (allVariants_head on ops q)
  unfold allVariants at this
  omega

end Comb

section Explicit
variable {α : Type} [DecidableEq α]

theorem variants3_explicit (ox oy oz : AxisOps α)
    (hyx : ∀ d d' q, oy.ok d' (ox.img d q) = oy.ok d' q)
    (hzx : ∀ d d' q, oz.ok d' (ox.img d q) = oz.ok d' q)
    (hzy : ∀ d d' q, oz.ok d' (oy.img d q) = oz.ok d' q) (q : Particle α) :
    ((ox.variants q).flatMap oy.variants).flatMap oz.variants =
      (dirs.filter (fun d => ox.ok d q)).flatMap fun dx =>
        (dirs.filter (fun d => oy.ok d q)).flatMap fun dy =>
          (dirs.filter (fun d => oz.ok d q)).map fun dz => oz.img dz (oy.img dy (ox.img dx q)) := by
  have h1 : ∀ q', oz.variants q' = (dirs.filter (fun d => oz.ok d q')).map (fun d => oz.img d q') :=
    variants_eq_filter_map oz
  have h2 : ∀ q', oy.variants q' = (dirs.filter (fun d => oy.ok d q')).map (fun d => oy.img d q') :=
    variants_eq_filter_map oy
  rw [variants_eq_filter_map ox q]
  simp only [List.flatMap_map, List.flatMap_assoc, h1, h2, hyx, hzx, hzy]

theorem mem_variants3 (ox oy oz : AxisOps α)
    (hyx : ∀ d d' q, oy.ok d' (ox.img d q) = oy.ok d' q)
    (hzx : ∀ d d' q, oz.ok d' (ox.img d q) = oz.ok d' q)
    (hzy : ∀ d d' q, oz.ok d' (oy.img d q) = oz.ok d' q) (q g : Particle α) :
    g ∈ ((ox.variants q).flatMap oy.variants).flatMap oz.variants ↔
      ∃ dx dy dz, ox.ok dx q = true ∧ oy.ok dy q = true ∧ oz.ok dz q = true ∧
        g = oz.img dz (oy.img dy (ox.img dx q)) := by
  rw [variants3_explicit ox oy oz hyx hzx hzy]
  simp only [List.mem_flatMap, List.mem_filter, List.mem_map]
  constructor
  · rintro ⟨dx, ⟨_, hx⟩, dy, ⟨_, hy⟩, dz, ⟨_, hz⟩, rfl⟩
    exact ⟨dx, dy, dz, hx, hy, hz, rfl⟩
  · rintro ⟨dx, dy, dz, hx, hy, hz, rfl⟩
    exact ⟨dx, ⟨mem_dirs dx, hx⟩, dy, ⟨mem_dirs dy, hy⟩, dz, ⟨mem_dirs dz, hz⟩, rfl⟩

def SameButPos (p q : Particle α) : Prop :=
  p.u = q.u ∧ p.v = q.v ∧ p.w = q.w ∧ p.h = q.h ∧ p.tag = q.tag ∧ p.extra = q.extra

theorem SameButPos.refl (p : Particle α) : SameButPos p p := ⟨rfl, rfl, rfl, rfl, rfl, rfl⟩

theorem SameButPos.trans {p q r : Particle α} (h1 : SameButPos p q) (h2 : SameButPos q r) :
    SameButPos p r :=
  ⟨h1.1.trans h2.1, h1.2.1.trans h2.2.1, h1.2.2.1.trans h2.2.2.1, h1.2.2.2.1.trans h2.2.2.2.1,
   h1.2.2.2.2.1.trans h2.2.2.2.2.1, h1.2.2.2.2.2.trans h2.2.2.2.2.2⟩

end Explicit

section Arith
open scoped PysphVerif.OrderChain
variable {α : Type} [Field α] [LinearOrder α] [IsStrictOrderedRing α]

@[simp] theorem pos_setPos_same (p : Particle α) (a : Axis) (c : α) : (p.setPos a c).pos a = c := by
  cases a <;> rfl
theorem pos_setPos_ne (p : Particle α) {a b : Axis} (h : a ≠ b) (c : α) :
    (p.setPos a c).pos b = p.pos b := by
  cases a <;> cases b <;> first | rfl | exact absurd rfl h
theorem sameButPos_setPos (p : Particle α) (a : Axis) (c : α) : SameButPos p (p.setPos a c) := by
  cases a <;> exact ⟨rfl, rfl, rfl, rfl, rfl, rfl⟩
theorem pos_setVel (p : Particle α) (a b : Axis) (c : α) : (p.setVel a c).pos b = p.pos b := by
  cases a <;> cases b <;> rfl
@[simp] theorem vel_setVel_same (p : Particle α) (a : Axis) (c : α) : (p.setVel a c).vel a = c := by
  cases a <;> rfl
theorem vel_setVel_ne (p : Particle α) {a b : Axis} (h : a ≠ b) (c : α) :
    (p.setVel a c).vel b = p.vel b := by
  cases a <;> cases b <;> first | rfl | exact absurd rfl h
theorem vel_setPos (p : Particle α) (a b : Axis) (c : α) : (p.setPos a c).vel b = p.vel b := by
  cases a <;> cases b <;> rfl
theorem pos_restrict (cs : CopySpec α) (p : Particle α) (a : Axis) :
    (restrict cs p).pos a = p.pos a := by cases a <;> rfl

theorem wrap1_eq (lo hi L v : α) : wrap1 lo hi L v =
    if v < lo then (if hi < v + L then v + L - L else v + L) else if hi < v then v - L else v := by
  unfold wrap1
  split <;> rfl

def wrapCoord (c : Config α) (a : Axis) (v : α) : α :=
  if c.periodic a then wrap1 (c.lo a) (c.hi a) (c.translate a) v else v

theorem pos_wrapAxis (c : Config α) (a b : Axis) (p : Particle α) :
    (wrapAxis c a p).pos b = if a = b then wrapCoord c a (p.pos a) else p.pos b := by
  unfold wrapAxis wrapCoord
  by_cases hab : a = b
  · subst hab
    cases c.periodic a <;> simp
  · cases c.periodic a <;> simp [hab, pos_setPos_ne]

theorem pos_wrapParticle (c : Config α) (a : Axis) (p : Particle α) :
    (wrapParticle c p).pos a = wrapCoord c a (p.pos a) := by
  unfold wrapParticle
  cases a <;> simp [pos_wrapAxis]

theorem sameButPos_wrapAxis (c : Config α) (a : Axis) (p : Particle α) :
    SameButPos p (wrapAxis c a p) := by
  unfold wrapAxis
  cases c.periodic a
  · exact SameButPos.refl p
  · exact sameButPos_setPos p a _

theorem sameButPos_wrapParticle (c : Config α) (p : Particle α) :
    SameButPos p (wrapParticle c p) :=
  ((sameButPos_wrapAxis c .x p).trans (sameButPos_wrapAxis c .y _)).trans
    (sameButPos_wrapAxis c .z _)

theorem inLow_congr (c : Config α) (δ : α) (a : Axis) (p q : Particle α) (h : p.pos a = q.pos a) :
    inLow c δ a p = inLow c δ a q := by unfold inLow; rw [h]
theorem inHigh_congr (c : Config α) (δ : α) (a : Axis) (p q : Particle α) (h : p.pos a = q.pos a) :
    inHigh c δ a p = inHigh c δ a q := by unfold inHigh; rw [h]

theorem selInvariant_periodic (c : Config α) (δ : α) (cs : CopySpec α) (a : Axis) :
    SelInvariant (periodicOps c δ a) (restrict cs) :=
  ⟨fun p => inLow_congr c δ a _ _ (pos_restrict cs p a),
   fun p => inHigh_congr c δ a _ _ (pos_restrict cs p a)⟩

theorem selInvariant_id (ops : AxisOps α) : SelInvariant ops id := ⟨fun _ => rfl, fun _ => rfl⟩

theorem pos_shift_same (a : Axis) (d : α) (p : Particle α) : (shift a d p).pos a = p.pos a + d := by
  simp [shift]
theorem pos_shift_ne {a b : Axis} (h : a ≠ b) (d : α) (p : Particle α) :
    (shift a d p).pos b = p.pos b := by simp [shift, pos_setPos_ne _ h]
theorem shift_zero (a : Axis) (p : Particle α) : shift a 0 p = p := by
  cases a <;> simp [shift, Particle.setPos, Particle.pos]
theorem sameButPos_shift (a : Axis) (d : α) (p : Particle α) : SameButPos p (shift a d p) :=
  sameButPos_setPos p a _

/-- `hq`: the common shape of `mirrorLow` and `mirrorHigh` -/
theorem reflect_spec (p q : Particle α) (a : Axis) (x : α)
    (hq : q = (p.setPos a x).setVel a (p.vel a * (-1))) :
    q.pos a = x ∧ q.vel a = - p.vel a ∧
    (∀ b, b ≠ a → q.pos b = p.pos b ∧ q.vel b = p.vel b) ∧
    q.h = p.h ∧ q.extra = p.extra ∧ q.tag = p.tag := by
  subst hq
  refine ⟨by rw [pos_setVel, pos_setPos_same], by rw [vel_setVel_same]; ring, fun b hb => ?_, ?_⟩
  · have hab : a ≠ b := fun h => hb h.symm
    exact ⟨by rw [pos_setVel, pos_setPos_ne _ hab], by rw [vel_setVel_ne _ hab, vel_setPos]⟩
  · cases a <;> exact ⟨rfl, rfl, rfl⟩

theorem isGhost_setTag (p : Particle α) : isGhost (setTag ghostTag p) = true := by
  simp [isGhost, setTag]

theorem removeGhosts_eq_nil {l : List (Particle α)} (h : ∀ g ∈ l, g.tag = ghostTag) :
    removeGhosts l = [] := by
  unfold removeGhosts
  rw [List.filter_eq_nil_iff]
  intro g hg
  simp [isGhost, h g hg]

theorem tag_of_mem_map_setTag {l : List (Particle α)} {g : Particle α}
    (hg : g ∈ l.map (setTag ghostTag)) : g.tag = ghostTag := by
  obtain ⟨q, _, rfl⟩ := List.mem_map.mp hg
  rfl

theorem guarded_stage (on : Bool) (a : List (Particle α)) {G I : List (Particle α)}
    (hG : G.Perm I) :
    ∃ Gs, (if on then a ++ G.map (setTag ghostTag) else a) = a ++ Gs ∧
      Gs.Perm (if on then I.map (setTag ghostTag) else []) ∧ ∀ g ∈ Gs, g.tag = ghostTag := by
  cases on
  · exact ⟨[], (List.append_nil _).symm, .refl _, nofun⟩
  · exact ⟨_, rfl, hG.map _, fun _ => tag_of_mem_map_setTag⟩

theorem removeGhosts_map_setTag (l : List (Particle α)) :
    removeGhosts (l.map (setTag ghostTag)) = [] :=
  removeGhosts_eq_nil fun _ => tag_of_mem_map_setTag

theorem removeGhosts_append (l1 l2 : List (Particle α)) :
    removeGhosts (l1 ++ l2) = removeGhosts l1 ++ removeGhosts l2 := by
  simp [removeGhosts]

theorem removeGhosts_idem (l : List (Particle α)) : removeGhosts (removeGhosts l) = removeGhosts l := by
  simp [removeGhosts, List.filter_filter]

theorem removeGhosts_map_of_tag (m : Particle α → Particle α) (hm : ∀ p, (m p).tag = p.tag)
    (l : List (Particle α)) : removeGhosts (l.map m) = (removeGhosts l).map m :=
  (filter_map_pre _ m (fun p => by simp [isGhost, hm]) l).symm

theorem tag_wrapParticle (c : Config α) (p : Particle α) : (wrapParticle c p).tag = p.tag :=
  ((sameButPos_wrapParticle c p).2.2.2.2.1).symm

end Arith

end PysphVerif.Domain
