import PysphVerif.Model.NnpsZOrder
import PysphVerif.Lemmas.Nnps
import PysphVerif.Lemmas.OrderedInsert
/-!
Lists sorted by a key, as the sorted-key classes (CellIndexing, z-order, stratified SFC) use
them: the insertion sort of CellIndexing's keys meets the specification of `std::sort` (that of
the z-order pids: `C01.sortPids_sortSpec`), and in a sorted list the entries with a given key form
one run, which starts at the first position of the key.  At the end `C01.SortSpec`, what the
z-order and SFC theorems ask of the function that sorts the pids.
-/
namespace PysphVerif.Nnps

theorem sortAsc_spec (l : List Nat) : (sortAsc l).Perm l ∧ (sortAsc l).Pairwise (fun a b => a ≤ b) :=
  ⟨OrderedInsert.foldr_perm (ins := insertAsc) (p := (· ≤ ·)) (fun _ _ _ => rfl) (fun _ => rfl) l,
    OrderedInsert.foldr_pairwise (ins := insertAsc) (p := (· ≤ ·)) (R := fun a b => a ≤ b)
      (fun _ _ _ => rfl) (fun _ => rfl) Nat.le_trans id Nat.le_of_not_le l⟩

theorem flatMap_filterMap_eq {β γ δ : Type} (l : List β) (f : β → Option γ) (g : γ → List δ) :
    (l.filterMap f).flatMap g = l.flatMap (fun x => ((f x).map g).getD []) := by
  rw [List.filterMap_eq_flatMap_toList, List.flatMap_assoc]
  exact List.flatMap_congr fun x _ => by cases f x <;> simp

theorem flatMap_filter {β δ : Type} (l : List β) (p : β → Bool) (f : β → List δ) :
    (l.filter p).flatMap f = l.flatMap (fun x => if p x then f x else []) := by
  rw [← List.filterMap_eq_filter, flatMap_filterMap_eq]
  exact List.flatMap_congr fun x _ => by cases h : p x <;> simp [Option.guard, h]

section runs
variable (f : Nat → Nat)

theorem takeWhile_eq_filter_sorted (f : Nat → Nat) (k : Nat) :
    ∀ L : List Nat, L.Pairwise (fun a b => f a ≤ f b) → (∀ a ∈ L, k ≤ f a) →
      L.takeWhile (fun p => decide (f p = k)) = L.filter (fun p => f p = k) := by
  intro L
  induction L with
  | nil => intros; rfl
  | cons a t ih =>
    intro hp hk
    rw [List.pairwise_cons] at hp
    by_cases hfa : f a = k
    · rw [List.takeWhile_cons_of_pos (by simpa using hfa), List.filter_cons_of_pos (by simpa using hfa)]
      congr 1
      exact ih hp.2 (fun b hb => hk b (List.mem_cons_of_mem _ hb))
    · rw [List.takeWhile_cons_of_neg (by simpa using hfa)]
      symm
      rw [List.filter_eq_nil_iff]
      intro b hb
      simp only [decide_eq_true_eq]
      have h0 : k ≤ f a := hk a List.mem_cons_self
      rcases List.mem_cons.mp hb with rfl | hb'
      · exact hfa
      · have h1 := hp.1 b hb'
        omega

theorem drop_takeWhile_eq_filter (f : Nat → Nat) (k : Nat) :
    ∀ L : List Nat, L.Pairwise (fun a b => f a ≤ f b) →
      (L.drop ((L.map f).idxOf k)).takeWhile (fun p => decide (f p = k)) =
        L.filter (fun p => f p = k) := by
  intro L
  induction L with
  | nil => intros; rfl
  | cons a t ih =>
    intro hp
    by_cases hfa : f a = k
    · have e : ((a :: t).map f).idxOf k = 0 := by
        rw [List.map_cons, hfa]; exact List.idxOf_cons_self
      rw [e, List.drop_zero]
      refine takeWhile_eq_filter_sorted f k (a :: t) hp ?_
      intro b hb
      rcases List.mem_cons.mp hb with rfl | hb'
      · exact le_of_eq hfa.symm
      · rw [← hfa]; exact (List.pairwise_cons.mp hp).1 b hb'
    · have e : ((a :: t).map f).idxOf k = ((t.map f).idxOf k) + 1 := by
        rw [List.map_cons]; exact List.idxOf_cons_ne _ hfa
      rw [e, List.drop_succ_cons, List.filter_cons_of_neg (by simpa using hfa)]
      exact ih (List.pairwise_cons.mp hp).2

theorem run_eq_filter (k : Nat) (L : List Nat) (hp : L.Pairwise (fun a b => f a ≤ f b)) :
    (L.drop ((L.map f).idxOf k)).take (L.countP (fun p => f p = k)) =
      L.filter (fun p => f p = k) := by
  rw [List.countP_eq_length_filter, ← drop_takeWhile_eq_filter f k L hp]
  exact (List.prefix_iff_eq_take.mp (List.takeWhile_prefix _)).symm

end runs

/-! `fill_array` and `_fill_nbr_boxes` walk the sorted particles (or keys) comparing each key with the
one before it.  `runMarks` pairs every entry with the outcome of that comparison (`true`: a new
key, a run start); each loop of the model is a fold or a filter over the marks, and
`runMarks_filter` says, once, what the marks of a sorted list are: per key, one start followed by
the rest of the run. -/
section marks
variable (f : Nat → Nat)

def runMarks : Option Nat → List Nat → List (Bool × Nat)
  | _, [] => []
  | prev, p :: ps => (decide (prev ≠ some (f p)), p) :: runMarks (some (f p)) ps

def markRun (b : Bool) : List Nat → List (Bool × Nat)
  | [] => []
  | p :: r => (b, p) :: r.map (Prod.mk false)

theorem markRun_false (l : List Nat) : markRun false l = l.map (Prod.mk false) := by
  cases l <;> rfl

theorem runMarks_snd (ps : List Nat) (prev : Option Nat) : (runMarks f prev ps).map (·.2) = ps := by
  induction ps generalizing prev with
  | nil => rfl
  | cons p ps ih => simp only [runMarks, List.map_cons, ih]

theorem mem_of_mem_runMarks {ps : List Nat} {prev : Option Nat} {m : Bool × Nat}
    (h : m ∈ runMarks f prev ps) : m.2 ∈ ps :=
  runMarks_snd f ps prev ▸ List.mem_map_of_mem h

theorem runMarks_filter (k : Nat) (ps : List Nat) (prev : Option Nat)
    (hs : ps.Pairwise (fun a b => f a ≤ f b)) (hprev : ∀ k0, prev = some k0 → ∀ p ∈ ps, k0 ≤ f p) :
    (runMarks f prev ps).filter (fun m => f m.2 = k) =
      markRun (decide (prev ≠ some k)) (ps.filter (fun p => f p = k)) := by
  induction ps generalizing prev with
  | nil => rfl
  | cons p ps ih =>
    rw [List.pairwise_cons] at hs
    have ih' := ih (some (f p)) hs.2 fun k0 h q hq => by cases h; exact hs.1 q hq
    unfold runMarks
    by_cases hk : f p = k
    · subst hk
      rw [List.filter_cons_of_pos (by simp), List.filter_cons_of_pos (by simp), ih',
        show decide (some (f p) ≠ some (f p)) = false by simp, markRun_false]
      rfl
    · rw [List.filter_cons_of_neg (by simpa using hk), List.filter_cons_of_neg (by simpa using hk),
        ih']
      by_cases hpk : prev = some k
      · -- then `k < f p ≤` every later key: `k` does not occur
        have hnil : ps.filter (fun q => f q = k) = [] := List.filter_eq_nil_iff.mpr fun q hq hf => by
          have h1 := hprev k hpk p List.mem_cons_self
          have h2 := hs.1 q hq
          have h3 : f q = k := of_decide_eq_true hf
          omega
        rw [hnil]; rfl
      · rw [decide_eq_true (p := some (f p) ≠ some k) (by simpa using hk), decide_eq_true hpk]

theorem runMarks_filter_none (k : Nat) (ps : List Nat) (hs : ps.Pairwise (fun a b => f a ≤ f b)) :
    (runMarks f none ps).filter (fun m => f m.2 = k) = markRun true (ps.filter (fun p => f p = k)) :=
  runMarks_filter f k ps none hs (fun _ h => by cases h)

theorem exists_start (ps : List Nat) (prev : Option Nat) (p : Nat) (hp : p ∈ ps)
    (hprev : prev ≠ some (f p)) : ∃ p' ∈ ps, f p' = f p ∧ (true, p') ∈ runMarks f prev ps := by
  induction ps generalizing prev with
  | nil => cases hp
  | cons q ps ih =>
    unfold runMarks
    by_cases hq : f q = f p
    · exact ⟨q, List.mem_cons_self, hq, by rw [hq, decide_eq_true hprev]; exact List.mem_cons_self⟩
    · have hp' : p ∈ ps := (List.mem_cons.mp hp).resolve_left fun e => hq (e ▸ rfl)
      obtain ⟨p', h1, h2, h3⟩ := ih (some (f q)) hp' (by simpa using hq)
      exact ⟨p', List.mem_cons_of_mem _ h1, h2, List.mem_cons_of_mem _ h3⟩

def runStarts (prev : Option Nat) (ps : List Nat) : List Nat :=
  ((runMarks f prev ps).filter (·.1)).map (·.2)

theorem mem_runStarts (ps : List Nat) (k : Nat) :
    k ∈ (runStarts f none ps).map f ↔ k ∈ ps.map f := by
  simp only [List.mem_map]
  constructor
  · rintro ⟨p, hp, hk⟩
    obtain ⟨m, hm, rfl⟩ := List.mem_map.mp hp
    exact ⟨m.2, mem_of_mem_runMarks f (List.mem_filter.mp hm).1, hk⟩
  · rintro ⟨p, hp, hk⟩
    obtain ⟨p', _, hk', hm⟩ := exists_start f ps none p hp (by simp)
    exact ⟨p', List.mem_map.mpr ⟨_, List.mem_filter.mpr ⟨hm, rfl⟩, rfl⟩, hk'.trans hk⟩

theorem runStarts_nodup (ps : List Nat) (hs : ps.Pairwise (fun a b => f a ≤ f b)) :
    ((runStarts f none ps).map f).Nodup := by
  rw [List.nodup_iff_count_le_one]
  intro k
  have e : ((runStarts f none ps).map f).count k =
      ((runMarks f none ps).filter (fun m => f m.2 = k)).countP (·.1) := by
    simp only [runStarts, List.map_map, List.count_eq_countP, List.countP_map, List.countP_filter]
    apply List.countP_congr
    intro m _
    simp only [Function.comp, beq_iff_eq, Bool.and_eq_true, decide_eq_true_eq, and_comm]
  rw [e, runMarks_filter_none f k ps hs]
  cases ps.filter (fun p => f p = k) with
  | nil => exact Nat.zero_le _
  | cons p r =>
    have h0 : (r.map (Prod.mk false)).countP (·.1) = 0 :=
      List.countP_eq_zero.mpr fun m hm => by obtain ⟨_, _, rfl⟩ := List.mem_map.mp hm; simp
    show List.countP _ ((true, p) :: r.map (Prod.mk false)) ≤ 1
    rw [List.countP_cons, h0]
    exact Nat.le_refl _

end marks

/-! `firstIdx` is how the model reads `key_to_idx[key]`.  For a list sorted by `f`: no entry, no
particle with that key; an entry `s`, and the particles with that key are the run at `s`, whether
its end is found by comparing keys or by a stored length. -/
section firstIdx
variable (f : Nat → Nat) (k : Nat) (L : List Nat)

theorem firstIdx_eq_some_iff (K : List Nat) (k s : Nat) :
    firstIdx K k = some s ↔ k ∈ K ∧ K.idxOf k = s := by
  unfold firstIdx
  split <;> simp [*]

theorem firstIdx_eq_none_iff (K : List Nat) (k : Nat) : firstIdx K k = none ↔ k ∉ K := by
  unfold firstIdx
  split <;> simp [*]

theorem filter_eq_nil_of_firstIdx (h : firstIdx (L.map f) k = none) :
    L.filter (fun p => f p = k) = [] :=
  List.filter_eq_nil_iff.mpr fun p hp hf =>
    (firstIdx_eq_none_iff _ _).mp h (List.mem_map.mpr ⟨p, hp, of_decide_eq_true hf⟩)

theorem getElem?_firstIdx {K : List Nat} {k s : Nat} (h : firstIdx K k = some s) :
    K[s]? = some k := by
  obtain ⟨hk, rfl⟩ := (firstIdx_eq_some_iff _ _ _).mp h
  exact List.getElem?_eq_some_iff.mpr ⟨List.idxOf_lt_length_iff.mpr hk, List.getElem_idxOf _⟩

/-- what the code reads at the entry: `pids[idx]`, `getD` in the model -/
theorem getD_firstIdx {s : Nat} (h : firstIdx (L.map f) k = some s) (d : Nat) :
    L.getD s d ∈ L ∧ f (L.getD s d) = k := by
  obtain ⟨p, hp, hk⟩ := Option.map_eq_some_iff.mp (List.getElem?_map ▸ getElem?_firstIdx h)
  rw [List.getD_eq_getElem?_getD, hp]
  exact ⟨List.mem_of_getElem? hp, hk⟩

theorem run_of_firstIdx (hs : L.Pairwise (fun a b => f a ≤ f b)) {s : Nat}
    (h : firstIdx (L.map f) k = some s) :
    (L.drop s).takeWhile (fun p => decide (f p = k)) = L.filter (fun p => f p = k) ∧
    (L.drop s).take (L.countP (fun p => f p = k)) = L.filter (fun p => f p = k) := by
  obtain ⟨_, rfl⟩ := (firstIdx_eq_some_iff _ _ _).mp h
  exact ⟨drop_takeWhile_eq_filter f k L hs, run_eq_filter f k L hs⟩

/-- how the `hmax` tables of the z-order and SFC classes are read back -/
theorem foldl_fmax_firstIdx_ge {α : Type} [LinearOrder α] (hs : L.Pairwise (fun a b => f a ≤ f b))
    (hAt : Nat → α) (m : α) (p : Nat) (hp : p ∈ L) (hf : f p = k) :
    hAt p ≤ (match firstIdx (L.map f) k with
      | none => m
      | some j => ((L.drop j).takeWhile (fun q => decide (f q = k))).foldl
          (fun m q => fmaxA m (hAt q)) m) := by
  have hmem : p ∈ L.filter (fun q => f q = k) := List.mem_filter.mpr ⟨hp, decide_eq_true hf⟩
  cases h : firstIdx (L.map f) k with
  | none => rw [filter_eq_nil_of_firstIdx f k L h] at hmem; cases hmem
  | some j =>
    simp only
    rw [(run_of_firstIdx f k L hs h).1]
    exact foldl_ge_of_mem _ (fun m q => fmaxA_ge_left m (hAt q)) _ p hmem _
      (fun m => fmaxA_ge_right m (hAt p)) m

end firstIdx

end PysphVerif.Nnps

/-- `std::sort` at its specification: whatever order it leaves equal keys in, the result is a
permutation of all particle ids, sorted by key.  This is what the statements of `Props/C01.lean`
about the z-order and SFC classes assume of `compare_sort` (`hsrt : SortSpec srt`). -/
def PysphVerif.C01.SortSpec (srt : (Nat → Nat) → Nat → List Nat) : Prop :=
  ∀ key n, (srt key n).Perm (List.range n) ∧ (srt key n).Pairwise (fun p q => key p ≤ key q)
