import PysphVerif.Lemmas.Needs
import PysphVerif.Model.NeedsCodegen
/-! Helper lemmas for the declaration / binding sites of the integrator code generator
(`Model/NeedsCodegen.lean`). -/
namespace PysphVerif.Needs

theorem prefix_strip (pre n : Name) (h : n.startsWith pre = true)
    (hl : pre.toList.length = 2) : pre ++ strip n = n := by
  rw [String.startsWith_string_iff] at h
  obtain ⟨r, hr⟩ := h
  apply String.toList_inj.mp
  unfold strip
  have : (n.drop 2).toString = (n.drop 2).copy := rfl
  rw [this, String.toList_append, String.toList_copy_drop, ← hr]
  simp [hl]

theorem src_strip (n : Name) (h : isSrcArr n = true) : "s_" ++ strip n = n := by
  simp only [isSrcArr, Bool.and_eq_true] at h
  exact prefix_strip "s_" n h.1 (by decide)

theorem dst_strip (n : Name) (h : isDstArr n = true) : "d_" ++ strip n = n := by
  simp only [isDstArr, Bool.and_eq_true] at h
  exact prefix_strip "d_" n h.1 (by decide)

theorem mem_knownTypes {arrs : List PArr} {a : PArr} (ha : a ∈ arrs) {n : Name}
    (hn : (isSrcArr n || isDstArr n) = true) (hp : strip n ∈ a.props) :
    n ∈ knownTypes arrs := by
  unfold knownTypes
  refine List.mem_flatMap.mpr ⟨a, ha, List.mem_flatMap.mpr ⟨strip n, hp, ?_⟩⟩
  rcases Bool.or_eq_true_iff.mp hn with h | h
  · rw [src_strip n h]; simp
  · rw [dst_strip n h]; simp

theorem mem_stepperArrNames (args : List Name) (n : Name) :
    n ∈ stepperArrNames args ↔ n ∈ args ∧ (isSrcArr n || isDstArr n) = true := by
  simp [stepperArrNames]

theorem mem_stepperDeclNames (sts : List Stepper) (m n : Name) :
    n ∈ stepperDeclNames sts m ↔ ∃ st ∈ sts, n ∈ stepperArrNames (st.args m) := by
  unfold stepperDeclNames
  rw [mem_sortNames]
  simp only [List.mem_eraseDups, List.mem_flatMap]

theorem mem_stepperSetupNames (st : Stepper) (m n : Name) :
    n ∈ stepperSetupNames st m ↔ n ∈ st.args m ∧ (isSrcArr n || isDstArr n) = true := by
  unfold stepperSetupNames
  rw [mem_sortNames, List.mem_eraseDups, mem_stepperArrNames]

end PysphVerif.Needs
