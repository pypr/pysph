import PysphVerif.Lemmas.DumpLoad
/-!
C11, hdf5 reader: constants first, then one `add_property` per dataset in name
order; the output list comes from the group attribute.
-/
set_option linter.unusedSectionVars false
namespace PysphVerif.DumpLoad

variable {V : Type} [PVal V] [DecidableEq V]

def h5Req (e : String × H5Data V) : AddReq V :=
  { name := e.2.aName, ty := e.2.aType, dflt := e.2.aDefault,
    data := if e.2.stored then some e.2.data else none, stride := e.2.aStride }

theorem h5Req_dataset (arrs : List (String × List V)) (p : PropRec V) :
    h5Req (h5Dataset arrs (propInfo p)) = reqOf arrs p := by
  simp only [h5Dataset, propInfo]
  cases h : dictGet? arrs p.name <;> simp [h5Req, reqOf, h]

/-- the second component of the state only collects names -/
theorem h5PropStep_ok (st : PArr V × List String) (e : String × H5Data V) (pa' : PArr V)
    (h : addReq st.1 (h5Req e) = .ok pa') : ∃ st', h5PropStep st e = .ok st' ∧ st'.1 = pa' := by
  unfold h5PropStep
  simp only [addReq, h5Req] at h
  cases hst : e.2.stored <;> simp only [hst, if_true, if_false, Bool.false_eq_true] at h ⊢ <;>
    rw [h] <;> exact ⟨_, rfl, rfl⟩

/-- the group `HDFOutput._dump` writes for one array -/
def h5ArrOf (pa : PArr V) (arrs : List (String × List V)) : H5Arr V :=
  { outAttr := some pa.outArrs, constants := pa.consts,
    arrays := (pa.props.map propInfo).map (h5Dataset arrs) }

theorem loadH5_spec (pa : PArr V) (hwf : WF pa) (o : Opts) :
    ∃ q, loadH5Arr pa.name (h5ArrOf pa (arrsOf o pa)) = .ok q ∧ RoundTrip o pa q := by
  obtain ⟨_, hs⟩ := gpa_spec pa hwf o
  generalize arrsOf o pa = arrs at hs
  have hsp := sortConsts_perm pa.consts
  have hmk := mkParticleArray_consts (V := V) pa.name (sortConsts pa.consts)
    (by rw [(hsp.map _).nodup_iff]; exact hwf.constsNodup)
    (fun c hc hb => hwf.constsDisj c (hsp.mem_iff.1 hc) (hwf.hasBase _ hb))
    (fun c hc => hwf.constsTy c (hsp.mem_iff.1 hc))
  have hperm : ((sortByName (h5ArrOf pa arrs).arrays).map h5Req).Perm
      (pa.props.map (reqOf arrs)) := by
    have h1 := (sortByName_perm (h5ArrOf pa arrs).arrays).map h5Req
    refine h1.trans ?_
    simp only [h5ArrOf, List.map_map]
    rw [List.map_congr_left (g := reqOf arrs)]
    intro p _
    exact h5Req_dataset arrs p
  obtain ⟨st, nP', h1, hn, hc, hinv, hmeta, hnames⟩ :=
    rebuild pa hwf o arrs hs Prod.fst h5PropStep h5Req _ (fun st e _ => h5PropStep_ok st e) hperm
      ({ (emptyArr pa.name : PArr V) with consts := sortConsts pa.consts }, []) (sinv_clear _)
  refine ⟨{ st.1 with outArrs := pa.outArrs }, ?_, ?_⟩
  · simp only [loadH5Arr]
    rw [show (h5ArrOf pa arrs).constants = pa.consts from rfl, hmk]
    simp only [Except.bind, h1]
    rw [show (h5ArrOf pa arrs).outAttr = some pa.outArrs from rfl]
    exact setOutputArrays_ok st.1 pa.outArrs fun n hn => (hnames n).2 (hwf.outSub n hn)
  · exact { name := hn, outArrs := rfl, consts := by simpa [hc] using hsp, nodup := hinv.nodup,
            same := hmeta, noExtra := fun p' hp' => (hnames _).1 ⟨p', hp', rfl⟩,
            coh := ⟨nP', hinv.np, fun _ hp' => (hinv.coh hp').1⟩ }

end PysphVerif.DumpLoad
