import PysphVerif.Lemmas.Eigen3Tred2
import PysphVerif.Lemmas.Eigen3Tql2Loop
/-!
`tred2` as a whole, and `eigen_decomposition = scaling + tred2 + tql2 + unscaling`.
-/
set_option linter.unusedSectionVars false
namespace PysphVerif.Eigen3
open Matrix

variable {K : Type} [Field K] [LinearOrder K] [IsStrictOrderedRing K]

theorem symm_toM (A : Mat K) (h : A.Symm) :
    A.toM = A3 A.a00 A.a10 A.a11 A.a20 A.a21 A.a22 := by
  rw [Mat.toM_eq]
  exact mat3_congr rfl h.1 h.2.1 rfl rfl h.2.2 rfl rfl rfl

theorem tred2_spec {sqrt : K → K} (hs : SqrtOK sqrt) (s : St K) (hsym : s.V.Symm) :
    (tred2 abs sqrt s).V.toMᵀ * (tred2 abs sqrt s).V.toM = 1 ∧
    (tred2 abs sqrt s).V.toM * (tred2 abs sqrt s).V.toMᵀ = 1 ∧
    s.V.toM = (tred2 abs sqrt s).V.toM * Ttri (tred2 abs sqrt s).d (tred2 abs sqrt s).e *
      (tred2 abs sqrt s).V.toMᵀ := by
  -- the two reduction steps give `P` and `δ` (`S2Post`, `S1Post`), whatever their branches;
  -- `assemble` then asks for two equations: `T = D3 δ · A' · D3 δ` (`hT`), and `V = P · D3 δ`, which
  -- is checked in each branch of the accumulation at `i = 1` from its written-out form
  rw [tred2_eq]
  set s0 : St K := ⟨s.V, ⟨s.V.a20, s.V.a21, s.V.a22⟩, s.e, s.log⟩
  have post2 : S2Post s.V.a00 s.V.a10 s.V.a11 s.V.a20 s.V.a21 s0 (t2Outer abs sqrt s0 2) := by
    by_cases hsc : 0 + |s0.d.x0| + |s0.d.x1| = 0
    · exact stage2_zero sqrt s0 hsc
    · exact stage2_house hs s0 hsc
  set s2 := t2Outer abs sqrt s0 2
  have post1 : S1Post s2 (t2Outer abs sqrt s2 1) := by
    by_cases hsc : 0 + |s2.d.x0| = 0
    · exact stage1_zero sqrt s2 hsc
    · exact stage1_house hs s2 hsc
  set s1 := t2Outer abs sqrt s2 1
  clear_value s2 s1
  obtain ⟨P, hPP, hPt, hsim, hPne, hPz⟩ := post2.sim
  obtain ⟨δ, hδ, he1, hδne, hδz⟩ := post1.sim
  have hA := hsim s.V.a22
  rw [← symm_toM s.V hsym] at hA
  -- `d` and `e` of the result do not depend on the branches of the accumulation
  have hT : Ttri ⟨s1.V.a00, s1.V.a11, s1.V.a22⟩ ⟨0, s1.e.x1, s1.e.x2⟩ =
      D3 δ * A3 s2.V.a00 s2.V.a10 s2.V.a11 0 s2.e.x2 s.V.a22 * D3 δ := by
    show !![s1.V.a00, s1.e.x1, 0; s1.e.x1, s1.V.a11, s1.e.x2; 0, s1.e.x2, s1.V.a22] = _
    rw [D3, A3, mul_fin_three, mul_fin_three]
    simp only [mul_zero, zero_mul, add_zero, zero_add, mul_one, one_mul]
    exact mat3_congr (by rw [post1.v00, mul_right_comm, hδ, one_mul]) (by rw [he1, post2.d0]) rfl
      (by rw [he1, post2.d0, mul_comm]) post1.v11 post1.e2 rfl post1.e2 (post1.v22.trans post2.v22)
  -- in both branches of the accumulation at `i = 0` the corner of `V` becomes `δ`
  obtain ⟨d', log', hacc, hd'⟩ : ∃ d' log', t2Acc s1 0 = ⟨⟨δ, 0, s1.V.a02, s1.V.a10, s1.V.a11,
      s1.V.a12, s1.V.a00, s1.V.a21, s1.V.a22⟩, d', s1.e, log'⟩ ∧ d'.x2 = s2.d.x2 := by
    rw [t2Acc0_form]
    split
    · next h => rw [hδz h]; exact ⟨_, _, rfl, post1.d2⟩
    · next h => rw [← hδne h]; exact ⟨_, _, rfl, post1.d2⟩
  rw [hacc, t2Acc1_form]
  by_cases h2 : s2.d.x2 = 0
  · rw [if_pos (hd'.trans h2)]
    refine assemble P s.V.toM _ _ _ δ hPP hPt hδ hA hT ?_
    rw [hPz h2, Matrix.one_mul, Mat.toM_eq, D3]
    exact mat3_congr rfl rfl rfl post1.v10 rfl rfl rfl rfl rfl
  · rw [if_neg (hd' ▸ h2)]
    refine assemble P s.V.toM _ _ _ δ hPP hPt hδ hA hT ?_
    rw [hPne h2, P3, D3, mul_fin_three, Mat.toM_eq]
    dsimp only [t2Final]
    rw [post1.v10, post1.v02, post1.v12, hd']
    apply mat3_congr <;> ring

theorem scaleMat_symm (A : Mat K) (s : K) (h : A.Symm) : (scaleMat A s).Symm :=
  ⟨congrArg (· / s) h.1, congrArg (· / s) h.2.1, congrArg (· / s) h.2.2⟩

theorem scaleMat_toM (A : Mat K) (s : K) (hs : s ≠ 0) : A.toM = s • (scaleMat A s).toM := by
  rw [Mat.toM_eq, Mat.toM_eq (scaleMat A s), eta_fin_three (s • _)]
  apply mat3_congr <;> exact (mul_div_cancel₀ _ hs).symm

theorem eigenDecomposition_spec {sqrt : K → K} {hyp : K → K → K} (hs : SqrtOK sqrt)
    (hh : HypOK hyp) (eps : K) (heps : 0 ≤ eps) (fuel : Nat) (A : Mat K) (hsym : A.Symm)
    (o : Out K) (h : eigenDecomposition abs sqrt hyp eps fuel A = .ok o) :
    Orthonormal o.V ∧
    A.toM = o.V.toM * Matrix.diagonal o.d.toF * o.V.toMᵀ + absSum A • dropSum o.drops ∧
    o.d 0 ≤ o.d 1 ∧ o.d 1 ≤ o.d 2 := by
  rw [eigenDecomposition_eq] at h
  by_cases hz : absSum A = 0
  · rw [if_pos hz] at h
    injection h with h
    subst h
    have hA := (absSum_eq_zero_iff A).mp hz
    refine ⟨orthonormal_idMat, ?_, le_refl _, le_refl _⟩
    rw [hz, zero_smul, add_zero, hA]
    show _ = (idMat : Mat K).toM * _ * (idMat : Mat K).toMᵀ
    rw [idMat_toM, Matrix.one_mul, Matrix.transpose_one, Matrix.mul_one, Mat.toM_eq,
      diagonal_fin_three]
    rfl
  · rw [if_neg hz] at h
    obtain ⟨t1, -, t3⟩ := tred2_spec hs (St.mk (scaleMat A (absSum A)) (Vec.ofFn (fun _ => (0 : K)))
      (Vec.ofFn (fun _ => (0 : K))) [401]) (scaleMat_symm A _ hsym)
    set st := tred2 abs sqrt (St.mk (scaleMat A (absSum A)) (Vec.ofFn (fun _ => 0))
      (Vec.ofFn (fun _ => 0)) [401])
    cases hq : tql2 abs hyp eps fuel st with
    | error e => rw [hq] at h; exact absurd h (by simp)
    | ok t =>
      rw [hq] at h
      simp only at h
      injection h with h
      subst h
      obtain ⟨q1, q2, q3, q4⟩ := tql2_spec hyp hh eps heps fuel st t t1 hq
      refine ⟨q1, ?_, ?_, ?_⟩
      · rw [scaleMat_toM A (absSum A) hz]
        show _ • (scaleMat A (absSum A)).toM = _
        rw [t3, q2, smul_add]
        congr 1
        have hd : Matrix.diagonal (Vec.mk (t.d.x0 * absSum A) (t.d.x1 * absSum A)
            (t.d.x2 * absSum A)).toF = absSum A • Matrix.diagonal t.d.toF := by
          rw [← Matrix.diagonal_smul]
          congr 1
          funext k
          fin_cases k <;> exact mul_comm _ _
        rw [hd, Matrix.mul_smul, Matrix.smul_mul]
      · show t.d.x0 * absSum A ≤ t.d.x1 * absSum A
        exact mul_le_mul_of_nonneg_right q3 (absSum_nonneg A)
      · show t.d.x1 * absSum A ≤ t.d.x2 * absSum A
        exact mul_le_mul_of_nonneg_right q4 (absSum_nonneg A)

theorem isEigDecomp_of_recon (A V : Mat K) (d : Vec K) (ho : Orthonormal V)
    (h : A.toM = V.toM * Matrix.diagonal d.toF * V.toMᵀ) : IsEigDecomp A V d := by
  unfold IsEigDecomp Orthonormal at *
  rw [h, Matrix.mul_assoc, ho, Matrix.mul_one]

end PysphVerif.Eigen3
