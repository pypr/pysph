import PysphVerif.Lemmas.DumpLoad
/-!
C11, npz reader: `arrays` → `properties[...]['data']`, the len-1 broadcast of
`_initialize` never fires on a dump, `align_particles` moves nothing, constants.
-/
set_option linter.unusedSectionVars false
namespace PysphVerif.DumpLoad

variable {V : Type} [PVal V] [DecidableEq V]

/-- `properties[prop]['data'] = data` for every stored array -/
def withData (arrs : List (String × List V)) (q : String × PInfo V) : String × PInfo V :=
  (q.1, { q.2 with data := match dictGet? arrs q.1 with
    | some d => some d
    | none => q.2.data })

theorem putData_fold (arrs : List (String × List V)) (props : List (String × PInfo V))
    (hsub : ∀ e ∈ arrs, ∃ q ∈ props, q.1 = e.1) (hnd : (arrs.map (·.1)).Nodup) :
    arrs.foldlM putDataStep props = .ok (props.map (withData arrs)) := by
  obtain ⟨_, h, rfl⟩ := foldlM_prefix_inv putDataStep
    (fun ps seen => ps = props.map (withData seen)) arrs props
    (List.map_id'' (fun _ => rfl) _).symm fun _ seen e rest he hs => by
      subst he hs
      have hk : e.1 ∉ seen.map (·.1) := not_mem_done (by simpa using hnd)
      obtain ⟨q, hq, hqe⟩ := hsub e (by simp)
      have hany : (props.map (withData seen)).any (fun q => q.1 == e.1) = true :=
        List.any_eq_true.2 ⟨_, List.mem_map_of_mem hq, beq_iff_eq.2 hqe⟩
      refine ⟨_, by simp only [putDataStep, hany]; rfl, ?_⟩
      -- `seen ++ [e]` is `seen` with `seen[e.1] = e.2`, and `e.1` is new
      rw [List.map_map, ← dictSet_fresh _ _ _ hk]
      refine List.map_congr_left fun q _ => ?_
      simp only [Function.comp, withData, dictGet?_dictSet]
      by_cases h : q.1 = e.1 <;> simp [h]
  exact h

theorem withData_propInfo (arrs : List (String × List V)) (p : PropRec V) :
    (withData arrs (propInfo p)).2.data = dictGet? arrs p.name := by
  simp only [withData, propInfo]
  cases dictGet? arrs p.name <;> rfl

/-- the len-1 broadcast of `_initialize` does nothing on stored arrays of `num` rows each, so its
loop serves the request `reqOf arrs p` for each `p` on the cleared array; then `align_particles` runs -/
theorem initializeArr_withData (name : String) (arrs : List (String × List V))
    (ps : List (PropRec V)) (num : Nat) (hne : ps ≠ []) (hok : ∀ p ∈ ps, ReqOK num (reqOf arrs p)) :
    ∃ step : PArr V → PropRec V → Except String (PArr V),
      initializeArr name ((ps.map propInfo).map (withData arrs)) =
        (ps.foldlM step (emptyArr name)).bind alignParticles ∧
      ∀ pa0, ∀ p ∈ ps, step pa0 p = addReq pa0 (reqOf arrs p) := by
  have hnv : ((ps.map propInfo).map (withData arrs)).foldl nvStep 0 ≤ num := by
    refine foldl_le_of_forall nvStep _ num (fun m e he hm => ?_) 0 (Nat.zero_le _)
    obtain ⟨q, hq, rfl⟩ := List.mem_map.1 he
    obtain ⟨p, hp, rfl⟩ := List.mem_map.1 hq
    unfold nvStep
    rw [withData_propInfo]
    cases hd : dictGet? arrs p.name with
    | none => exact hm
    | some d =>
      refine Nat.max_le.2 ⟨hm, Nat.le_of_eq ?_⟩
      rw [show (withData arrs (propInfo p)).2.stride = p.stride from rfl, (hok p hp).len d hd]
      exact Nat.mul_div_cancel _ (hok p hp).stride_pos
  have hlen0 : (((ps.map propInfo).map (withData arrs)).length == 0) = false := by
    simpa using hne
  refine ⟨fun pa0 p => initStep (((ps.map propInfo).map (withData arrs)).foldl nvStep 0) pa0
    (withData arrs (propInfo p)), ?_, fun pa0 p hp => ?_⟩
  · simp only [initializeArr, hlen0, Bool.false_eq_true, if_false, List.foldlM_map]
  simp only [initStep, withData, propInfo, addReq, reqOf]
  cases hd : dictGet? arrs p.name with
  | none => rfl
  | some d => simp only [Option.map_some, bcast_id _ _ p.stride d hnv ((hok p hp).len d hd)]

/-- the arrays entry `NumpyOutput._dump` writes for one array -/
def npzArrOf (pa : PArr V) (arrs : List (String × List V)) : NpzArr V :=
  { info := arrayInfo pa, arrays := some arrs }

theorem loadNpz_spec (pa : PArr V) (hwf : WF pa) (o : Opts) :
    ∃ q, loadNpzArr pa.name (npzArrOf pa (arrsOf o pa)) = .ok q ∧ RoundTrip o pa q ∧
      q.consts = pa.consts ∧
      (∀ t ∈ q.props, t.name = "tag" → q.nReal = countLocal t.data) := by
  obtain ⟨_, hs⟩ := gpa_spec pa hwf o
  generalize arrsOf o pa = arrs at hs
  have hsubk : ∀ e ∈ arrs, ∃ q ∈ pa.props.map propInfo, q.1 = e.1 := by
    intro e he
    obtain ⟨p, hp, hpn, _⟩ := hs.of_get hwf (dictGet?_of_mem arrs hs.keys e he)
    exact ⟨propInfo p, List.mem_map.2 ⟨p, hp, rfl⟩, hpn⟩
  have hput := putData_fold arrs (pa.props.map propInfo) hsubk hs.keys
  have hne : pa.props ≠ [] := by
    obtain ⟨p, hp, _⟩ := hwf.hasBase "tag" (Or.inl rfl)
    exact List.ne_nil_of_mem hp
  obtain ⟨step, hinit, hstep⟩ := initializeArr_withData pa.name arrs pa.props
    (numParticles pa o.onlyReal) hne (reqOK_of_wf pa hwf o arrs hs)
  obtain ⟨pa', nP', h1, hn, hc, hinv, hmeta, hnames⟩ :=
    rebuild pa hwf o arrs hs (fun q => q) step (reqOf arrs) pa.props
      (fun pa0 p hp pa' h => ⟨pa', (hstep pa0 p hp).trans h, rfl⟩) (.refl _)
      (emptyArr pa.name : PArr V) (sinv_clear _)
  -- align_particles: a tag request that carries data carries the stored slice of the source tags
  obtain ⟨k, halign, hk⟩ := hinv.align pa' fun r hr hrn d hrd => by
    obtain ⟨p, _, rfl⟩ := List.mem_map.1 hr
    exact stored_tag_realFirst pa hwf o arrs hs d ((show p.name = "tag" from hrn) ▸ hrd)
  have hconsts : pa.consts.foldlM addConstant ({ pa' with nReal := k } : PArr V) =
      .ok { pa' with nReal := k, consts := pa.consts } := by
    rw [addConstants_ok]
    · simp [hc, emptyArr]
    · simpa [hc, emptyArr] using hwf.constsNodup
    · exact fun c hcm hp' => hwf.constsDisj c hcm ((hnames _).1 hp')
    · exact hwf.constsTy
  refine ⟨{ pa' with nReal := k, consts := pa.consts, outArrs := pa.outArrs },
    ?_, ?_, rfl, ?_⟩
  · simp only [loadNpzArr, npzArrOf, arrayInfo, hput, Except.bind, mkParticleArray, hinit, h1,
      halign, hconsts]
    exact setOutputArrays_ok _ pa.outArrs fun n hn => (hnames n).2 (hwf.outSub n hn)
  · exact { name := hn, outArrs := rfl, consts := List.Perm.refl _, nodup := hinv.nodup,
            same := hmeta, noExtra := fun p' hp' => (hnames _).1 ⟨p', hp', rfl⟩,
            coh := ⟨nP', hinv.np, fun _ hp' => (hinv.coh hp').1⟩ }
  · exact hk

end PysphVerif.DumpLoad
