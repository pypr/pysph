import Mathlib.Analysis.Calculus.Deriv.Mul
import Mathlib.Analysis.Calculus.Deriv.Add
import Mathlib.Data.Rat.Cast.Order
import Mathlib.Tactic.Ring
import Mathlib.Tactic.LinearCombination
import PysphVerif.Model.Poly
/-!
Rational coefficient lists evaluated over ℝ (`evR`), for C08: the formal derivative is the
derivative, `peq` (checked by `decide`) gives equal functions, and the Möbius sign certificate is
sound: all coefficients of the transformed list `≤ 0` ⇒ `p ≤ 0` on the interval.
-/
namespace PysphVerif.Poly

noncomputable def evR (p : List ℚ) (x : ℝ) : ℝ := evalC (fun a : ℚ => (a : ℝ)) p x

@[simp] theorem evR_nil (x : ℝ) : evR [] x = 0 := rfl
@[simp] theorem evR_cons (a : ℚ) (p : List ℚ) (x : ℝ) : evR (a :: p) x = (a : ℝ) + x * evR p x := rfl

theorem evR_add (p q : List ℚ) (x : ℝ) : evR (add p q) x = evR p x + evR q x := by
  induction p generalizing q with
  | nil => simp [add]
  | cons a p ih =>
    cases q with
    | nil => simp [add]
    | cons b q => simp only [add, evR_cons, ih]; push_cast; ring

theorem evR_smul (c : ℚ) (p : List ℚ) (x : ℝ) : evR (smul c p) x = (c : ℝ) * evR p x := by
  induction p with
  | nil => simp [smul]
  | cons a p ih =>
    have : smul c (a :: p) = (c * a) :: smul c p := rfl
    rw [this, evR_cons, evR_cons, ih]; push_cast; ring

theorem evR_mulX (p : List ℚ) (x : ℝ) : evR (mulX p) x = x * evR p x := by
  simp [mulX]

theorem evR_neg (p : List ℚ) (x : ℝ) : evR (neg p) x = - evR p x := by
  rw [show neg p = smul (-1) p from List.map_congr_left fun a _ => (neg_one_mul a).symm, evR_smul,
    Rat.cast_neg, Rat.cast_one, neg_one_mul]

theorem evR_sub (p q : List ℚ) (x : ℝ) : evR (sub p q) x = evR p x - evR q x := by
  simp [sub, evR_add, evR_neg, sub_eq_add_neg]

theorem evR_mulLin (a b : ℚ) (p : List ℚ) (x : ℝ) :
    evR (mulLin a b p) x = ((a : ℝ) + b * x) * evR p x := by
  simp only [mulLin, evR_add, evR_smul, evR_mulX]; ring

theorem evR_powLin (a b : ℚ) (n : ℕ) (x : ℝ) : evR (powLin a b n) x = ((a : ℝ) + b * x) ^ n := by
  induction n with
  | zero => simp [powLin]
  | succ n ih => simp only [powLin, evR_mulLin, ih]; ring

theorem evR_mulXpow (k : ℕ) (p : List ℚ) (x : ℝ) : evR (mulXpow k p) x = x ^ k * evR p x := by
  induction k with
  | zero => simp [mulXpow]
  | succ k ih => simp only [mulXpow, evR_mulX, ih]; ring

theorem hasDerivAt_evR (p : List ℚ) (x : ℝ) : HasDerivAt (evR p) (evR (deriv p) x) x := by
  induction p with
  | nil => exact hasDerivAt_const x (0 : ℝ)
  | cons a p ih =>
    have h := ((hasDerivAt_id x).mul ih).const_add (a : ℝ)
    have e : evR (deriv (a :: p)) x = 1 * evR p x + id x * evR (deriv p) x := by
      simp only [deriv, evR_add, evR_mulX, id]; ring
    rw [e]
    exact h

theorem continuous_evR (p : List ℚ) : Continuous (evR p) :=
  continuous_iff_continuousAt.2 (fun x => (hasDerivAt_evR p x).continuousAt)

theorem evR_eq_zero_of_isZero {p : List ℚ} (h : isZero p = true) (x : ℝ) : evR p x = 0 := by
  induction p with
  | nil => rfl
  | cons a p ih =>
    simp only [isZero, List.all_cons, Bool.and_eq_true, beq_iff_eq] at h
    rw [evR_cons, h.1, ih h.2, Rat.cast_zero, mul_zero, add_zero]

theorem evR_eq_of_peq {p q : List ℚ} (h : peq p q = true) (x : ℝ) : evR p x = evR q x := by
  have := evR_eq_zero_of_isZero h x
  rw [evR_sub] at this
  exact sub_eq_zero.mp this

theorem evR_nonpos_of_allNonpos {p : List ℚ} (h : allNonpos p = true) {s : ℝ} (hs : 0 ≤ s) :
    evR p s ≤ 0 := by
  induction p with
  | nil => simp
  | cons a p ih =>
    simp only [allNonpos, List.all_cons, Bool.and_eq_true, decide_eq_true_eq] at h
    rw [evR_cons]
    exact add_nonpos (Rat.cast_nonpos.2 h.1) (mul_nonpos_of_nonneg_of_nonpos hs (ih h.2))

theorem evR_ratCast (p : List ℚ) (x : ℚ) : evR p (x : ℝ) = ((eval p x : ℚ) : ℝ) := by
  induction p with
  | nil => simp [eval, evalC]
  | cons a p ih =>
    have : eval (a :: p) x = a + x * eval p x := rfl
    rw [this, evR_cons, ih]; push_cast; ring

/-- what `mob` computes: `mob lo hi p` at `s` is `(1 + s)^(deg p) · p((lo + hi·s)/(1 + s))`.  Both
sides carry one more factor `1 + s`, so that the exponent is `p.length` and the empty list needs no
case of its own. -/
theorem mob_identity (lo hi : ℚ) (p : List ℚ) (s : ℝ) (hs : 1 + s ≠ 0) :
    (1 + s) * evR (mob lo hi p) s =
      (1 + s) ^ p.length * evR p (((lo : ℝ) + hi * s) / (1 + s)) := by
  induction p with
  | nil => simp [mob]
  | cons a p ih =>
    have hX : (1 + s) * (((lo : ℝ) + hi * s) / (1 + s)) = (lo : ℝ) + hi * s :=
      mul_div_cancel₀ _ hs
    simp only [mob, evR_add, evR_smul, evR_powLin, evR_mulLin, evR_cons, List.length_cons]
    push_cast
    linear_combination ((lo : ℝ) + hi * s) * ih -
      (1 + s) ^ p.length * evR p (((lo : ℝ) + hi * s) / (1 + s)) * hX

/-- the certificate on one interval: `s ↦ (a + b·s)/(1 + s)` maps `[0, ∞)` onto `[a, b)`, where the
transformed polynomial has no positive coefficient; the end point `b` is checked by evaluation -/
theorem certOne_sound {p : List ℚ} {a b : ℚ} (h : certOne p a b = true) {x : ℝ}
    (hax : (a : ℝ) ≤ x) (hxb : x ≤ (b : ℝ)) : evR p x ≤ 0 := by
  simp only [certOne, Bool.and_eq_true, decide_eq_true_eq] at h
  obtain ⟨⟨hab, hmob⟩, hb⟩ := h
  rcases eq_or_lt_of_le hxb with heq | hlt
  · rw [heq, evR_ratCast]; exact Rat.cast_nonpos.2 hb
  · -- `x = (a + b·s)/(1 + s)` with `s = (x − a)/(b − x) ≥ 0`
    have hbx : 0 < (b : ℝ) - x := sub_pos.2 hlt
    obtain ⟨s, hs⟩ : ∃ s : ℝ, s = (x - a) / (b - x) := ⟨_, rfl⟩
    have hs0 : 0 ≤ s := hs ▸ div_nonneg (sub_nonneg.2 hax) hbx.le
    have h1s : 0 < 1 + s := add_pos_of_pos_of_nonneg one_pos hs0
    have ht : s * ((b : ℝ) - x) = x - a := hs ▸ div_mul_cancel₀ _ hbx.ne'
    have hX : ((a : ℝ) + b * s) / (1 + s) = x := by
      rw [div_eq_iff h1s.ne']; linear_combination ht
    have hid := mob_identity a b p s h1s.ne'
    rw [hX] at hid
    have hle : (1 + s) * evR (mob a b p) s ≤ 0 :=
      mul_nonpos_of_nonneg_of_nonpos h1s.le (evR_nonpos_of_allNonpos hmob hs0)
    rw [hid, ← mul_zero ((1 + s) ^ p.length)] at hle
    exact le_of_mul_le_mul_left hle (pow_pos h1s _)

theorem certCuts_sound {p : List ℚ} : ∀ (l : List ℚ) (a : ℚ), certCuts p (a :: l) = true →
    ∀ x : ℝ, (a : ℝ) ≤ x → x ≤ (lastOr a l : ℝ) → evR p x ≤ 0 := by
  intro l
  induction l with
  | nil => intro a h; simp [certCuts] at h
  | cons b l ih =>
    intro a h x hax hxl
    cases l with
    | nil =>
      simp only [certCuts] at h
      exact certOne_sound h hax (by simpa [lastOr] using hxl)
    | cons c l' =>
      simp only [certCuts, Bool.and_eq_true] at h
      by_cases hxb : x ≤ (b : ℝ)
      · exact certOne_sound h.1 hax hxb
      · rw [not_le] at hxb
        exact ih b h.2 x hxb.le (by simpa [lastOr] using hxl)

end PysphVerif.Poly
