import PysphVerif.Lemmas.Controller
/-!
C18, every variant with the predicate loop in `wait()` and the un-nested `cont()`
(`waitPred ∧ ¬contNested`; `Cfg.fixed` is one): the wake-up of `wait()` cannot be lost.
Invariant `W`: ownership of `plock`, the wait set of `plock`, and the relation
between a waiter and the `pause` / `paused` sets.  `Owned`: what it means for a
lock to be held exactly at the holding program counters, and that a step keeps,
acquires or releases it; `LP` is `plock`'s instance, proved together with `W`.
-/
namespace PysphVerif.Controller

def holdsP : IPc → Bool
  | IPc.pNtfP | IPc.pRelP | IPc.wWaitP | IPc.wRelP | IPc.cNtfP | IPc.cRelP _ => true
  | _ => false

/-- The wait set of `plock` under the predicate loop of `wait()` and the un-nested `cont()`. -/
structure W (s : State) : Prop where
  nodup : s.pWait.Nodup
  /-- `PW s` -/
  waiting : ∀ u ∈ s.pWait, (s.th u).pc = IPc.wBlocked
  /-- `owner` and `sowner` are `LP`'s `fwd` and `sfwd` -/
  owner : ∀ u, holdsP (s.th u).pc = true → s.pOwner = some u
  sowner : (s.spc = SPc.ntaP ∨ s.spc = SPc.relP) → s.pOwner = some 0
  /-- thread 0 is the solver; as an interface thread it has no program and never leaves `idle` -/
  zero : (s.th 0).pc = IPc.idle
  pred : ∀ u, (s.th u).pc = IPc.wWaitP → u ∈ s.pause ∧ u ∉ s.paused
  /-- the predicate of `wait()` stays true for an un-notified waiter, except between the solver's
  `paused.update(pause)` and its `notify_all()`, both under `plock`: the wake-up cannot be lost -/
  kept : ∀ u ∈ s.pWait, u ∈ s.pause ∧ (u ∉ s.paused ∨ s.spc = SPc.ntaP)

theorem w_init (progs : Tid → List Op) : W (init progs) := by
  constructor <;> simp [init, holdsP]

theorem W.transfer {s s' : State} (h : W s) (t : Tid) (ht : t ≠ 0)
    (e1 : s'.pOwner = s.pOwner) (e2 : s'.pWait = s.pWait) (e3 : s'.pause = s.pause)
    (e4 : s'.paused = s.paused)
    (e5 : s'.spc = s.spc ∨ (s.spc = SPc.blocked ∧ s'.spc = SPc.reacqQ))
    (e6 : ∀ u, u ≠ t → (s'.th u).pc = (s.th u).pc)
    (hnew : holdsP (s'.th t).pc = false ∧ (s'.th t).pc ≠ IPc.wWaitP ∧ (s'.th t).pc ≠ IPc.wBlocked)
    (hold : (s.th t).pc ≠ IPc.wBlocked) : W s' := by
  have htw : t ∉ s.pWait := fun hm => hold (h.waiting t hm)
  constructor
  · rw [e2]; exact h.nodup
  · intro u hu; rw [e2] at hu
    have : u ≠ t := fun e => htw (e ▸ hu)
    rw [e6 u this]; exact h.waiting u hu
  · intro u hu
    by_cases hut : u = t
    · subst hut; rw [hnew.1] at hu; cases hu
    · rw [e6 u hut] at hu; rw [e1]; exact h.owner u hu
  · intro hs; rw [e1]; apply h.sowner
    rcases e5 with e | ⟨_, e⟩
    · rw [← e]; exact hs
    · rw [e] at hs; rcases hs with hs | hs <;> cases hs
  · rw [e6 0 (Ne.symm ht)]; exact h.zero
  · intro u hu
    by_cases hut : u = t
    · subst hut; exact absurd hu hnew.2.1
    · rw [e6 u hut] at hu; rw [e3, e4]; exact h.pred u hu
  · intro u hu; rw [e2] at hu; rw [e3, e4]
    obtain ⟨h1, h2⟩ := h.kept u hu
    refine ⟨h1, ?_⟩
    rcases h2 with h2 | h2
    · exact Or.inl h2
    · right
      rcases e5 with e | ⟨e, _⟩
      · rw [e]; exact h2
      · rw [e] at h2; cases h2

/-- the lock with owner field `o` is held exactly by the interface threads `u` with `hI u` and, if
`hS`, by the solver (thread 0) -/
structure Owned (o : Option Tid) (hI : Tid → Prop) (hS : Prop) : Prop where
  fwd : ∀ u, hI u → o = some u
  sfwd : hS → o = some 0
  bwd : ∀ v, o = some v → (v = 0 ∧ hS) ∨ hI v

namespace Owned
variable {o o' : Option Tid} {hI hI' : Tid → Prop} {hS hS' : Prop}

theorem keep (h : Owned o hI hS) (eo : o' = o) (eI : ∀ u, hI' u ↔ hI u) (eS : hS' ↔ hS) :
    Owned o' hI' hS' :=
  ⟨fun u hu => eo ▸ h.fwd u ((eI u).mp hu), fun hs => eo ▸ h.sfwd (eS.mp hs),
   fun v hv => (h.bwd v (eo ▸ hv)).imp (fun a => ⟨a.1, eS.mpr a.2⟩) (eI v).mpr⟩

theorem acquire (h : Owned o hI hS) (hfree : o = none) {t : Tid} (ht : hI' t)
    (hoth : ∀ u, u ≠ t → hI' u → hI u) (eS : hS' → hS) : Owned (some t) hI' hS' := by
  refine ⟨fun u hu => ?_, fun hs => ?_, fun v hv => ?_⟩
  · by_cases hut : u = t
    · rw [hut]
    · have := h.fwd u (hoth u hut hu); rw [hfree] at this; cases this
  · have := h.sfwd (eS hs); rw [hfree] at this; cases this
  · cases hv; exact Or.inr ht

theorem release (h : Owned o hI hS) {t : Tid} (ht0 : t ≠ 0) (hold : hI t) (hnew : ¬ hI' t)
    (hoth : ∀ u, u ≠ t → hI' u → hI u) (eS : hS' → hS) : Owned none hI' hS' := by
  have ho := h.fwd t hold
  refine ⟨fun u hu => ?_, fun hs => ?_, nofun⟩
  · have hut : u ≠ t := fun e => hnew (e ▸ hu)
    have := h.fwd u (hoth u hut hu); rw [ho] at this; cases this; exact absurd rfl hut
  · have := h.sfwd (eS hs); rw [ho] at this; cases this; exact absurd rfl ht0

theorem sacquire (h : Owned o hI hS) (hfree : o = none) (hs : hS') (eI : ∀ u, hI' u → hI u) :
    Owned (some 0) hI' hS' := by
  refine ⟨fun u hu => ?_, fun _ => rfl, fun v hv => ?_⟩
  · have := h.fwd u (eI u hu); rw [hfree] at this; cases this
  · cases hv; exact Or.inl ⟨rfl, hs⟩

/-- `hz`: thread 0 is not an interface thread -/
theorem srelease (h : Owned o hI hS) (hold : hS) (hnew : ¬ hS') (eI : ∀ u, hI' u → hI u)
    (hz : ¬ hI 0) : Owned none hI' hS' := by
  have ho := h.sfwd hold
  refine ⟨fun u hu => ?_, fun hs => absurd hs hnew, nofun⟩
  have := h.fwd u (eI u hu); rw [ho] at this; cases this; exact absurd (eI 0 hu) hz

end Owned

/-- `Owned` with the holders read off the program counters by classifiers, the form that
`Edge.classify` and `spc_class` carry across a step in which another thread is woken -/
abbrev OwnedAt (c : IPc → Bool) (cS : SPc → Prop) (o : Option Tid) (s : State) : Prop :=
  Owned o (fun u => c (s.th u).pc = true) (cS s.spc)

theorem ownedAt_init {c : IPc → Bool} {cS : SPc → Prop} (progs : Tid → List Op)
    (hc : c IPc.idle = false) (hs : ¬ cS SPc.start) : OwnedAt c cS none (init progs) :=
  ⟨fun _ hu => absurd (hc.symm.trans hu) Bool.false_ne_true, fun h => absurd h hs, nofun⟩

/-- a step of interface thread `t` keeps, acquires or releases such a lock -/
theorem Owned.iface (c : IPc → Bool) (cS : SPc → Prop) {cfg : Cfg} {s D : State} {t : Tid}
    {old new : IPc} {o o' : Option Tid} (h : OwnedAt c cS o s)
    (hpc : (s.th t).pc = old) (he : Edge cfg s t old new D) (hw : PW s) (hq : QW s)
    (ht : t ≠ 0) (hwake : c IPc.wReacqP = c IPc.wBlocked) (hre : cS SPc.reacqQ = cS SPc.blocked) :
    (o' = o → c new = c old → OwnedAt c cS o' (setPc D t new)) ∧
    (o = none → c new = true → OwnedAt c cS (some t) (setPc D t new)) ∧
    (c old = true → c new ≠ true → OwnedAt c cS none (setPc D t new)) := by
  have hs : IfaceStep cfg s t _ := ⟨hpc, he⟩
  have hn : ((setPc D t new).th t).pc = new := setPc_th_same ..
  have oth : ∀ u, u ≠ t → c ((setPc D t new).th u).pc = true → c (s.th u).pc = true :=
    fun u hu h => hs.classify_others c hw hwake u hu ▸ h
  have hS := hs.spc_class cS hq hre
  exact ⟨fun eo hc => h.keep eo (fun u => by rw [Edge.classify c hpc he hw hwake hc u]) (by rw [hS]),
    fun hfree hc => h.acquire hfree (by rw [hn]; exact hc) oth fun h => hS ▸ h,
    fun ho hc => h.release ht (by rw [hpc]; exact ho) (by rw [hn]; exact hc) oth fun h => hS ▸ h⟩

theorem Owned.solver (c : IPc → Bool) (cS : SPc → Prop) {cfg : Cfg} {s s' : State}
    {o o' : Option Tid} (h : OwnedAt c cS o s)
    (hs : SolverStep cfg s s') (hw : PW s)
    (hwake : c IPc.wReacqP = c IPc.wBlocked) (hz : c (s.th 0).pc ≠ true) :
    (o' = o → (cS s'.spc ↔ cS s.spc) → OwnedAt c cS o' s') ∧
    (o = none → cS s'.spc → OwnedAt c cS (some 0) s') ∧
    (cS s.spc → ¬ cS s'.spc → OwnedAt c cS none s') := by
  have eI : ∀ u, c (s'.th u).pc = true ↔ c (s.th u).pc = true :=
    fun u => by rw [hs.classify c hw hwake u]
  exact ⟨fun eo eS => h.keep eo eI eS, fun hfree hn => h.sacquire hfree hn fun u => (eI u).mp,
    fun hold hn => h.srelease hold hn (fun u => (eI u).mp) hz⟩

theorem Owned.free_or_solver {o : Option Tid} {hI : Tid → Prop} {hS : Prop} (h : Owned o hI hS)
    (hn : ∀ v, ¬ hI v) : o = none ∨ (o = some 0 ∧ hS) := by
  cases ho : o with
  | none => exact Or.inl rfl
  | some v =>
    rcases h.bwd v ho with ⟨rfl, hs⟩ | hh
    · exact Or.inr ⟨rfl, hs⟩
    · exact absurd hh (hn v)

abbrev LP (s : State) : Prop :=
  OwnedAt holdsP (fun pc => pc = SPc.ntaP ∨ pc = SPc.relP) s.pOwner s

theorem entry_notP {pc : IPc} (h : isEntry pc = true) : holdsP pc = false ∧ pc ≠ IPc.wWaitP := by
  cases pc <;> simp [isEntry, holdsP] at h ⊢

theorem lp_stepIface {cfg : Cfg} {s s' : State} {t : Tid} (hn : cfg.contNested = false) (h : LP s)
    (hw : PW s) (hq : QW s) (ht : t ≠ 0) (hs : IfaceStep cfg s t s') : LP s' := by
  obtain ⟨hpc, he⟩ := hs
  obtain ⟨keep, acquire, release⟩ := Owned.iface holdsP (fun pc => pc = SPc.ntaP ∨ pc = SPc.relP)
    (o' := (setPc _ t _).pOwner) h hpc he hw hq ht rfl (by simp)
  cases he with
  | start => exact keep rfl (entry_notP (firstPc_entry ..)).1
  | cRelP_orig h | cNtfP_wake_orig _ h | cNtfP_orig _ h | cRelQ_orig h => rw [hn] at h; cases h
  | pAcqP hfree | wAcqP_wait hfree | wAcqP_pass hfree | wAcqP_orig hfree | wReacqP_wait hfree
  | wReacqP_pass hfree | wReacqP_orig hfree | cAcqP hfree | cAcqP_err hfree =>
    exact acquire hfree rfl
  | pRelP | wWaitP | wRelP | cRelP_err | cRelP => exact release rfl nofun
  | _ => exact keep rfl rfl

theorem Next.notP {cfg : Cfg} {s : State} {k : Entry} {pc : SPc} {q : List Nat}
    (h : Next cfg s k pc q) : pc ≠ SPc.ntaP ∧ pc ≠ SPc.relP := by
  induction h with
  | recheck _ _ _ ih => exact ih
  | _ => exact ⟨nofun, nofun⟩

theorem lp_stepSolver {cfg : Cfg} {s s' : State} (h : LP s)
    (hw : PW s) (hz : (s.th 0).pc = IPc.idle)
    (hs : SolverStep cfg s s') : LP s' := by
  obtain ⟨keep, acquire, release⟩ := Owned.solver holdsP (fun pc => pc = SPc.ntaP ∨ pc = SPc.relP)
    (o' := s'.pOwner) h hs hw rfl (by rw [hz]; nofun)
  cases hs with
  | acqP _ hfree => exact acquire hfree (Or.inl rfl)
  | ntaP hspc => exact keep rfl ⟨fun _ => Or.inl hspc, fun _ => Or.inr rfl⟩
  | relP hspc _ ho => exact release (Or.inr hspc) (not_or.mpr ho.notP)
  | relP_orig hspc => exact release (Or.inr hspc) nofun
  | acqQ1 hspc _ ho | runRelRes hspc ho | reacqQ_orig hspc _ _ ho | acqQ2 hspc _ ho
  | reacqQ hspc _ _ ho =>
    exact keep rfl (iff_of_false (not_or.mpr ho.notP) (by rw [hspc]; nofun))
  | _ => exact keep rfl (iff_of_false nofun (by rw [‹s.spc = _›]; nofun))

/-- who owns `plock` afterwards is read off `LP` of the new state -/
theorem W.frame {cfg : Cfg} {s D : State} {t : Tid} {old new : IPc} (h : W s)
    (hl : LP (setPc D t new)) (hq : QW s) (ht : t ≠ 0)
    (hpc : (s.th t).pc = old) (he : Edge cfg s t old new D) (n2 : D.pWait.Nodup)
    (e2 : ∀ u ∈ D.pWait, u ∈ s.pWait ∨ u = t ∧ new = IPc.wBlocked ∧ t ∈ D.pause ∧ t ∉ D.paused)
    (e3 : ∀ u ∈ s.pause, u ≠ t → u ∈ D.pause) (e4 : ∀ u ∈ D.paused, u ∈ s.paused)
    (hnew : new = IPc.wWaitP → t ∈ D.pause ∧ t ∉ D.paused) : W (setPc D t new) := by
  have hs : IfaceStep cfg s t _ := ⟨hpc, he⟩
  have hn : ((setPc D t new).th t).pc = new := setPc_th_same ..
  have htw : ∀ u ∈ s.pWait, u ≠ t := fun u hu e => hs.awake.1 (e ▸ h.waiting u hu)
  have hcl := fun c => hs.classify_others (α := Prop) c h.waiting
  refine ⟨n2, fun u hu => ?_, hl.fwd, hl.sfwd, hcl (· = IPc.idle) (by simp) 0 (Ne.symm ht) ▸ h.zero,
    fun u hu => ?_, fun u hu => ?_⟩
  · rcases e2 u hu with hm | ⟨rfl, e, _⟩
    · -- only the head of the wait set is woken, and it leaves the set
      rw [(hs.others (htw u hm)).resolve_right fun ⟨e, _⟩ =>
        (List.nodup_cons.mp (e ▸ h.nodup)).1 hu]
      exact h.waiting u hm
    · exact hn.trans e
  · by_cases hut : u = t
    · subst hut; exact hnew (hn.symm.trans hu)
    · have hp := h.pred u (hcl (· = IPc.wWaitP) (by simp) u hut ▸ hu)
      exact ⟨e3 u hp.1 hut, fun hm => hp.2 (e4 u hm)⟩
  · rcases e2 u hu with hm | ⟨rfl, _, e⟩
    · refine ⟨e3 u (h.kept u hm).1 (htw u hm), (h.kept u hm).2.imp (fun k hm => k (e4 u hm)) ?_⟩
      rw [hs.spc_class (· = SPc.ntaP) hq (by simp)]; exact id
    · exact ⟨e.1, Or.inl e.2⟩

theorem w_stepIface {cfg : Cfg} {s s' : State} {t : Tid}
    (hw : cfg.waitPred = true) (hn : cfg.contNested = false) (h : W s) (hl : LP s) (hq : QW s)
    (ht : t ≠ 0) (hs : IfaceStep cfg s t s') : W s' ∧ LP s' := by
  have hl' := lp_stepIface hn hl h.waiting hq ht hs
  refine ⟨?_, hl'⟩
  obtain ⟨hpc, he⟩ := hs
  have frame := h.frame hl' hq ht hpc he
  cases he with
  | start =>
    exact frame h.nodup (fun _ h => Or.inl h) (fun _ h _ => h) (fun _ h => h)
      fun e => absurd e (entry_notP (firstPc_entry ..)).2
  | wAcqP_orig _ h => rw [hw] at h; cases h
  | cNtfP_wake_orig _ h => rw [hn] at h; cases h
  | pAcqP =>
    exact frame h.nodup (fun _ h => Or.inl h) (fun _ h _ => mem_addSet.mpr (Or.inl h))
      (fun _ h => h) nofun
  | cAcqP =>
    exact frame h.nodup (fun _ h => Or.inl h) (fun _ h hu => List.mem_filter.mpr ⟨h, decide_eq_true hu⟩)
      (fun _ h => (List.mem_filter.mp h).1) nofun
  | wAcqP_wait _ _ hm | wReacqP_wait _ _ hm =>
    exact frame h.nodup (fun _ h => Or.inl h) (fun _ h _ => h) (fun _ h => h)
      fun _ => mustWait_iff.mp hm
  | wWaitP =>
    -- `t` was at `wWaitP`, so it is not yet in the wait set and the predicate held
    refine frame ((List.perm_append_singleton _ _).nodup_iff.mpr
        (List.nodup_cons.mpr ⟨fun hm => ?_, h.nodup⟩))
      (fun u hu => (List.mem_append.mp hu).imp id fun hu =>
        ⟨List.mem_singleton.mp hu, rfl, h.pred t hpc⟩)
      (fun _ h _ => h) (fun _ h => h) nofun
    have := h.waiting _ hm
    rw [hpc] at this; cases this
  | pNtfP_wake hw | cNtfP_wake hw _ =>
    exact frame (List.nodup_cons.mp (hw ▸ h.nodup)).2 (fun u hu => Or.inl (hw ▸ List.mem_cons_of_mem _ hu))
      (fun _ h _ => h) (fun _ h => h) nofun
  | _ => exact frame h.nodup (fun _ h => Or.inl h) (fun _ h _ => h) (fun _ h => h) nofun

theorem W.sframe {s s' : State} (h : W s) (hl : LP s') (e2 : s'.pWait = s.pWait)
    (e3 : s'.pause = s.pause) (e4 : s'.paused = s.paused) (e5 : s'.th = s.th)
    (hspc : s.spc ≠ SPc.ntaP) : W s' := by
  refine ⟨e2 ▸ h.nodup, ?_, hl.fwd, hl.sfwd, e5 ▸ h.zero, ?_, fun u hu => ?_⟩
  · rw [e2, e5]; exact h.waiting
  · rw [e3, e4, e5]; exact h.pred
  · rw [e2] at hu; rw [e3, e4]
    exact ⟨(h.kept u hu).1, Or.inl ((h.kept u hu).2.resolve_right hspc)⟩

theorem w_stepSolver {cfg : Cfg} {s s' : State} (h : W s) (hl : LP s)
    (hs : SolverStep cfg s s') : W s' ∧ LP s' := by
  have hl' := lp_stepSolver hl h.waiting h.zero hs
  refine ⟨?_, hl'⟩
  have hcl := fun c => hs.classify (α := Prop) c h.waiting
  cases hs with
  | acqP _ hfree =>
    -- `plock` is free, so no thread is at `wWaitP` (it would hold `plock`)
    refine ⟨h.nodup, h.waiting, hl'.fwd, hl'.sfwd, h.zero, fun u hu => ?_,
      fun u hu => ⟨(h.kept u hu).1, Or.inr rfl⟩⟩
    have := hl.fwd u (by rw [hu]; rfl)
    rw [hfree] at this; cases this
  | ntaP =>
    -- every waiter is woken and leaves the wait set
    exact ⟨List.nodup_nil, nofun, hl'.fwd, hl'.sfwd, hcl (· = IPc.idle) (by simp) 0 ▸ h.zero,
      fun u hu => h.pred u (hcl (· = IPc.wWaitP) (by simp) u ▸ hu), nofun⟩
  | _ => exact h.sframe hl' rfl rfl rfl rfl (by rw [‹s.spc = _›]; nofun)

theorem reachable_wl {cfg : Cfg} {progs : Tid → List Op} {s : State}
    (hw : cfg.waitPred = true) (hn : cfg.contNested = false)
    (hr : Reachable cfg progs s) : W s ∧ LP s :=
  hr.induct ⟨w_init progs, ownedAt_init progs rfl nofun⟩ (fun _ _ ih hs => w_stepSolver ih.1 ih.2 hs)
    fun hr _ ih ht hs => w_stepIface hw hn ih.1 ih.2 (reachable_inv hr).2 ht hs

theorem reachable_w {cfg : Cfg} {progs : Tid → List Op} {s : State}
    (hw : cfg.waitPred = true) (hn : cfg.contNested = false)
    (hr : Reachable cfg progs s) : W s := (reachable_wl hw hn hr).1

end PysphVerif.Controller
