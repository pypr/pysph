import Mathlib.Order.Lattice
/-!
The models take `<` and `≤` on their number type as bare instances (so that they run at
`Float`).  In a statement over `[LinearOrder α]` those instances are found through the lattice
classes, after a search of the whole order hierarchy that costs 150–300 K heartbeats per
statement.  `open scoped PysphVerif.OrderChain` makes that chain the first one tried; the
instances found are the same.  (Never add `Preorder.toLT`/`toLE`: that changes what is found
over `ℕ`.)
-/
namespace PysphVerif.OrderChain

attribute [scoped instance 2000] LinearOrder.toDecidableLT LinearOrder.toDecidableLE
  PartialOrder.toPreorder SemilatticeInf.toPartialOrder Lattice.toSemilatticeInf
  DistribLattice.toLattice instDistribLatticeOfLinearOrder

end PysphVerif.OrderChain
