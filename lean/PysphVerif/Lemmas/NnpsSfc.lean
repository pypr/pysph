import PysphVerif.Lemmas.NnpsZOrder
import PysphVerif.Model.NnpsStrat
/-!
C01, StratifiedSFCNNPS (`Model/NnpsStrat.lean`, asymmetric mode).  The segment table holds, for the
(level, finest-level key) of ANY particle of ANY array, the segment of a representative with the
same level and finest-level cell (`sfcTable_fold`), and `_cell_hmax` bounds the smoothing lengths;
hence the query visits levels × boxes × runs (`sfcCands_eq`) and is exact once the masks cover
(`sfcPts_exact`, an instance of `exactNbrs_of_levels`).
-/
namespace PysphVerif.Nnps

open scoped PysphVerif.OrderChain

structure SIn.Ok (B L : Nat) (inp : SIn) : Prop where
  perm : inp.pids.Perm (List.range inp.n)
  sorted : inp.pids.Pairwise (fun p q =>
    sfcFkey B inp.levelOf inp.cellAtL p ≤ sfcFkey B inp.levelOf inp.cellAtL q)
  fits : ∀ j, j < inp.n → ∀ k, k < L → cellFits21 (inp.cellAtL k j) = true
  below : ∀ j, j < inp.n → sfcSkey inp.levelOf inp.cellAtL j < 2 ^ B

/-- `SIn.Ok` carried over to the array `sfcFill` makes of it (`sfcFill_ok`) -/
structure SArr.Ok (B L : Nat) (a : SArr) : Prop where
  perm : a.pids.Perm (List.range a.n)
  sorted : a.pids.Pairwise (fun p q => a.fkey B p ≤ a.fkey B q)
  keysEq : a.keys = a.pids.map (a.fkey B)
  fits : ∀ j, j < a.n → ∀ k, k < L → cellFits21 (a.cellAtL k j) = true
  below : ∀ j, j < a.n → a.skey j < a.maxKey
  maxLe : a.maxKey ≤ 2 ^ B

/-- `max_key = 1 + max` of the stripped keys is above each of them and at most `2^B` -/
theorem sfcFill_ok (B L : Nat) (inp : SIn) (h : inp.Ok B L) : (sfcFill B inp).Ok B L := by
  refine ⟨h.perm, h.sorted, rfl, h.fits, ?_, ?_⟩
  · intro j hj
    have := foldl_ge_of_mem (fun (m i : Nat) => max m (sfcSkey inp.levelOf inp.cellAtL i))
      (fun m i => le_max_left m _) (List.range inp.n) j (List.mem_range.mpr hj) _
      (fun m => le_max_right m _) 0
    show sfcSkey inp.levelOf inp.cellAtL j <
      (List.range inp.n).foldl (fun m i => max m (sfcSkey inp.levelOf inp.cellAtL i)) 0 + 1
    omega
  · show (List.range inp.n).foldl (fun m i => max m (sfcSkey inp.levelOf inp.cellAtL i)) 0 + 1 ≤ 2 ^ B
    have hpos : 0 < 2 ^ B := Nat.two_pow_pos B
    have := foldl_le_of_forall (fun (m i : Nat) => max m (sfcSkey inp.levelOf inp.cellAtL i))
      (List.range inp.n) (2 ^ B - 1)
      (fun m i hi hm => max_le hm (by have := h.below i (List.mem_range.mp hi); omega)) 0
      (Nat.zero_le _)
    omega

theorem SArr.Ok.mem_pids {B L : Nat} {a : SArr} (h : a.Ok B L) (p : Nat) : p ∈ a.pids ↔ p < a.n := by
  rw [h.perm.mem_iff, List.mem_range]

/-- the per-level per-box lookup of `find_nearest_neighbors` -/
def sfcLookup (B : Nat) (a : SArr) (k : Nat) (b : Cell) : List Nat :=
  ((a.getIdx B k (zKey b)).map (sfcRun B a)).getD []

/-- a key the bounds test of `get_idx` rejects is the key of no particle, and below `2^B` level and
key can be read off the full key -/
theorem sfcLookup_eq_filter {B L : Nat} {a : SArr} (h : a.Ok B L) (k : Nat) (b : Cell) :
    sfcLookup B a k b = a.pids.filter (fun p => a.levelOf p = k ∧ a.skey p = zKey b) := by
  have hsk : ∀ p ∈ a.pids, a.skey p < a.maxKey := fun p hp => h.below p ((h.mem_pids p).mp hp)
  have hmax := h.maxLe
  unfold sfcLookup SArr.getIdx
  by_cases hmk : a.maxKey ≤ zKey b
  · rw [if_pos hmk]
    symm
    show List.filter _ a.pids = []
    rw [List.filter_eq_nil_iff]
    intro p hp
    have := hsk p hp
    simp only [decide_eq_true_eq]
    omega
  · have hdec : ∀ p ∈ a.pids, decide (a.levelOf p = k ∧ a.skey p = zKey b) =
        decide (a.fkey B p = k * 2 ^ B + zKey b) := by
      intro p hp
      rw [decide_eq_decide]
      constructor
      · rintro ⟨e1, e2⟩; show a.levelOf p * 2 ^ B + a.skey p = _; rw [e1, e2]
      · exact fkey_decode (2 ^ B) _ _ _ _ (lt_of_lt_of_le (hsk p hp) hmax) (by omega)
    rw [if_neg hmk, List.filter_congr hdec, h.keysEq]
    cases hf : firstIdx (a.pids.map (a.fkey B)) (k * 2 ^ B + zKey b) with
    | none => exact (filter_eq_nil_of_firstIdx (a.fkey B) _ _ hf).symm
    | some s =>
      have htw := (run_of_firstIdx (a.fkey B) _ _ h.sorted hf).1
      have hgd : a.keys.getD s 0 = k * 2 ^ B + zKey b := by
        rw [h.keysEq, List.getD_eq_getElem?_getD, getElem?_firstIdx hf]; rfl
      simp only [Option.map_some, Option.getD_some, sfcRun, hgd]
      exact htw

/-- the exact lookup `exactNbrs_of_levels` asks for -/
theorem sfcLookup_spec (B L : Nat) (a : SArr) (h : a.Ok B L) (k : Nat) (hkL : k < L) (b : Cell)
    (hb : cellFits21 b = true) :
    (sfcLookup B a k b).Nodup ∧
      ∀ j, j ∈ sfcLookup B a k b ↔ j < a.n ∧ a.levelOf j = k ∧ a.cellAtL k j = b := by
  rw [sfcLookup_eq_filter h k b]
  refine spec_of_perm_filter (h.perm.filter _) fun j hj => ?_
  rw [decide_eq_true_iff]
  refine and_congr_right fun hl => ?_
  show zKey (a.cellAtL (a.levelOf j) j) = zKey b ↔ _
  rw [hl]
  exact ⟨zKey_inj _ _ (h.fits j hj k hkL) hb, fun e => congrArg zKey e⟩

/-- first writer wins: the entry of `(lv, kb)` is the segment of SOME writer with that level and
finest-level key -/
theorem sfcTable_fold (seg : SArr × Nat → List Nat) (lv kb : Nat) (ws : List (SArr × Nat))
    (hex : ∃ w ∈ ws, w.1.levelOf w.2 = lv ∧ zKey (w.1.cellAtL 0 w.2) = kb) :
    ∃ w ∈ ws, (w.1.levelOf w.2 = lv ∧ zKey (w.1.cellAtL 0 w.2) = kb) ∧
      (ws.foldl (sfcTabStep seg) (fun _ _ => none)) lv kb = some (seg w) := by
  refine (foldl_slot (sfcTabStep seg) (fun w => w.1.levelOf w.2 = lv ∧ zKey (w.1.cellAtL 0 w.2) = kb)
    (fun t => t lv kb = none)
    (fun t => ∃ w ∈ ws, (w.1.levelOf w.2 = lv ∧ zKey (w.1.cellAtL 0 w.2) = kb) ∧
      t lv kb = some (seg w)) ws _ ?_ ?_).2 rfl hex
  · intro t w _ hw
    have e : sfcTabStep seg t w lv kb = t lv kb := if_neg fun h => hw ⟨h.1.symm, h.2.symm⟩
    exact ⟨fun h => e.trans h, fun ⟨w', h1, h2, h3⟩ => ⟨w', h1, h2, e.trans h3⟩⟩
  · intro t w hwm hw h0
    have hc : lv = w.1.levelOf w.2 ∧ kb = zKey (w.1.cellAtL 0 w.2) := ⟨hw.1.symm, hw.2.symm⟩
    rcases h0 with h0 | ⟨w', h1, h2, h3⟩
    · exact ⟨w, hwm, hw, by unfold sfcTabStep; rw [if_pos hc, h0]⟩
    · exact ⟨w', h1, h2, by unfold sfcTabStep; rw [if_pos hc, h3]⟩

theorem mem_sfcWriters (as : List SArr) (s : Nat) (a : SArr) (ha : a ∈ as) (w : SArr × Nat)
    (hw : w ∈ sfcWriters as s a) : w.1 ∈ as ∧ w.2 ∈ w.1.pids := by
  unfold sfcWriters at hw
  rcases List.mem_append.mp hw with hw | hw
  · obtain ⟨p, hp, rfl⟩ := List.mem_map.mp hw
    exact ⟨ha, hp⟩
  · obtain ⟨d, _, hd⟩ := List.mem_flatMap.mp hw
    cases ho : as[d]? with
    | none => rw [ho] at hd; cases hd
    | some o =>
      rw [ho] at hd
      obtain ⟨p, hp, rfl⟩ := List.mem_map.mp hd
      exact ⟨List.mem_of_getElem? ho, hp⟩

theorem sfcWriters_covers (as : List SArr) (s d : Nat) (a b : SArr) (hs : as[s]? = some a)
    (hd : as[d]? = some b) (i : Nat) (hi : i ∈ b.pids) : (b, i) ∈ sfcWriters as s a := by
  unfold sfcWriters
  by_cases hds : d = s
  · subst hds
    rw [hs] at hd
    cases hd
    exact List.mem_append_left _ (List.mem_map.mpr ⟨i, hi, rfl⟩)
  · have hdl : d < as.length := (List.getElem?_eq_some_iff.mp hd).1
    exact List.mem_append_right _ (List.mem_flatMap.mpr
      ⟨d, List.mem_filter.mpr ⟨List.mem_range.mpr hdl, by simpa using hds⟩,
        by rw [hd]; exact List.mem_map.mpr ⟨i, hi, rfl⟩⟩)

section hmax
variable {α : Type} [LinearOrder α]

theorem sfcCellHmaxArr_ge_init (B : Nat) (a : SArr) (hAt : Nat → α) (l ks : Nat) (m : α) :
    m ≤ sfcCellHmaxArr B a hAt l ks m := by
  unfold sfcCellHmaxArr
  split
  · exact le_refl _
  · exact foldl_ge_init _ (fun m p => fmaxA_ge_left m (hAt p)) _ m

theorem sfcCellHmaxArr_le (B : Nat) (a : SArr) (hAt : Nat → α) (l ks : Nat) (m bound : α)
    (hm : m ≤ bound) (hb : ∀ p ∈ a.pids, hAt p ≤ bound) :
    sfcCellHmaxArr B a hAt l ks m ≤ bound := by
  unfold sfcCellHmaxArr
  split
  · exact hm
  · exact foldl_le_of_forall _ _ bound (fun m p hp hm =>
      fmaxA_le hm (hb p (List.mem_of_mem_drop ((List.takeWhile_sublist _).subset hp)))) m hm

theorem sfcCellHmaxArr_ge_mem (B L : Nat) (a : SArr) (h : a.Ok B L) (hAt : Nat → α) (m : α) (p : Nat)
    (hp : p < a.n) : hAt p ≤ sfcCellHmaxArr B a hAt (a.levelOf p) (a.skey p) m := by
  unfold sfcCellHmaxArr SArr.getIdx
  rw [if_neg (Nat.not_le.mpr (h.below p hp)), h.keysEq]
  exact foldl_fmax_firstIdx_ge (a.fkey B) _ a.pids h.sorted hAt m p ((h.mem_pids p).mpr hp) rfl

theorem sfcCellHmax_ge [OfNat α 0] (B L : Nat) (ah : List (SArr × (Nat → α))) (b : SArr)
    (hok : b.Ok B L) (hb : Nat → α) (hmem : (b, hb) ∈ ah) (i : Nat) (hi : i < b.n) :
    hb i ≤ sfcCellHmax B ah (b.levelOf i) (b.skey i) := by
  unfold sfcCellHmax
  exact foldl_ge_of_mem
    (fun (m : α) (x : SArr × (Nat → α)) => sfcCellHmaxArr B x.1 x.2 (b.levelOf i) (b.skey i) m)
    (fun m x => sfcCellHmaxArr_ge_init B x.1 x.2 (b.levelOf i) (b.skey i) m) ah (b, hb) hmem _
    (fun m => sfcCellHmaxArr_ge_mem B L b hok hb m i hi) 0

theorem sfcCellHmax_le [OfNat α 0] (B : Nat) (ah : List (SArr × (Nat → α))) (l ks : Nat) (bound : α)
    (h0 : 0 ≤ bound) (hb : ∀ x ∈ ah, ∀ p ∈ x.1.pids, x.2 p ≤ bound) :
    sfcCellHmax B ah l ks ≤ bound := by
  unfold sfcCellHmax
  exact foldl_le_of_forall
    (fun (m : α) (x : SArr × (Nat → α)) => sfcCellHmaxArr B x.1 x.2 l ks m) ah bound
    (fun m x hx hm => sfcCellHmaxArr_le B x.1 x.2 l ks m bound hm (hb x hx)) 0 h0

end hmax

section query
variable {α : Type} [Field α] [LinearOrder α]

/-- What `find_nearest_neighbors` of StratifiedSFCNNPS visits, for arrays whose cells at the
coarser levels are a function (`coarse`) of the finest-level cell: the segment the query finds
under (level of `i`, finest-level key of `i`) was made by a representative with the
same cells as `i` at every level, so the walk over it is, level by level, the runs of the boxes
`±⌈hmc/cells k⌉` around `i`'s own cell at level `k` — where `hmc` (`_cell_hmax` of the
representative's cell) is at least `h_i` and at most any common bound of the smoothing lengths. -/
theorem sfcCands_eq (cl : α → Int) (B L : Nat) (cells : Nat → α) (coarse : Nat → Cell → Cell)
    (ins : List SIn) (hs : List (Nat → α)) (s d i : Nat) (src dst : SIn) (hd' : Nat → α)
    (hok : ∀ inp ∈ ins, inp.Ok B L)
    (hnest : ∀ inp ∈ ins, ∀ j, j < inp.n → ∀ k, k < L → inp.cellAtL k j = coarse k (inp.cellAtL 0 j))
    (hcells : ∀ k, k < L → cells k ≠ 0)
    (his : ins[s]? = some src) (hid : ins[d]? = some dst) (hhd : hs[d]? = some hd')
    (hi : i < dst.n) (hlev : dst.levelOf i < L) (hne : src.pids.isEmpty = false)
    (bound : α) (h0 : 0 ≤ bound)
    (hb : ∀ x ∈ (ins.map (sfcFill B)).zip hs, ∀ p ∈ x.1.pids, x.2 p ≤ bound) :
    ∃ hmc, hd' i ≤ hmc ∧ hmc ≤ bound ∧
      sfcCands cl B L cells ins hs s d i = (List.range L).flatMap fun k =>
        (zBoxes (maskZ (cl (hmc / cells k)).toNat) (dst.cellAtL k i)).flatMap
          (sfcLookup B (sfcFill B src) k) := by
  have hL : 0 < L := lt_of_le_of_lt (Nat.zero_le _) hlev
  have e1 : (ins.map (sfcFill B))[s]? = some (sfcFill B src) := by rw [List.getElem?_map, his]; rfl
  have e2 : (ins.map (sfcFill B))[d]? = some (sfcFill B dst) := by rw [List.getElem?_map, hid]; rfl
  have hokAll : ∀ x ∈ ins.map (sfcFill B), x.Ok B L :=
    List.forall_mem_map.mpr fun inp hin => sfcFill_ok B L inp (hok inp hin)
  have hnestAll : ∀ x ∈ ins.map (sfcFill B), ∀ j, j < x.n → ∀ k, k < L →
      x.cellAtL k j = coarse k (x.cellAtL 0 j) := List.forall_mem_map.mpr hnest
  have hokb := hokAll _ (List.mem_of_getElem? e2)
  have hib : i ∈ (sfcFill B dst).pids := (hokb.mem_pids i).mpr hi
  -- the table entry of (level of i, finest key of i) is the segment of a representative `w`
  obtain ⟨w, hwm, ⟨hwl, hwk⟩, htab⟩ := sfcTable_fold
    (sfcWriterSeg cl B L cells ((ins.map (sfcFill B)).zip hs) (sfcFill B src))
    (dst.levelOf i) (zKey (dst.cellAtL 0 i)) (sfcWriters (ins.map (sfcFill B)) s (sfcFill B src))
    ⟨(sfcFill B dst, i), sfcWriters_covers _ s d _ _ e1 e2 i hib, rfl, rfl⟩
  obtain ⟨hw1, hw2⟩ := mem_sfcWriters _ s _ (List.mem_of_getElem? e1) w hwm
  -- which has the cells of `i` at every level: equal finest-level keys are equal cells
  have hwj : w.2 < w.1.n := ((hokAll w.1 hw1).mem_pids w.2).mp hw2
  have hrep : ∀ k, k < L → w.1.cellAtL k w.2 = dst.cellAtL k i := fun k hk => by
    rw [hnestAll w.1 hw1 _ hwj k hk,
      zKey_inj _ _ ((hokAll w.1 hw1).fits w.2 hwj 0 hL) (hokb.fits i hi 0 hL) hwk]
    exact (hnest dst (List.mem_of_getElem? hid) i hi k hk).symm
  have hskey : w.1.skey w.2 = (sfcFill B dst).skey i := by
    show zKey (w.1.cellAtL (w.1.levelOf w.2) w.2) = zKey (dst.cellAtL (dst.levelOf i) i)
    rw [hwl, hrep _ hlev]
  refine ⟨sfcCellHmax B ((ins.map (sfcFill B)).zip hs) (w.1.levelOf w.2) (w.1.skey w.2), ?_,
    sfcCellHmax_le B _ _ _ bound h0 hb, ?_⟩
  · rw [hwl, hskey]
    exact sfcCellHmax_ge B L _ (sfcFill B dst) hokb hd'
      (List.mem_of_getElem? (i := d) (List.getElem?_zip_eq_some.mpr ⟨e2, hhd⟩)) i hi
  · unfold sfcCands
    simp only [e1, e2]
    rw [show (sfcFill B src).pids.isEmpty = false from hne]
    simp only [Bool.false_eq_true, if_false]
    unfold sfcTable
    rw [show (sfcFill B dst).levelOf i = dst.levelOf i from rfl,
      show (sfcFill B dst).cellAtL 0 i = dst.cellAtL 0 i from rfl, htab]
    simp only
    unfold sfcWriterSeg sfcSegment
    rw [List.flatMap_assoc]
    apply List.flatMap_congr
    intro k hk
    have hkL : k < L := List.mem_range.mp hk
    simp only [hcells k hkL, if_false, hrep k hkL]
    exact flatMap_filterMap_eq _ _ _

variable [FloorRing α]

/-- StratifiedSFCNNPS on point clouds, for whatever level function `lev`, cell sizes `size k`
(with `cells k` what `_get_H` divides by) and sorting function.  The segment bookkeeping is
`sfcCands_eq`; what remains is geometry, left as hypotheses: the cells of the levels are nested
(`hnest`), the masks stay inside the guarded range (`hHk`, `hfit`), and the mask of a neighbour's
level covers it (`hcover`, the cover lemma of the class). -/
theorem sfcPts_exact (rs : α) (L B G : Nat) (o : Pt α) (lev : α → Nat) (size cells : Nat → α)
    (coarse : Nat → Cell → Cell) (srt : (Nat → Nat) → Nat → List Nat) (hsrt : C01.SortSpec srt)
    (arrs : List (List (Pt α))) (s d i : Nat) (src dst : List (Pt α)) (q : Pt α)
    (hs : arrs[s]? = some src) (hd : arrs[d]? = some dst) (hq : dst[i]? = some q)
    (hnest : ∀ p : Pt α, ∀ k, k < L →
      cell3 Int.floor (size k) o p = coarse k (cell3 Int.floor (size 0) o p))
    (hcells : ∀ k, k < L → cells k ≠ 0) (bound : α)
    (hpart : ∀ a ∈ arrs, ∀ p ∈ a, 0 ≤ p.h ∧ lev p.h < L ∧ p.h ≤ bound)
    (hHk : ∀ k, k < L → ∀ x : α, x ≤ bound → ⌈x / cells k⌉.toNat ≤ G)
    (hfit : ∀ a ∈ arrs, ∀ p ∈ a, ∀ k, k < L → cellGuard G (cell3 Int.floor (size k) o p) = true)
    (hkey : ∀ a ∈ arrs, ∀ p ∈ a, zKey (cell3 Int.floor (size (lev p.h)) o p) < 2 ^ B)
    (hcover : ∀ p ∈ src, isNbr rs q p = true → ∀ hm : α, q.h ≤ hm →
      ((cell3 Int.floor (size (lev p.h)) o p).1 -
        (cell3 Int.floor (size (lev p.h)) o q).1).natAbs ≤ ⌈hm / cells (lev p.h)⌉.toNat ∧
      ((cell3 Int.floor (size (lev p.h)) o p).2.1 -
        (cell3 Int.floor (size (lev p.h)) o q).2.1).natAbs ≤ ⌈hm / cells (lev p.h)⌉.toNat ∧
      ((cell3 Int.floor (size (lev p.h)) o p).2.2 -
        (cell3 Int.floor (size (lev p.h)) o q).2.2).natAbs ≤ ⌈hm / cells (lev p.h)⌉.toNat) :
    ExactNbrs rs src q (sfcCands Int.ceil B L cells
      (arrs.map (sInOfPtsGen Int.floor size lev o srt B)) (arrs.map (fun a => hAtOf a)) s d i) := by
  have hsm : src ∈ arrs := List.mem_of_getElem? hs
  have hdm : dst ∈ arrs := List.mem_of_getElem? hd
  have hqm : q ∈ dst := List.mem_of_getElem? hq
  have hi : i < dst.length := (List.getElem?_eq_some_iff.mp hq).1
  have hqi : dst[i] = q := Option.some.inj ((List.getElem?_eq_getElem hi).symm.trans hq)
  have hokIn : ∀ arr ∈ arrs, (sInOfPtsGen Int.floor size lev o srt B arr).Ok B L := by
    intro arr harr
    refine ⟨(hsrt _ _).1, (hsrt _ _).2, fun j hj k hk => ?_, fun j hj => ?_⟩
    · exact forall_cellAtOf Int.floor (size k) o arr (cellFits21 · = true)
        (fun p hp => cellGuard_fits G _ (hfit arr harr p hp k hk)) j hj
    · show zKey (cellAtOf Int.floor (size (lev (hAtOf arr j))) o arr j) < 2 ^ B
      rw [hAtOf_of_lt arr hj, cellAtOf_of_lt _ _ _ _ hj]
      exact hkey arr harr _ (List.getElem_mem hj)
  by_cases hne : (sInOfPtsGen Int.floor size lev o srt B src).pids.isEmpty = true
  · have hp := (hokIn src hsm).perm
    rw [List.isEmpty_iff.mp hne] at hp
    exact exactNbrs_of_length_zero rs src q _ (List.range_eq_nil.mp (List.nil_perm.mp hp))
  -- the bookkeeping: the candidates are levels × boxes `±⌈hmc/cells k⌉` around `q`'s cell × runs,
  -- for some `hmc` between `h_q` and `bound`
  obtain ⟨hmc, h1, h2, heq⟩ := sfcCands_eq Int.ceil B L cells coarse
    (arrs.map (sInOfPtsGen Int.floor size lev o srt B)) (arrs.map (fun a => hAtOf a)) s d i
    (sInOfPtsGen Int.floor size lev o srt B src) (sInOfPtsGen Int.floor size lev o srt B dst)
    (hAtOf dst)
    (List.forall_mem_map.mpr hokIn)
    (List.forall_mem_map.mpr fun arr _ j hj k hk => by
      show cellAtOf Int.floor (size k) o arr j = coarse k (cellAtOf Int.floor (size 0) o arr j)
      rw [cellAtOf_of_lt _ _ _ _ hj, cellAtOf_of_lt _ _ _ _ hj]
      exact hnest _ k hk)
    hcells (by rw [List.getElem?_map, hs]; rfl) (by rw [List.getElem?_map, hd]; rfl)
    (by rw [List.getElem?_map, hd]; rfl) hi
    (by show lev (hAtOf dst i) < L
        rw [hAtOf_of_lt dst hi, hqi]; exact (hpart dst hdm q hqm).2.1)
    (by simpa using hne) bound (le_trans (hpart dst hdm q hqm).1 (hpart dst hdm q hqm).2.2)
    (fun x hx p hp => by
      rw [List.map_map, List.zip_map'] at hx
      obtain ⟨arr, harr, rfl⟩ := List.mem_map.mp hx
      have hpl : p < arr.length := ((sfcFill_ok B L _ (hokIn arr harr)).mem_pids p).mp hp
      show hAtOf arr p ≤ bound
      rw [hAtOf_of_lt arr hpl]
      exact (hpart arr harr _ (List.getElem_mem hpl)).2.2)
  rw [heq]
  have hq1 : q.h ≤ hmc := by rwa [hAtOf_of_lt dst hi, hqi] at h1
  have hcq : ∀ k, (sInOfPtsGen Int.floor size lev o srt B dst).cellAtL k i =
      cell3 Int.floor (size k) o q := fun k => by
    show cellAtOf Int.floor (size k) o dst i = _
    rw [cellAtOf_of_lt _ _ _ _ hi, hqi]
  -- levels × boxes with an exact lookup (`sfcLookup_spec`; the boxes stay in the guarded range since
  -- `hmc ≤ bound`), and the mask of a neighbour's level covers it since `h_q ≤ hmc` (`hcover`)
  refine exactNbrs_of_levels rs src q L
    (sInOfPtsGen Int.floor size lev o srt B src).levelOf
    (sInOfPtsGen Int.floor size lev o srt B src).cellAtL _ _
    (fun k => maskBoxes_nodup _ (maskZ_nodup _) _)
    (fun k hk bx hbx => sfcLookup_spec B L _ (sfcFill_ok B L _ (hokIn src hsm)) k hk bx
      (zBoxes_fit _ G (hHk k hk hmc h2) _ (by rw [hcq k]; exact hfit dst hdm q hqm k hk) bx hbx))
    fun j hj hn => ?_
  have hmem : src[j] ∈ src := List.getElem_mem hj
  have hlj : (sInOfPtsGen Int.floor size lev o srt B src).levelOf j = lev src[j].h := by
    show lev (hAtOf src j) = _
    rw [hAtOf_of_lt src hj]
  have hlL := (hpart src hsm _ hmem).2.1
  rw [hlj, hcq]
  refine ⟨hlL, ?_⟩
  show cellAtOf Int.floor (size (lev src[j].h)) o src j ∈ _
  rw [cellAtOf_of_lt _ _ _ _ hj, mem_zBoxes_maskZ]
  exact ⟨cellFits21_nonneg _ (cellGuard_fits G _ (hfit src hsm _ hmem _ hlL)),
    hcover _ hmem hn hmc hq1⟩

end query

theorem ceilLog2Aux_lt {α : Type} [Mul α] [LT α] [DecidableLT α] [OfNat α 1] [OfNat α 2] (r : α) :
    ∀ fuel m0 m', m0 ≤ m' → m' < ceilLog2Aux r fuel m0 → (pow2 m' : α) < r := by
  intro fuel
  induction fuel with
  | zero => intro m0 m' h1 h2; simp only [ceilLog2Aux] at h2; omega
  | succ f ih =>
    intro m0 m' h1 h2
    unfold ceilLog2Aux at h2
    split at h2
    · rename_i h
      by_cases e : m' = m0
      · rw [e]; exact h
      · exact ih (m0 + 1) m' (by omega) h2
    · omega

theorem pow2_eq {α : Type} [Field α] (n : Nat) : (pow2 n : α) = 2 ^ n := by
  induction n with
  | zero => rw [pow2, pow_zero]
  | succ n ih => rw [pow2, ih, pow_succ']

theorem sfcCell_pos {α : Type} [Field α] [LinearOrder α] [IsStrictOrderedRing α] (rs cs : α)
    (L k : Nat) (hrs : 0 < rs) (hcs : 0 < cs) : 0 < sfcCell rs cs L k := by
  unfold sfcCell
  rw [pow2_eq]
  exact div_pos (div_pos hcs hrs) (by positivity)

theorem two_pow_lt_of_lt_ceilLog2 {α : Type} [Field α] [LinearOrder α] (r : α) {m : Nat}
    (h : m < ceilLog2 r) : (2 : α) ^ m < r :=
  pow2_eq (α := α) m ▸ ceilLog2Aux_lt r 64 0 m (Nat.zero_le m) h

end PysphVerif.Nnps
