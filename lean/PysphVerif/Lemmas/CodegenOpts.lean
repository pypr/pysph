import PysphVerif.Model.CodegenOpts
/-! Helper lemmas for C02 §6 (destination loop limits) and §7 (wrapper attribute types). -/
namespace PysphVerif.Codegen

theorem mem_pyRange (a b i : Int) : i ∈ pyRange a b ↔ a ≤ i ∧ i < b := by
  simp only [pyRange, List.mem_map, List.mem_range, Int.lt_toNat]
  constructor
  · rintro ⟨k, hk, rfl⟩
    omega
  · rintro ⟨h1, h2⟩
    obtain ⟨k, hk⟩ := Int.eq_ofNat_of_zero_le (Int.sub_nonneg_of_le h1)
    exact ⟨k, by omega, by omega⟩

theorem pyRange_eq_nil (a b : Int) (h : b ≤ a) : pyRange a b = [] := by
  rw [pyRange, Int.toNat_eq_zero.mpr (Int.sub_nonpos_of_le h)]
  rfl

theorem pyRange_zero (n : Nat) : pyRange 0 (n : Int) = (List.range n).map (fun (k : Nat) => (k : Int)) := by
  unfold pyRange
  simp

theorem pyRange_length (a b : Int) : (pyRange a b).length = (b - a).toNat := by
  unfold pyRange; simp

theorem eval_startExpr (σ : RtEnv) (dest : Name) (start : StartIdx) :
    (startExpr dest start).eval σ = docStart σ dest start := by
  cases start <;> rfl

theorem eval_stopExpr (σ : RtEnv) (dest : Name) (real : Bool) (stop : StopIdx) :
    (stopExpr dest real stop).eval σ = docStop σ dest real stop := by
  cases stop <;> rfl

theorem loopIndices_eq (σ : RtEnv) (dest : Name) (real : Bool) (start : StartIdx) (stop : StopIdx) :
    loopIndices σ dest real start stop =
      pyRange (docStart σ dest start) (docStop σ dest real stop) := by
  rw [loopIndices, eval_startExpr, eval_stopExpr]

theorem widen_rank (t u : PyTag) (a b : Nat) (ht : t.rank = some a) (hu : u.rank = some b) :
    (widen t u).rank = some (max a b) := by
  simp only [widen, ht, hu]
  split
  · rw [hu, Nat.max_eq_right (Nat.le_of_lt ‹_›)]
  · rw [ht, Nat.max_eq_left (Nat.le_of_not_lt ‹_›)]

theorem widen_of_rank_none (t u : PyTag) (hu : u.rank = none) : widen t u = t := by
  unfold widen
  rw [hu]
  cases t.rank <;> rfl

theorem widen_self (t : PyTag) : widen t t = t := by
  unfold widen
  split
  · exact ite_self _
  · rfl

theorem widen_rank_ge_left (t u : PyTag) (a : Nat) (ht : t.rank = some a) :
    ∃ c, (widen t u).rank = some c ∧ a ≤ c := by
  cases hu : u.rank with
  | none => exact ⟨a, by rw [widen_of_rank_none t u hu, ht], Nat.le_refl _⟩
  | some b => exact ⟨_, widen_rank t u a b ht hu, Nat.le_max_left _ _⟩

theorem widen_rank_isSome (t u : PyTag) (ht : t.rank.isSome) : (widen t u).rank.isSome := by
  obtain ⟨a, ha⟩ := Option.isSome_iff_exists.mp ht
  obtain ⟨c, hc, _⟩ := widen_rank_ge_left t u a ha
  rw [hc]
  rfl

theorem widenStep_rank_ge (a : Name) (acc : PyTag) (e : Inst) (n : Nat) (h : acc.rank = some n) :
    ∃ c, (widenStep a acc e).rank = some c ∧ n ≤ c := by
  unfold widenStep
  split
  · exact widen_rank_ge_left _ _ _ h
  · exact ⟨n, h, Nat.le_refl _⟩

/-- what `holds` needs of the declared type -/
theorem mergedTag_rank (l : List Inst) (a : Name) (t : PyTag) (n : Nat) (h : t.rank = some n) :
    ∃ c, (mergedTag l a t).rank = some c ∧ n ≤ c ∧
      ∀ e ∈ l, ∀ u, tagIn e a = some u → ∀ m, u.rank = some m → m ≤ c := by
  unfold mergedTag
  induction l generalizing t n with
  | nil => exact ⟨n, h, Nat.le_refl _, fun _ he => by cases he⟩
  | cons x l ih =>
    obtain ⟨c1, hc1, hle1⟩ := widenStep_rank_ge a t x n h
    obtain ⟨c, hc, hle, hall⟩ := ih (widenStep a t x) c1 hc1
    refine ⟨c, hc, Nat.le_trans hle1 hle, fun e he u hu m hm => ?_⟩
    rcases List.mem_cons.mp he with rfl | he
    · -- the step at `e` itself takes the maximum with `m`
      have : widenStep a t e = widen t u := by unfold widenStep; rw [hu]
      rw [this, widen_rank t u n m h hm] at hc1
      exact Nat.le_trans (Option.some.inj hc1 ▸ Nat.le_max_right n m) hle
    · exact hall e he u hu m hm

theorem holds_of_rank_le (m t : PyTag) (c n : Nat) (hm : m.rank = some c) (ht : t.rank = some n)
    (h : n ≤ c) : holds (detectType m) t = true := by
  cases m <;> simp [PyTag.rank] at hm <;> subst hm <;> cases t <;> simp [PyTag.rank] at ht <;>
    subst ht <;> simp [holds, detectType] at h ⊢

theorem mergedTag_of_uniform (l : List Inst) (a : Name) (t : PyTag)
    (h : ∀ e ∈ l, tagIn e a = some t ∨ tagIn e a = none) : mergedTag l a t = t := by
  refine List.foldlRecOn (motive := (· = t)) l _ rfl fun acc hacc x hx => ?_
  unfold widenStep
  rcases h x hx with h1 | h1 <;> rw [h1, hacc]
  exact widen_self t

theorem lastOf_mem (insts : List Inst) (c : Name) (r : Inst) (h : lastOf insts c = some r) :
    r ∈ instsOf insts c := by
  unfold lastOf at h
  exact List.mem_of_getLast? h

theorem mem_instsOf (insts : List Inst) (c : Name) (e : Inst) :
    e ∈ instsOf insts c ↔ e ∈ insts ∧ e.cls = c := by
  simp only [instsOf, List.mem_filter, beq_iff_eq]

end PysphVerif.Codegen
