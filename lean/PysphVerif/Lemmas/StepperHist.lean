import PysphVerif.Model.StepperHist
import PysphVerif.Lemmas.Stepper
/-!
Helper lemmas for the history part of C04 (`Props/C04.lean`): predicates kept
by every operation of a world are kept by a whole step; the attributes of the
object track the history text; the tracer world with object identities.
-/
namespace PysphVerif.StepperHist
open PysphVerif.Stepper

section
variable {σ τ : Type}

structure Keeps (W : World σ τ) (P : σ → Prop) : Prop where
  hook : ∀ d m t dt s, P s → P (W.hook d m t dt s)
  stepOne : ∀ d m i t dt s, P s → P (W.stepOne d m i t dt s)
  nnpsUpdate : ∀ s, P s → P (W.nnpsUpdate s)
  evalAcc : ∀ i t dt s, P s → P (W.evalAcc i t dt s)
  updateDomain : ∀ s, P s → P (W.updateDomain s)
  callback : ∀ t dt k s, P s → P (W.callback t dt k s)

theorem wrapper_inv (W : World σ τ) (P : σ → Prop) (hk : Keeps W P) (cfg : Cfg) (m : Meth)
    (r : Regs τ) (s : σ) (hs : P s) : P (wrapper W cfg m r s) := by
  unfold wrapper
  refine List.foldlRecOn _ _ hs fun s hs a _ => ?_
  unfold wrapperDest
  have h1 : P (if m ∈ a.sig.hooks then W.hook a.name m r.t r.dt s else s) := by
    split
    · exact hk.hook _ _ _ _ _ hs
    · exact hs
  simp only
  split
  · exact List.foldlRecOn _ _ h1 fun s hs i _ => hk.stepOne _ _ _ _ _ _ hs
  · exact h1

theorem execCmd_inv (A : Arith τ) (W : World σ τ) (P : σ → Prop) (hk : Keeps W P) (cfg : Cfg)
    (t dt : τ) (st : Regs τ × σ) (c : Cmd) (hs : P st.2) : P (execCmd A W cfg t dt st c).2 := by
  rcases c with _ | k | ⟨i, upd⟩ | _ | ⟨e, k⟩
  · exact wrapper_inv W P hk cfg _ _ _ hs
  · exact wrapper_inv W P hk cfg _ _ _ hs
  · simp only [execCmd, computeAccelerations]
    apply hk.evalAcc
    split
    · exact hk.nnpsUpdate _ hs
    · exact hs
  · exact hk.updateDomain _ hs
  · simp only [execCmd]
    split
    · exact hk.callback _ _ _ _ hs
    · exact hs

theorem stepR_inv (A : Arith τ) (W : World σ τ) (P : σ → Prop) (hk : Keeps W P) (cfg : Cfg)
    (prog : Program) (t dt : τ) (st : Regs τ × σ) (hs : P st.2) :
    P (stepR A W cfg prog t dt st).2 := by
  unfold stepR
  exact List.foldlRecOn (motive := fun x : Regs τ × σ => P x.2) prog _ hs
    fun x hx c _ => execCmd_inv A W P hk cfg t dt x c hx

theorem findSome_snoc {α β : Type} (f : α → Option β) (l : List α) (a : α) :
    (l ++ [a]).reverse.findSome? f = match f a with
      | some b => some b
      | none => l.reverse.findSome? f := by
  rw [List.reverse_concat, List.findSome?_cons]
  cases f a <;> rfl

theorem pyAfter_nil (p0 : PyRegs) : pyAfter (τ := τ) p0 [] = p0 := by
  simp [pyAfter, lastNnps, lastCallback, lastFixedH]

theorem pyAfter_snoc (A : Arith τ) (H : HWorld σ τ) (cfg : Cfg) (prog : Program) (p0 : PyRegs)
    {done : List (Op τ)} {st : HSt σ τ} (h : st.py = pyAfter p0 done) (op : Op τ) :
    (applyOp A H cfg prog st op).py = pyAfter p0 (done ++ [op]) := by
  cases op <;>
    simp only [applyOp, h, pyAfter, lastNnps, lastCallback, lastFixedH, findSome_snoc, Op.nnps?,
      Op.callback?, Op.fixedH?, Option.getD_some]

theorem applyOp_world (A : Arith τ) (H : HWorld σ τ) (hH : ∀ p, WorldAligned (H.view p))
    (cfg : Cfg) (prog : Program) (st : HSt σ τ) (op : Op τ) :
    (applyOp A H cfg prog st op).world = denoteOp A H cfg prog st.py op st.world := by
  cases op with
  | step t dt =>
    exact stepR_eq_literalStep A (H.view st.py) (hH st.py) (cfgAt cfg st.py) prog t dt
      (st.regs, st.world)
  | setNnps k => rfl
  | setCallback c => rfl
  | setFixedH b => rfl
  | addParticles d n => rfl

theorem runHist_eq_litHistGo (A : Arith τ) (H : HWorld σ τ) (hH : ∀ p, WorldAligned (H.view p))
    (cfg : Cfg) (prog : Program) (p0 : PyRegs) (rest done : List (Op τ)) (st : HSt σ τ)
    (hpy : st.py = pyAfter p0 done) :
    (runHist A H cfg prog rest st).world = litHistGo A H cfg prog p0 done rest st.world := by
  induction rest generalizing done st with
  | nil => rfl
  | cons op ops ih =>
    rw [runHist, List.foldl_cons, litHistGo, ← hpy, ← applyOp_world A H hH cfg prog st op]
    exact ih _ _ (pyAfter_snoc A H cfg prog p0 hpy op)

/-! `fixed_h` is read by nothing a step executes. -/

def AgreeButFixedH (st st' : HSt σ τ) : Prop :=
  st.py.nnps = st'.py.nnps ∧ st.py.callback = st'.py.callback ∧ st.regs = st'.regs ∧
    st.world = st'.world

theorem applyOp_agree (A : Arith τ) (H : HWorld σ τ) (cfg : Cfg) (prog : Program)
    {st st' : HSt σ τ} (h : AgreeButFixedH st st') (op : Op τ) :
    AgreeButFixedH (applyOp A H cfg prog st op) (applyOp A H cfg prog st' op) := by
  obtain ⟨⟨n, c, f⟩, r, w⟩ := st
  obtain ⟨⟨n', c', f'⟩, r', w'⟩ := st'
  obtain ⟨rfl, rfl, rfl, rfl⟩ := h
  -- `HWorld.view` and `cfgAt` look at `nnps` and `callback` only
  cases op <;> exact ⟨rfl, rfl, rfl, rfl⟩

theorem runHist_agree (A : Arith τ) (H : HWorld σ τ) (cfg : Cfg) (prog : Program)
    (ops : List (Op τ)) {st st' : HSt σ τ} (h : AgreeButFixedH st st') :
    AgreeButFixedH (runHist A H cfg prog ops st)
      (runHist A H cfg prog (ops.filter (fun o => o.fixedH?.isNone)) st') := by
  unfold runHist
  rw [List.foldl_filter]
  refine List.foldl_rel h fun op _ st st' h => ?_
  cases op with
  | setFixedH b => exact h  -- made on the left only, and it writes `fixed_h` only
  | _ => exact applyOp_agree A H cfg prog h _

end

section
variable {τ : Type}

theorem htraceWorld_aligned (grow : String → Meth → Nat) (p : PyRegs) :
    WorldAligned ((htraceWorld (τ := τ) grow).view p) :=
  fun _ _ => aligned_replicate _ _

/-- "since the trace was `base`, only NNPS `k` was refreshed / asked for ghosts
and only callback `c` was called" -/
def OnlyTargets (base : List (HEvent τ)) (k : Nat) (c : Option Nat) (s : HState τ) : Prop :=
  ∃ new, s.events = base ++ new ∧ ∀ e ∈ new,
    (∀ j, e.nnpsTarget? = some j → j = k) ∧ (∀ j, e.callbackTarget? = some j → some j = c)

theorem onlyTargets_emit (base : List (HEvent τ)) (k : Nat) (c : Option Nat) (s : HState τ)
    (e : HEvent τ) (hs : OnlyTargets base k c s)
    (h1 : ∀ j, e.nnpsTarget? = some j → j = k) (h2 : ∀ j, e.callbackTarget? = some j → some j = c) :
    OnlyTargets base k c (s.emit e) := by
  obtain ⟨new, hn, ha⟩ := hs
  exact ⟨new ++ [e], by simp [HState.emit, hn],
    List.forall_mem_append.mpr ⟨ha, List.forall_mem_singleton.mpr ⟨h1, h2⟩⟩⟩

theorem htrace_keeps (grow : String → Meth → Nat) (p : PyRegs) (base : List (HEvent τ)) :
    Keeps ((htraceWorld (τ := τ) grow).view p) (OnlyTargets base p.nnps p.callback) where
  hook := fun d m t dt s hs =>
    -- the sizes the hook changes are not part of the predicate
    onlyTargets_emit base _ _ s (HEvent.hook d m t dt) hs (by intro j h; cases h) (by intro j h; cases h)
  stepOne := fun d m i t dt s hs =>
    onlyTargets_emit base _ _ s _ hs (by intro j h; cases h) (by intro j h; cases h)
  nnpsUpdate := fun s hs =>
    onlyTargets_emit base _ _ s (HEvent.nnps p.nnps) hs (by intro j h; cases h; rfl)
      (by intro j h; cases h)
  evalAcc := fun i t dt s hs =>
    onlyTargets_emit base _ _ s _ hs (by intro j h; cases h) (by intro j h; cases h)
  updateDomain := fun s hs =>
    onlyTargets_emit base _ _ s (HEvent.domain p.nnps) hs (by intro j h; cases h; rfl)
      (by intro j h; cases h)
  callback := by
    intro t dt k s hs
    obtain ⟨nn, cb, fh⟩ := p
    cases cb with
    | none => exact hs
    | some c =>
      exact onlyTargets_emit base _ _ s (HEvent.callback c t dt k) hs
        (by intro j h; cases h) (by intro j h; cases h; rfl)

theorem step_onlyTargets (A : Arith τ) (grow : String → Meth → Nat) (cfg : Cfg) (prog : Program)
    (st : HSt (HState τ) τ) (t dt : τ) :
    OnlyTargets st.world.events st.py.nnps st.py.callback
      (applyOp A (htraceWorld grow) cfg prog st (.step t dt)).world :=
  stepR_inv A ((htraceWorld grow).view st.py) _ (htrace_keeps grow st.py st.world.events)
    (cfgAt cfg st.py) prog t dt (st.regs, st.world)
    ⟨[], by simp, by simp⟩

end
end PysphVerif.StepperHist
