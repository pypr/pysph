import PysphVerif.Model.Controller
/-!
C18: the two step functions of `Model/Controller.lean` as relations, one constructor per outcome of a
primitive, each giving the guard and the successor state in explicit form; for an interface thread
the relation is its control-flow graph (`Edge`), with the program counter before and after as
indices, so that a case analysis leaves literals where an invariant reads them.  Every invariant is
proved preserved by case analysis on these relations: most outcomes do not touch what a given
invariant reads, and those are disposed of by the frame lemma of that invariant (`X.frame` for the
edges of an interface thread, `X.sframe` for solver steps; `PInv.frame` serves both).  The event
list of a step (what the harness compares with the real code) is dropped.

A step of one thread changes another thread in one way only: a `notify` / `notify_all` moves a
waiter from `wBlocked` to `wReacqP` (the solver from `blocked` to `reacqQ`).  The `classify` lemmas
turn this into "a function of the program counter that does not tell the two apart has the same
value before and after", given that only blocked threads sit in the wait sets (`PW`, `QW`).
-/
namespace PysphVerif.Controller

@[simp] theorem setPc_th_same (s : State) (t : Tid) (pc : IPc) :
    ((setPc s t pc).th t).pc = pc := by simp [setPc]

theorem setPc_th_other (s : State) (t j : Tid) (pc : IPc) (h : j ≠ t) :
    (setPc s t pc).th j = s.th j := by simp [setPc, h]

@[simp] theorem setPc_th_prog (s : State) (t j : Tid) (pc : IPc) :
    ((setPc s t pc).th j).prog = (s.th j).prog := by
  simp only [setPc]; split <;> rfl

/-- `setProg`, `addMine` and `firstPc` name the pieces of `startOp` and of the `qRelD` branch of
`stepIface`, so that every successor state of `Edge` has the form `setPc D t new`. -/
def setProg (s : State) (t : Tid) (rest : List Op) : State :=
  { s with th := fun j => if j = t then { s.th j with prog := rest } else s.th j }

def addMine (s : State) (t : Tid) (id : Nat) : State :=
  { s with th := fun j => if j = t then { s.th j with mine := (s.th j).mine ++ [id] } else s.th j }

theorem setProg_th_other (s : State) (t j : Tid) (r : List Op) (h : j ≠ t) :
    (setProg s t r).th j = s.th j := by simp [setProg, h]

theorem addMine_th_other (s : State) (t j : Tid) (id : Nat) (h : j ≠ t) :
    (addMine s t id).th j = s.th j := by simp [addMine, h]

def firstPc (s : State) (t : Tid) : Op → IPc
  | Op.get => IPc.gAcqD
  | Op.setNow v => IPc.sAcqD v
  | Op.queue c => IPc.qAcqD c
  | Op.getResult k => if k ∈ s.lockmap then IPc.rAcqC k else IPc.idle
  | Op.getMine j =>
    match (s.th t).mine[j]? with
    | some k => if k ∈ s.lockmap then IPc.rAcqC k else IPc.idle
    | none => IPc.idle
  | Op.pause => IPc.pAcqP
  | Op.wait => IPc.wAcqP
  | Op.cont => IPc.cAcqP

theorem startOp_fst (s : State) (t : Tid) (op : Op) (rest : List Op) :
    (startOp s t op rest).1 = setPc (setProg s t rest) t (firstPc s t op) := by
  unfold startOp firstPc setProg
  cases op with
  | getResult k => simp only; split <;> rfl
  | getMine j => simp only; cases (s.th t).mine[j]? <;> simp only <;> (try split) <;> rfl
  | _ => rfl

/-- where the solver takes up its loop again: at the head of `run_queued_commands` called in
context `ctx`, or at `while self.pause:` in `wait_for_cmd` -/
inductive Entry
  | run (ctx : Ctx)
  | check

/-- `runQueue` and `checkPause` as a relation: the solver's next program counter and what remains of
the queue -/
inductive NextOf (cfg : Cfg) (qu : List Nat) (qd : List (Nat × Cmd)) (pz : List Tid) :
    Entry → SPc → List Nat → Prop
  | pop {ctx id rest c} : qu = id :: rest → lookupCmd qd id = some c →
      NextOf cfg qu qd pz (.run ctx) (SPc.runAcqRes ctx id c) rest
  | crash {ctx id rest} : qu = id :: rest → lookupCmd qd id = none →
      NextOf cfg qu qd pz (.run ctx) SPc.crashed qu
  | first : qu = [] → NextOf cfg qu qd pz (.run Ctx.first) SPc.relQ1 qu
  | sleep : qu = [] → cfg.runBeforeWait = true → NextOf cfg qu qd pz (.run Ctx.loop) SPc.waitQ qu
  | recheck {pc} : qu = [] → cfg.runBeforeWait = false → NextOf cfg qu qd pz .check pc qu →
      NextOf cfg qu qd pz (.run Ctx.loop) pc qu
  | leave : pz = [] → NextOf cfg qu qd pz .check SPc.relQ2 qu
  | again : pz ≠ [] → NextOf cfg qu qd pz .check SPc.acqP qu

/-- It reads no other field of `s`, so a state that differs from `s` elsewhere has the same `Next`,
by unfolding. -/
abbrev Next (cfg : Cfg) (s : State) : Entry → SPc → List Nat → Prop :=
  NextOf cfg s.queue s.qdict s.pause

theorem checkPause_out (cfg : Cfg) (s : State) :
    ∃ pc, Next cfg s .check pc s.queue ∧ checkPause s = { s with spc := pc } := by
  unfold checkPause
  split
  · exact ⟨_, .leave ‹_›, rfl⟩
  · exact ⟨_, .again ‹_›, rfl⟩

theorem runQueue_out (cfg : Cfg) (ctx : Ctx) (s : State) :
    ∃ pc q, Next cfg s (.run ctx) pc q ∧ runQueue cfg ctx s = { s with queue := q, spc := pc } := by
  unfold runQueue
  split
  · rename_i hq
    unfold afterRun
    cases ctx with
    | first => exact ⟨_, _, .first hq, rfl⟩
    | loop =>
      simp only
      split
      · exact ⟨_, _, .sleep hq ‹_›, rfl⟩
      · obtain ⟨pc, hc, e⟩ := checkPause_out cfg s
        exact ⟨pc, _, .recheck hq (Bool.eq_false_iff.mpr ‹_›) hc, e⟩
  · rename_i id rest hq
    split
    · exact ⟨_, _, .pop hq ‹_›, rfl⟩
    · exact ⟨_, _, .crash hq ‹_›, rfl⟩

inductive SolverStep (cfg : Cfg) (s : State) : State → Prop
  | start : s.spc = SPc.start →
      SolverStep cfg s { s with count := s.count + 1, spc := SPc.acqQ1 }
  | acqQ1 {pc q} : s.spc = SPc.acqQ1 → s.qOwner = none → Next cfg s (.run Ctx.first) pc q →
      SolverStep cfg s { s with qOwner := some 0, queue := q, spc := pc }
  | runAcqRes {ctx id c} : s.spc = SPc.runAcqRes ctx id c → s.resLock = none →
      SolverStep cfg s { s with resLock := some 0,
                                execLog := s.execLog ++ [(id, s.count, cmdVal c s.count)],
                                qdict := s.qdict.filter (fun e => e.1 ≠ id),
                                dt := cmdDt c s.dt,
                                results := s.results ++ [(id, cmdVal c s.count)],
                                spc := SPc.runRelC ctx id }
  | runRelC {ctx id} : s.spc = SPc.runRelC ctx id → id ∈ s.cLocked → id ∈ s.lockmap →
      SolverStep cfg s { s with cLocked := s.cLocked.filter (· ≠ id), spc := SPc.runRelRes ctx }
  | runRelC_crash {ctx id} : s.spc = SPc.runRelC ctx id → ¬ (id ∈ s.cLocked ∧ id ∈ s.lockmap) →
      SolverStep cfg s { s with spc := SPc.crashed }
  | runRelRes {ctx pc q} : s.spc = SPc.runRelRes ctx → Next cfg s (.run ctx) pc q →
      SolverStep cfg s { s with resLock := none, queue := q, spc := pc }
  | relQ1 : s.spc = SPc.relQ1 → SolverStep cfg s { s with qOwner := none, spc := SPc.acqQ2 }
  | acqQ2 {pc q} : s.spc = SPc.acqQ2 → s.qOwner = none → Next cfg s .check pc q →
      SolverStep cfg s { s with qOwner := some 0, queue := q, spc := pc }
  | acqP : s.spc = SPc.acqP → s.pOwner = none →
      SolverStep cfg s { s with pOwner := some 0,
                                paused := if cfg.waitPred then unionSet s.paused s.pause else s.paused,
                                spc := SPc.ntaP }
  | ntaP : s.spc = SPc.ntaP → SolverStep cfg s { wakeAllP s with spc := SPc.relP }
  | relP {pc q} : s.spc = SPc.relP → cfg.runBeforeWait = true → Next cfg s (.run Ctx.loop) pc q →
      SolverStep cfg s { s with pOwner := none, queue := q, spc := pc }
  | relP_orig : s.spc = SPc.relP → cfg.runBeforeWait = false →
      SolverStep cfg s { s with pOwner := none, spc := SPc.waitQ }
  | waitQ : s.spc = SPc.waitQ →
      SolverStep cfg s { s with qWaiting := true, qOwner := none, spc := SPc.blocked }
  | reacqQ {pc q} : s.spc = SPc.reacqQ → s.qOwner = none → cfg.runBeforeWait = true →
      Next cfg s .check pc q → SolverStep cfg s { s with qOwner := some 0, queue := q, spc := pc }
  | reacqQ_orig {pc q} : s.spc = SPc.reacqQ → s.qOwner = none → cfg.runBeforeWait = false →
      Next cfg s (.run Ctx.loop) pc q →
      SolverStep cfg s { s with qOwner := some 0, queue := q, spc := pc }
  | relQ2 : s.spc = SPc.relQ2 → SolverStep cfg s { s with qOwner := none, spc := SPc.start }

/-- One bullet per branch of the `match` in `stepSolver`, in its order; `runQueue_out` and
`checkPause_out` turn the calls of `runQueue` and `checkPause` into `Next`. -/
theorem stepSolver_cases {cfg : Cfg} {s s' : State} {evs : List Ev}
    (hs : stepSolver cfg s = some (s', evs)) : SolverStep cfg s s' := by
  unfold stepSolver at hs
  split at hs <;> rename_i hspc
  · cases hs; exact .start hspc
  · split at hs
    · cases hs
      obtain ⟨pc, q, ho, e⟩ := runQueue_out cfg Ctx.first { s with qOwner := some 0 }
      rw [e]; exact .acqQ1 hspc ‹_› ho
    · cases hs
  · split at hs
    · cases hs; exact .runAcqRes hspc ‹_›
    · cases hs
  · split at hs
    · cases hs; exact .runRelC hspc (‹_ ∧ _›).1 (‹_ ∧ _›).2
    · cases hs; exact .runRelC_crash hspc ‹_›
  · cases hs
    obtain ⟨pc, q, ho, e⟩ := runQueue_out cfg ‹Ctx› { s with resLock := none }
    rw [e]; exact .runRelRes hspc ho
  · cases hs; exact .relQ1 hspc
  · split at hs
    · cases hs
      obtain ⟨pc, ho, e⟩ := checkPause_out cfg { s with qOwner := some 0 }
      rw [e]; exact .acqQ2 hspc ‹_› ho
    · cases hs
  · split at hs
    · cases hs; exact .acqP hspc ‹_›
    · cases hs
  · cases hs; exact .ntaP hspc
  · cases hs
    split
    · obtain ⟨pc, q, ho, e⟩ := runQueue_out cfg Ctx.loop { s with pOwner := none }
      rw [e]; exact .relP hspc ‹_› ho
    · exact .relP_orig hspc (Bool.eq_false_iff.mpr ‹_›)
  · cases hs; exact .waitQ hspc
  · cases hs
  · split at hs
    · cases hs
      split
      · obtain ⟨pc, ho, e⟩ := checkPause_out cfg { s with qOwner := some 0 }
        rw [e]; exact .reacqQ hspc ‹_› ‹_› ho
      · obtain ⟨pc, q, ho, e⟩ := runQueue_out cfg Ctx.loop { s with qOwner := some 0 }
        rw [e]
        exact .reacqQ_orig hspc ‹_› (Bool.eq_false_iff.mpr ‹_›) ho
    · cases hs
  · cases hs; exact .relQ2 hspc
  · cases hs

theorem mustWait_iff {s : State} {t : Tid} : mustWait s t = true ↔ t ∈ s.pause ∧ t ∉ s.paused := by
  simp [mustWait]

/-- What the `classify` lemmas need of the wait set of `plock`, hence a hypothesis of the step lemmas
that use them (`Inv`, `PInv`, `Safe` do without); of a reachable state it is known as `W.waiting`
(`ControllerWait`), under the predicate loop and the un-nested `cont()`. -/
def PW (s : State) : Prop := ∀ u ∈ s.pWait, (s.th u).pc = IPc.wBlocked

/-- holds in every reachable state of every variant (`reachable_inv`) -/
def QW (s : State) : Prop := s.qWaiting = true → s.spc = SPc.blocked

theorem SolverStep.th {cfg : Cfg} {s s' : State} (hs : SolverStep cfg s s') (u : Tid) :
    s'.th u = s.th u ∨ (u ∈ s.pWait ∧ s'.th u = { s.th u with pc := IPc.wReacqP }) := by
  cases hs
  case ntaP =>
    by_cases hu : u ∈ s.pWait
    · exact Or.inr ⟨hu, by simp [wakeAllP, hu]⟩
    · exact Or.inl (by simp [wakeAllP, hu])
  all_goals exact Or.inl rfl

theorem SolverStep.classify {α : Type} (c : IPc → α) {cfg : Cfg} {s s' : State}
    (hs : SolverStep cfg s s') (hw : PW s)
    (hwake : c IPc.wReacqP = c IPc.wBlocked) (u : Tid) : c (s'.th u).pc = c (s.th u).pc := by
  rcases hs.th u with e | ⟨hm, e⟩
  · rw [e]
  · rw [e, hw u hm]; exact hwake

/-- The control-flow graph of an interface thread, one edge per outcome of a primitive:
`Edge cfg s t old new D` takes thread `t` from program counter `old` to `new` and the rest of the state
from `s` to `D`.  The outcomes of `plock.notify()` / `qlock.notify_all()` (a waiter is woken or there
is none) and the protocol variants are separate edges, so that every `D` is an explicit record update
and `old`, `new` are literals in every case (but for `start`). -/
inductive Edge (cfg : Cfg) (s : State) (t : Tid) : IPc → IPc → State → Prop
  | start {op rest} : (s.th t).prog = op :: rest →
      Edge cfg s t IPc.idle (firstPc s t op) (setProg s t rest)
  -- get / blocking set
  | gAcqD : s.dlock = none → Edge cfg s t IPc.gAcqD (IPc.gRelD s.dt) { s with dlock := some t }
  | gRelD {v} : Edge cfg s t (IPc.gRelD v) IPc.idle { s with dlock := none }
  | sAcqD {v} : s.dlock = none →
      Edge cfg s t (IPc.sAcqD v) IPc.sRelD { s with dlock := some t, dt := v }
  | sRelD : Edge cfg s t IPc.sRelD IPc.idle { s with dlock := none }
  -- queued command
  | qAcqD {c} : s.dlock = none →
      Edge cfg s t (IPc.qAcqD c) (IPc.qAcqC c s.nextId)
        { s with dlock := some t, nextId := s.nextId + 1 }
  | qAcqC {c id} :
      Edge cfg s t (IPc.qAcqC c id) (IPc.qAcqQ c id) { s with cLocked := s.cLocked ++ [id] }
  | qAcqQ {c id} : s.qOwner = none → cfg.dispatchNotifies = true →
      Edge cfg s t (IPc.qAcqQ c id) (IPc.qNtaQ id)
        { s with qOwner := some t, lockmap := s.lockmap ++ [id], qdict := s.qdict ++ [(id, c)],
                 queue := s.queue ++ [id], queuedLog := s.queuedLog ++ [id] }
  | qAcqQ_orig {c id} : s.qOwner = none → cfg.dispatchNotifies = false →
      Edge cfg s t (IPc.qAcqQ c id) (IPc.qRelQ id)
        { s with qOwner := some t, lockmap := s.lockmap ++ [id], qdict := s.qdict ++ [(id, c)],
                 queue := s.queue ++ [id], queuedLog := s.queuedLog ++ [id] }
  | qNtaQ_wake {id} : s.qWaiting = true →
      Edge cfg s t (IPc.qNtaQ id) (IPc.qRelQ id) { s with qWaiting := false, spc := SPc.reacqQ }
  | qNtaQ {id} : s.qWaiting = false → Edge cfg s t (IPc.qNtaQ id) (IPc.qRelQ id) s
  | qRelQ {id} : Edge cfg s t (IPc.qRelQ id) (IPc.qRelD id) { s with qOwner := none }
  | qRelD {id} : Edge cfg s t (IPc.qRelD id) IPc.idle (addMine { s with dlock := none } t id)
  -- get_result
  | rAcqC {k} : k ∉ s.cLocked →
      Edge cfg s t (IPc.rAcqC k) (IPc.rAcqRes k) { s with cLocked := s.cLocked ++ [k] }
  | rAcqRes {k v} : s.resLock = none → lookupVal s.results k = some v →
      Edge cfg s t (IPc.rAcqRes k) (IPc.rRelRes k (some v))
        { s with resLock := some t, results := s.results.filter (fun e => e.1 ≠ k),
                 lockmap := s.lockmap.filter (· ≠ k), delivered := s.delivered ++ [(k, v)] }
  | rAcqRes_none {k} : s.resLock = none → lookupVal s.results k = none →
      Edge cfg s t (IPc.rAcqRes k) (IPc.rRelRes k none) { s with resLock := some t }
  | rRelRes {k r} : Edge cfg s t (IPc.rRelRes k r) (IPc.rRelC k r) { s with resLock := none }
  | rRelC {k r} :
      Edge cfg s t (IPc.rRelC k r) IPc.idle { s with cLocked := s.cLocked.filter (· ≠ k) }
  -- pause_on_next
  | pAcqP : s.pOwner = none →
      Edge cfg s t IPc.pAcqP IPc.pNtfP { s with pOwner := some t, pause := addSet s.pause t }
  | pNtfP_wake {w ws} : s.pWait = w :: ws →
      Edge cfg s t IPc.pNtfP IPc.pRelP (setPc { s with pWait := ws } w IPc.wReacqP)
  | pNtfP : s.pWait = [] → Edge cfg s t IPc.pNtfP IPc.pRelP s
  | pRelP : Edge cfg s t IPc.pRelP IPc.idle { s with pOwner := none }
  -- wait
  | wAcqP_wait : s.pOwner = none → cfg.waitPred = true → mustWait s t = true →
      Edge cfg s t IPc.wAcqP IPc.wWaitP { s with pOwner := some t }
  | wAcqP_pass : s.pOwner = none → cfg.waitPred = true → mustWait s t = false →
      Edge cfg s t IPc.wAcqP IPc.wRelP { s with pOwner := some t }
  | wAcqP_orig : s.pOwner = none → cfg.waitPred = false →
      Edge cfg s t IPc.wAcqP IPc.wWaitP { s with pOwner := some t }
  | wWaitP :
      Edge cfg s t IPc.wWaitP IPc.wBlocked { s with pWait := s.pWait ++ [t], pOwner := none }
  | wReacqP_wait : s.pOwner = none → cfg.waitPred = true → mustWait s t = true →
      Edge cfg s t IPc.wReacqP IPc.wWaitP { s with pOwner := some t }
  | wReacqP_pass : s.pOwner = none → cfg.waitPred = true → mustWait s t = false →
      Edge cfg s t IPc.wReacqP IPc.wRelP { s with pOwner := some t }
  | wReacqP_orig : s.pOwner = none → cfg.waitPred = false →
      Edge cfg s t IPc.wReacqP IPc.wRelP { s with pOwner := some t }
  | wRelP : Edge cfg s t IPc.wRelP IPc.idle { s with pOwner := none }
  -- cont
  | cAcqP : s.pOwner = none → t ∈ s.pause →
      Edge cfg s t IPc.cAcqP IPc.cNtfP
        { s with pOwner := some t, pause := s.pause.filter (· ≠ t),
                 paused := s.paused.filter (· ≠ t) }
  | cAcqP_err : s.pOwner = none → t ∉ s.pause →
      Edge cfg s t IPc.cAcqP (IPc.cRelP true) { s with pOwner := some t }
  | cNtfP_wake {w ws} : s.pWait = w :: ws → cfg.contNested = false →
      Edge cfg s t IPc.cNtfP (IPc.cRelP false) (setPc { s with pWait := ws } w IPc.wReacqP)
  | cNtfP : s.pWait = [] → cfg.contNested = false → Edge cfg s t IPc.cNtfP (IPc.cRelP false) s
  | cNtfP_wake_orig {w ws} : s.pWait = w :: ws → cfg.contNested = true →
      Edge cfg s t IPc.cNtfP IPc.cAcqQ (setPc { s with pWait := ws } w IPc.wReacqP)
  | cNtfP_orig : s.pWait = [] → cfg.contNested = true → Edge cfg s t IPc.cNtfP IPc.cAcqQ s
  | cRelP_err : Edge cfg s t (IPc.cRelP true) IPc.idle { s with pOwner := none }
  | cRelP : cfg.contNested = false →
      Edge cfg s t (IPc.cRelP false) IPc.cAcqQ { s with pOwner := none }
  | cRelP_orig : cfg.contNested = true →
      Edge cfg s t (IPc.cRelP false) IPc.idle { s with pOwner := none }
  | cAcqQ : s.qOwner = none → Edge cfg s t IPc.cAcqQ IPc.cNtaQ { s with qOwner := some t }
  | cNtaQ_wake : s.qWaiting = true →
      Edge cfg s t IPc.cNtaQ IPc.cRelQ { s with qWaiting := false, spc := SPc.reacqQ }
  | cNtaQ : s.qWaiting = false → Edge cfg s t IPc.cNtaQ IPc.cRelQ s
  | cRelQ : cfg.contNested = false → Edge cfg s t IPc.cRelQ IPc.idle { s with qOwner := none }
  | cRelQ_orig : cfg.contNested = true →
      Edge cfg s t IPc.cRelQ (IPc.cRelP false) { s with qOwner := none }

inductive IfaceStep (cfg : Cfg) (s : State) (t : Tid) : State → Prop
  | mk {old new D} : (s.th t).pc = old → Edge cfg s t old new D →
      IfaceStep cfg s t (setPc D t new)

theorem qRelD_eq (s : State) (t : Tid) (id : Nat) :
    { s with dlock := none,
             th := fun j => if j = t then { s.th j with pc := IPc.idle,
                                                        mine := (s.th j).mine ++ [id] }
                            else s.th j } =
      setPc (addMine { s with dlock := none } t id) t IPc.idle := by
  simp only [setPc, addMine]; congr 1; funext j
  by_cases h : j = t <;> simp [h]

/-- One bullet per program counter, in the order of the `match` in `stepIface`; `qRelD` is the one
branch whose successor state the model does not write with `setPc` (`qRelD_eq`). -/
theorem stepIface_cases {cfg : Cfg} {s s' : State} {t : Tid} {evs : List Ev}
    (hs : stepIface cfg s t = some (s', evs)) : IfaceStep cfg s t s' := by
  unfold stepIface at hs
  split at hs <;> rename_i hpc
  · split at hs
    · cases hs
    · rename_i op rest hprog
      have e : s' = (startOp s t op rest).1 := by simp only [Option.some.injEq] at hs; rw [hs]
      rw [e, startOp_fst]; exact ⟨hpc, .start hprog⟩
  · split at hs
    · cases hs; exact ⟨hpc, .gAcqD ‹_›⟩
    · cases hs
  · cases hs; exact ⟨hpc, .gRelD⟩
  · split at hs
    · cases hs; exact ⟨hpc, .sAcqD ‹_›⟩
    · cases hs
  · cases hs; exact ⟨hpc, .sRelD⟩
  · split at hs
    · cases hs; exact ⟨hpc, .qAcqD ‹_›⟩
    · cases hs
  · cases hs; exact ⟨hpc, .qAcqC⟩
  · split at hs
    · cases hs
      split
      · exact ⟨hpc, .qAcqQ ‹_› ‹_›⟩
      · exact ⟨hpc, .qAcqQ_orig ‹_› (Bool.eq_false_iff.mpr ‹_›)⟩
    · cases hs
  · cases hq : s.qWaiting <;>
      simp only [wakeQ, hq, if_true, Bool.false_eq_true, if_false] at hs <;> cases hs
    · exact ⟨hpc, .qNtaQ hq⟩
    · exact ⟨hpc, .qNtaQ_wake hq⟩
  · cases hs; exact ⟨hpc, .qRelQ⟩
  · cases hs; rw [qRelD_eq]; exact ⟨hpc, .qRelD⟩
  · split at hs
    · cases hs
    · cases hs; exact ⟨hpc, .rAcqC ‹_›⟩
  · split at hs
    · split at hs <;> cases hs
      · exact ⟨hpc, .rAcqRes ‹_› ‹_›⟩
      · exact ⟨hpc, .rAcqRes_none ‹_› ‹_›⟩
    · cases hs
  · cases hs; exact ⟨hpc, .rRelRes⟩
  · cases hs; exact ⟨hpc, .rRelC⟩
  · split at hs
    · cases hs; exact ⟨hpc, .pAcqP ‹_›⟩
    · cases hs
  · cases hw : s.pWait <;> simp only [wakeOneP, hw] at hs <;> cases hs
    · exact ⟨hpc, .pNtfP hw⟩
    · exact ⟨hpc, .pNtfP_wake hw⟩
  · cases hs; exact ⟨hpc, .pRelP⟩
  · split at hs
    · cases hs
      split
      · split
        · exact ⟨hpc, .wAcqP_wait ‹_› ‹_› ‹_›⟩
        · exact ⟨hpc, .wAcqP_pass ‹_› ‹_› (Bool.eq_false_iff.mpr ‹_›)⟩
      · exact ⟨hpc, .wAcqP_orig ‹_› (Bool.eq_false_iff.mpr ‹_›)⟩
    · cases hs
  · cases hs; exact ⟨hpc, .wWaitP⟩
  · cases hs
  · split at hs
    · cases hs
      split
      · split
        · exact ⟨hpc, .wReacqP_wait ‹_› ‹_› ‹_›⟩
        · exact ⟨hpc, .wReacqP_pass ‹_› ‹_› (Bool.eq_false_iff.mpr ‹_›)⟩
      · exact ⟨hpc, .wReacqP_orig ‹_› (Bool.eq_false_iff.mpr ‹_›)⟩
    · cases hs
  · cases hs; exact ⟨hpc, .wRelP⟩
  · split at hs
    · split at hs <;> cases hs
      · exact ⟨hpc, .cAcqP ‹_› ‹_›⟩
      · exact ⟨hpc, .cAcqP_err ‹_› ‹_›⟩
    · cases hs
  · cases hw : s.pWait <;> simp only [wakeOneP, hw] at hs <;> cases hs <;> split
    · exact ⟨hpc, .cNtfP_orig hw ‹_›⟩
    · exact ⟨hpc, .cNtfP hw (Bool.eq_false_iff.mpr ‹_›)⟩
    · exact ⟨hpc, .cNtfP_wake_orig hw ‹_›⟩
    · exact ⟨hpc, .cNtfP_wake hw (Bool.eq_false_iff.mpr ‹_›)⟩
  · rename_i err
    cases err <;> simp only [Bool.false_eq_true, if_false, if_true] at hs
    · split at hs <;> cases hs
      · exact ⟨hpc, .cRelP_orig ‹_›⟩
      · exact ⟨hpc, .cRelP (Bool.eq_false_iff.mpr ‹_›)⟩
    · cases hs; exact ⟨hpc, .cRelP_err⟩
  · split at hs
    · cases hs; exact ⟨hpc, .cAcqQ ‹_›⟩
    · cases hs
  · cases hq : s.qWaiting <;>
      simp only [wakeQ, hq, if_true, Bool.false_eq_true, if_false] at hs <;> cases hs
    · exact ⟨hpc, .cNtaQ hq⟩
    · exact ⟨hpc, .cNtaQ_wake hq⟩
  · split at hs <;> cases hs
    · exact ⟨hpc, .cRelQ_orig ‹_›⟩
    · exact ⟨hpc, .cRelQ (Bool.eq_false_iff.mpr ‹_›)⟩

theorem IfaceStep.others {cfg : Cfg} {s s' : State} {t : Tid} (hs : IfaceStep cfg s t s')
    {u : Tid} (hu : u ≠ t) :
    s'.th u = s.th u ∨ (s.pWait = u :: s'.pWait ∧ s'.th u = { s.th u with pc := IPc.wReacqP }) := by
  obtain ⟨-, he⟩ := hs
  rw [setPc_th_other _ _ _ _ hu]
  have wake : ∀ {w ws}, s.pWait = w :: ws →
      (setPc { s with pWait := ws } w IPc.wReacqP).th u = s.th u ∨
      (s.pWait = u :: ws ∧ (setPc { s with pWait := ws } w IPc.wReacqP).th u =
        { s.th u with pc := IPc.wReacqP }) := by
    intro w ws hw
    by_cases huw : u = w
    · exact Or.inr ⟨by rw [hw, huw], by simp [setPc, huw]⟩
    · exact Or.inl (setPc_th_other _ _ _ _ huw)
  cases he
  case start => exact Or.inl (setProg_th_other _ _ _ _ hu)
  case qRelD => exact Or.inl (addMine_th_other _ _ _ _ hu)
  case pNtfP_wake h => exact wake h
  case cNtfP_wake h _ => exact wake h
  case cNtfP_wake_orig h _ => exact wake h
  all_goals exact Or.inl rfl

theorem IfaceStep.pc_others {cfg : Cfg} {s s' : State} {t : Tid} (hs : IfaceStep cfg s t s')
    {u : Tid} (hu : u ≠ t) : (s'.th u).pc = (s.th u).pc ∨ (s'.th u).pc = IPc.wReacqP := by
  rcases hs.others hu with e | ⟨_, e⟩
  · exact Or.inl (by rw [e])
  · exact Or.inr (by rw [e])

theorem IfaceStep.classify_others {α : Type} (c : IPc → α) {cfg : Cfg} {s s' : State} {t : Tid}
    (hs : IfaceStep cfg s t s') (hw : PW s)
    (hwake : c IPc.wReacqP = c IPc.wBlocked) (u : Tid) (hu : u ≠ t) :
    c (s'.th u).pc = c (s.th u).pc := by
  rcases hs.others hu with e | ⟨hm, e⟩
  · rw [e]
  · rw [e, hw u (by rw [hm]; exact List.mem_cons_self)]; exact hwake

theorem Edge.classify {α : Type} (c : IPc → α) {cfg : Cfg} {s D : State} {t : Tid} {old new : IPc}
    (hpc : (s.th t).pc = old) (he : Edge cfg s t old new D) (hw : PW s)
    (hwake : c IPc.wReacqP = c IPc.wBlocked) (ht : c new = c old) (u : Tid) :
    c ((setPc D t new).th u).pc = c (s.th u).pc := by
  by_cases hu : u = t
  · rw [hu, setPc_th_same, hpc]; exact ht
  · exact IfaceStep.classify_others c ⟨hpc, he⟩ hw hwake u hu

theorem IfaceStep.spc {cfg : Cfg} {s s' : State} {t : Tid} (hs : IfaceStep cfg s t s') :
    (s'.spc = s.spc ∧ s'.qWaiting = s.qWaiting) ∨
    (s.qWaiting = true ∧ s'.qWaiting = false ∧ s'.spc = SPc.reacqQ) := by
  obtain ⟨-, he⟩ := hs
  cases he
  case qNtaQ_wake h => exact Or.inr ⟨h, rfl, rfl⟩
  case cNtaQ_wake h => exact Or.inr ⟨h, rfl, rfl⟩
  all_goals exact Or.inl ⟨rfl, rfl⟩

theorem IfaceStep.spc_class {α : Type} (c : SPc → α) {cfg : Cfg} {s s' : State} {t : Tid}
    (hs : IfaceStep cfg s t s') (hq : QW s)
    (hc : c SPc.reacqQ = c SPc.blocked) : c s'.spc = c s.spc := by
  rcases hs.spc with ⟨e, _⟩ | ⟨hw, _, e⟩
  · rw [e]
  · rw [e, hq hw]; exact hc

theorem IfaceStep.execLog {cfg : Cfg} {s s' : State} {t : Tid} (hs : IfaceStep cfg s t s') :
    s'.execLog = s.execLog ∧ s'.count = s.count := by
  obtain ⟨-, he⟩ := hs
  cases he <;> exact ⟨rfl, rfl⟩

theorem IfaceStep.awake {cfg : Cfg} {s s' : State} {t : Tid} (hs : IfaceStep cfg s t s') :
    (s.th t).pc ≠ IPc.wBlocked ∧ ((s.th t).pc ≠ IPc.idle ∨ (s.th t).prog ≠ []) := by
  obtain ⟨hpc, he⟩ := hs
  rw [hpc]
  cases he with
  | start hp => exact ⟨nofun, Or.inr (by rw [hp]; nofun)⟩
  | _ => exact ⟨nofun, Or.inl nofun⟩

/-- the program counters `firstPc` can give; `idle` is one of them, for a `get_result` that raises
before its first primitive -/
def isEntry : IPc → Bool
  | IPc.idle | IPc.gAcqD | IPc.sAcqD _ | IPc.qAcqD _ | IPc.rAcqC _ | IPc.pAcqP | IPc.wAcqP
  | IPc.cAcqP => true
  | _ => false

theorem firstPc_entry (s : State) (t : Tid) (op : Op) : isEntry (firstPc s t op) = true := by
  cases op <;> simp only [firstPc] <;> (repeat' split) <;> rfl

end PysphVerif.Controller
