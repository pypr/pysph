import PysphVerif.Lemmas.PairSym
/-!
# C09 — the pair law of every momentum equation

For each translated equation `T`, `law_T` is its pair law, from which the theorems of
`Props/C09.lean` are projections.  The generated loop body is unfolded once, by the `rfl`s of the
first argument of `CentralLaw.of_gradW`, `PairLaw.of_coef`, `PairLaw.of_force`: one step adds to
`(d_au, d_av, d_aw)` a coefficient times `∇W_ab` (times `v_ab`, times a stress row).  What is proved
is that the mass-weighted coefficient is symmetric: the exchange of the two particles is rewritten
away (`pair_swap`), the rest is an identity of the field.
-/
set_option linter.unusedSectionVars false
namespace PysphVerif.C09
open PysphVerif.PairSym PysphVerif.Gen.C09

variable {K : Type} [Field K] [LinearOrder K] [IsStrictOrderedRing K] (o : Ops K) (k : Kern K)

/-! After `pair_swap` the two sides differ in the order of sums and products, which `ring` sees
through, except inside a conditional (an atom for `ring`): there `v_ba·x_ba` is made `v_ab·x_ab`
by `neg_mul_neg` and the mean sound speed by `add_comm`, so that the two conditionals are the same
term. -/

theorem law_WC_MomentumEquation (α β c0 : K) (tc : Bool) :
    CentralLaw k (pair_WC_MomentumEquation o k α β c0 tc) (·.d_au) (·.d_av) (·.d_aw)
      fun _ _ => True :=
  .of_gradW o (fun _ _ _ => ⟨rfl, rfl, rfl⟩) fun hk a b _ => by
    simp only [pair_swap o k a b hk, neg_mul_neg, add_comm b.cs a.cs]
    cases tc <;> simp only [if_true, if_false, Bool.false_eq_true] <;> ring

theorem law_WC_MomentumEquationDeltaSPH (α c0 ρ0 : K) :
    CentralLaw k (pair_WC_MomentumEquationDeltaSPH o k α c0 ρ0) (·.d_au) (·.d_av) (·.d_aw)
      fun _ _ => True :=
  .of_gradW o (fun _ _ _ => ⟨rfl, rfl, rfl⟩) fun hk a b _ => by
    simp only [pair_swap o k a b hk, neg_mul_neg]
    ring

theorem law_BE_MonaghanArtificialViscosity (α β : K) :
    CentralLaw k (pair_BE_MonaghanArtificialViscosity o k α β) (·.d_au) (·.d_av) (·.d_aw)
      fun _ _ => True :=
  .of_gradW o (fun _ _ _ => ⟨rfl, rfl, rfl⟩) fun hk a b _ => by
    simp only [pair_swap o k a b hk, neg_mul_neg, add_comm b.cs a.cs]
    ring

theorem law_TV_MomentumEquationArtificialViscosity (α c0 : K) :
    CentralLaw k (pair_TV_MomentumEquationArtificialViscosity o k α c0) (·.d_au) (·.d_av) (·.d_aw)
      fun _ _ => True :=
  .of_gradW o (fun _ _ _ => ⟨rfl, rfl, rfl⟩) fun hk a b _ => by
    simp only [pair_swap o k a b hk, neg_mul_neg]
    -- the source mass stands inside the conditional
    split_ifs <;> ring

theorem law_VI_MonaghanSignalViscosityFluids (α : K) :
    CentralLaw k (pair_VI_MonaghanSignalViscosityFluids o k α) (·.d_au) (·.d_av) (·.d_aw)
      fun _ _ => True :=
  .of_gradW o (fun _ _ _ => ⟨rfl, rfl, rfl⟩) fun hk a b _ => by
    simp only [pair_swap o k a b hk, neg_mul_neg]
    ring

theorem law_VI_ClearyArtificialViscosity (α factor : K) :
    CentralLaw k (pair_VI_ClearyArtificialViscosity o k α factor) (·.d_au) (·.d_av) (·.d_aw)
      fun _ _ => True :=
  .of_gradW o (fun _ _ _ => ⟨rfl, rfl, rfl⟩) fun hk a b _ => by
    simp only [pair_swap o k a b hk, neg_mul_neg]
    ring

theorem law_VI_LaminarViscosityDeltaSPH (dim ν ρ0 : K) :
    CentralLaw k (pair_VI_LaminarViscosityDeltaSPH o k dim ν ρ0) (·.d_au) (·.d_av) (·.d_aw)
      fun _ _ => True :=
  .of_gradW o (fun _ _ _ => ⟨rfl, rfl, rfl⟩) fun hk a b _ => by
    simp only [pair_swap o k a b hk, neg_mul_neg]
    ring

theorem law_GD_Monaghan92Accelerations (α β : K) :
    CentralLaw k (pair_GD_Monaghan92Accelerations o k α β) (·.d_au) (·.d_av) (·.d_aw)
      fun _ _ => True :=
  .of_gradW o (fun _ _ _ => ⟨rfl, rfl, rfl⟩) fun hk a b _ => by
    simp only [pair_swap o k a b hk, neg_mul_neg, add_comm b.cs a.cs]
    ring

theorem law_GD_ADKEAccelerations (α β g1 g2 : K) :
    CentralLaw k (pair_GD_ADKEAccelerations o k α β g1 g2) (·.d_au) (·.d_av) (·.d_aw)
      fun _ _ => True :=
  .of_gradW o (fun _ _ _ => ⟨rfl, rfl, rfl⟩) fun hk a b _ => by
    simp only [pair_swap o k a b hk, neg_mul_neg, add_comm b.cs a.cs]
    ring

/-- Where the body divides by the destination mass: `c / m_b = c' / m_a` is for these bodies an
identity of the field (nothing is cancelled). -/
theorem symm_of_div {ma mb c c' : K} (h : ma ≠ 0 ∧ mb ≠ 0) (hc : c / mb = c' / ma) :
    ma * c = mb * c' := by
  rw [div_eq_div_iff h.2 h.1] at hc
  linear_combination hc

theorem law_WC_PressureGradientUsingNumberDensity :
    CentralLaw k (pair_WC_PressureGradientUsingNumberDensity o k) (·.d_au) (·.d_av) (·.d_aw)
      fun a b => a.m ≠ 0 ∧ b.m ≠ 0 :=
  .of_gradW o (fun _ _ _ => ⟨rfl, rfl, rfl⟩) fun _ a b h => symm_of_div h (by ring)

theorem law_TV_MomentumEquationPressureGradient (pb : K) :
    CentralLaw k (pair_TV_MomentumEquationPressureGradient o k pb) (·.d_au) (·.d_av) (·.d_aw)
      fun a b => a.m ≠ 0 ∧ b.m ≠ 0 :=
  .of_gradW o (fun _ _ _ => ⟨rfl, rfl, rfl⟩) fun _ a b h => symm_of_div h (by ring)

theorem law_ED_MomentumEquation :
    CentralLaw k (pair_ED_MomentumEquation o k) (·.d_au) (·.d_av) (·.d_aw)
      fun a b => a.m ≠ 0 ∧ b.m ≠ 0 :=
  .of_gradW o (fun _ _ _ => ⟨rfl, rfl, rfl⟩) fun _ a b h => symm_of_div h (by ring)

/-- both pressures are taken relative to the average pressure *of the destination* -/
theorem law_ED_MomentumEquationPressureGradient (pb : K) :
    CentralLaw k (pair_ED_MomentumEquationPressureGradient o k pb) (·.d_au) (·.d_av) (·.d_aw)
      fun a b => a.pavg = b.pavg ∧ a.m ≠ 0 ∧ b.m ≠ 0 :=
  .of_gradW o (fun _ _ _ => ⟨rfl, rfl, rfl⟩) fun _ a b h => symm_of_div h.2 (by rw [h.1]; ring)

theorem law_VI_LaminarViscosity (η ν : K) :
    PairLaw k (pair_VI_LaminarViscosity o k η ν) (·.d_au) (·.d_av) (·.d_aw) fun _ _ => True :=
  .of_coef (fun _ _ _ => ⟨rfl, rfl, rfl⟩)
    (fun hk a b _ => by
      simp only [pair_swap o k a b hk, DWIJ_swap o k a b hk, neg_mul_neg]
      ring)
    fun _ a b => VIJ_swap o k a b

theorem law_TV_MomentumEquationViscosity (ν : K) :
    PairLaw k (pair_TV_MomentumEquationViscosity o k ν) (·.d_au) (·.d_av) (·.d_aw)
      fun a b => a.m ≠ 0 ∧ b.m ≠ 0 :=
  .of_coef (fun _ _ _ => ⟨rfl, rfl, rfl⟩)
    (fun hk a b h => symm_of_div h (by
      simp only [pair_swap o k a b hk, DWIJ_swap o k a b hk, neg_mul_neg]
      ring))
    fun _ a b => VIJ_swap o k a b

/-- `½ (A_a + A_b)·∇W_ab` for the artificial stress `A = ρ v ⊗ (ṽ − v)` changes sign with `∇W_ab` -/
theorem law_TV_MomentumEquationArtificialStress :
    PairLaw k (pair_TV_MomentumEquationArtificialStress o k) (·.d_au) (·.d_av) (·.d_aw)
      fun a b => a.m ≠ 0 ∧ b.m ≠ 0 :=
  .of_coef (fun _ _ _ => ⟨rfl, rfl, rfl⟩) (fun _ a b h => symm_of_div h (by ring))
    fun hk a b => by
      simp only [DWIJ_swap o k a b hk]
      refine ⟨?_, ?_, ?_⟩ <;> ring

theorem law_SM_MomentumEquationWithStress :
    PairLaw k (pair_SM_MomentumEquationWithStress o k) (·.d_au) (·.d_av) (·.d_aw)
      fun a b => a.c_wdeltap = b.c_wdeltap ∧ a.c_n = b.c_n :=
  .of_force (fun _ _ _ => ⟨rfl, rfl, rfl⟩) fun hk a b h => by
    simp only [WIJ_swap o k a b hk, DWIJ_swap o k a b hk, ← h.1, ← h.2]
    split_ifs <;> refine ⟨?_, ?_, ?_⟩ <;> ring

/-- the viscous part of the step is added to the accumulator inside a conditional -/
theorem ite_acc_add (c : Prop) [Decidable c] (x t d y : K) :
    (if c then x + t * d else x) + y = x + ((if c then t else 0) * d + y) := by
  split_ifs <;> ring

/-- The force has a viscous part along `∇W_ab`, active for approaching pairs (`v_ab·x̂_ab ≤ 0`), and
the grad-h pressure part along `∇W_a`, `∇W_b`.  All three gradients change sign and the last two
change places under the exchange; `x̂_ab = x_ab / r_ab` (0 for coincident particles) changes sign,
so `v_ab·x̂_ab` does not, and the source mass stands inside the viscous conditional.  All three
gradients are multiples of `x_ab`, so the force is central. -/
theorem law_GD_MPMAccelerations (β : K) :
    CentralLaw k (pair_GD_MPMAccelerations o k β) (·.d_au) (·.d_av) (·.d_aw) fun _ _ => True :=
  .of_force
    (fun acc a b => by
      simp only [pair_GD_MPMAccelerations, loop_GD_MPMAccelerations, apply_ite Prod.fst,
        apply_ite Prod.snd, Nat.cast_ofNat, Nat.cast_one, Nat.cast_zero]
      exact ⟨ite_acc_add _ _ _ _ _, ite_acc_add _ _ _ _ _, ite_acc_add _ _ _ _ _⟩)
    (fun hk a b _ => by
      simp only [pair_swap o k a b hk, DWIJ_swap o k a b hk, DWI_DWJ_swap o k a b hk,
        add_comm b.alpha1, add_comm b.cs]
      by_cases hR : pre_RIJ o k a b < 1 / 100000000 <;>
        simp only [hR, if_true, if_false, neg_div, neg_mul_neg, mul_zero, add_zero] <;>
        split_ifs <;> refine ⟨?_, ?_, ?_⟩ <;> ring)
    fun hk a b => by
      simp only [DWIJ_eq o k a b hk, DWI_eq o k a b hk, DWJ_eq o k a b hk, pre_XIJ_0, pre_XIJ_1,
        pre_XIJ_2]
      refine ⟨?_, ?_, ?_⟩ <;> ring

end PysphVerif.C09
