import PysphVerif.Model.NnpsStore
import PysphVerif.Lemmas.Nnps
/-!
C01: the 27-cell stencil and the `±H` masks; what a per-cell lookup must deliver (`LookupSpec`)
and the theorem all cell-based classes reduce to (`exactNbrs_of_lookup`: distinct cells covering
the neighbours + exact lookup ⇒ exact result; `exactNbrs_of_levels`: the same with (level, cell)
as the key); the lookups of LinkedList and BoxSort.
-/
namespace PysphVerif.Nnps

theorem triples_eq_product (l : List Int) :
    l.flatMap (fun s => l.flatMap fun t => l.map fun u => (s, t, u)) = l ×ˢ (l ×ˢ l) := by
  simp only [SProd.sprod, List.product, List.map_flatMap, List.map_map, Function.comp_def]

theorem mem_triples (l : List Int) (m : Cell) :
    m ∈ l.flatMap (fun s => l.flatMap fun t => l.map fun u => (s, t, u)) ↔
      m.1 ∈ l ∧ m.2.1 ∈ l ∧ m.2.2 ∈ l := by
  rw [triples_eq_product, List.mem_product, List.mem_product]

theorem triples_nodup (l : List Int) (h : l.Nodup) :
    (l.flatMap (fun s => l.flatMap (fun t => l.map (fun u => (s, t, u))))).Nodup :=
  triples_eq_product l ▸ h.product (h.product h)

/-- the z-outermost loop nests of `CellIndexing` and the z-order classes -/
theorem triples_rev_eq_map (l : List Int) :
    l.flatMap (fun s => l.flatMap fun t => l.map fun u => (u, t, s)) =
      (l.flatMap (fun s => l.flatMap fun t => l.map fun u => (s, t, u))).map
        fun m => (m.2.2, m.2.1, m.1) := by
  simp [List.map_flatMap, List.map_map, Function.comp_def]

theorem transpose_involutive : Function.Involutive fun m : Cell => (m.2.2, m.2.1, m.1) :=
  fun _ => rfl

theorem mem_triples_rev (l : List Int) (m : Cell) :
    m ∈ l.flatMap (fun s => l.flatMap fun t => l.map fun u => (u, t, s)) ↔
      m.1 ∈ l ∧ m.2.1 ∈ l ∧ m.2.2 ∈ l := by
  rw [triples_rev_eq_map, List.mem_map_of_involutive transpose_involutive, mem_triples]
  exact ⟨fun ⟨h3, h2, h1⟩ => ⟨h1, h2, h3⟩, fun ⟨h1, h2, h3⟩ => ⟨h3, h2, h1⟩⟩

theorem triples_rev_nodup (l : List Int) (h : l.Nodup) :
    (l.flatMap (fun s => l.flatMap fun t => l.map fun u => (u, t, s))).Nodup :=
  triples_rev_eq_map l ▸ (triples_nodup l h).map transpose_involutive.injective

theorem mem_maskRange (H : Nat) (a : Int) : a ∈ maskRange H ↔ a.natAbs ≤ H := by
  unfold maskRange
  simp only [List.mem_map, List.mem_range]
  constructor
  · rintro ⟨i, hi, rfl⟩; omega
  · intro h; exact ⟨(a + H).toNat, by omega, by omega⟩

theorem maskRange_nodup (H : Nat) : (maskRange H).Nodup := by
  unfold maskRange
  refine List.nodup_range.map ?_
  intro a b h
  simp only at h
  omega

theorem mem_hMaskExact (H : Nat) (m : Cell) :
    m ∈ hMaskExact H ↔ m.1.natAbs ≤ H ∧ m.2.1.natAbs ≤ H ∧ m.2.2.natAbs ≤ H := by
  simp only [← mem_maskRange]; exact mem_triples _ m

theorem hMaskExact_nodup (H : Nat) : (hMaskExact H).Nodup := triples_nodup _ (maskRange_nodup H)

/-! `[-1, 0, 1]` is `maskRange 1` and `shifts27` is `hMaskExact 1`, by evaluation -/

theorem mem_shifts27 (s : Cell) :
    s ∈ shifts27 ↔ s.1.natAbs ≤ 1 ∧ s.2.1.natAbs ≤ 1 ∧ s.2.2.natAbs ≤ 1 := mem_hMaskExact 1 s

theorem mem_shifts27z (s : Cell) :
    s ∈ shifts27z ↔ s.1.natAbs ≤ 1 ∧ s.2.1.natAbs ≤ 1 ∧ s.2.2.natAbs ≤ 1 := by
  simp only [← mem_maskRange]; exact mem_triples_rev (maskRange 1) s

theorem shifts27_nodup : shifts27.Nodup := hMaskExact_nodup 1
theorem shifts27z_nodup : shifts27z.Nodup := triples_rev_nodup (maskRange 1) (maskRange_nodup 1)

theorem Cell.add_injective (cq : Cell) : Function.Injective (Cell.add cq) := by
  intro a b h
  obtain ⟨a1, a2, a3⟩ := a
  obtain ⟨b1, b2, b3⟩ := b
  simp only [Cell.add, Prod.mk.injEq] at h ⊢
  omega

theorem Cell.add_sub (b a : Cell) : Cell.add b (a.1 - b.1, a.2.1 - b.2.1, a.2.2 - b.2.2) = a := by
  simp only [Cell.add, add_sub_cancel]

theorem stencilCells_nodup (cq : Cell) : (stencilCells cq).Nodup :=
  shifts27_nodup.map (Cell.add_injective cq)

theorem stencilCellsZ_nodup (cq : Cell) : (stencilCellsZ cq).Nodup :=
  shifts27z_nodup.map (Cell.add_injective cq)

theorem inStencil_iff (a b : Cell) :
    inStencil a b = true ↔
      (a.1 - b.1).natAbs ≤ 1 ∧ (a.2.1 - b.2.1).natAbs ≤ 1 ∧ (a.2.2 - b.2.2).natAbs ≤ 1 := by
  simp only [inStencil, Bool.and_eq_true, decide_eq_true_eq, and_assoc]

theorem mem_map_add_iff (mask : List Cell) (cq c : Cell) :
    c ∈ mask.map (Cell.add cq) ↔ (c.1 - cq.1, c.2.1 - cq.2.1, c.2.2 - cq.2.2) ∈ mask := by
  rw [List.mem_map]
  constructor
  · rintro ⟨m, hm, rfl⟩
    simpa only [Cell.add, add_sub_cancel_left] using hm
  · intro h
    exact ⟨_, h, Cell.add_sub cq c⟩

private theorem mem_map_add (sh : List Cell)
    (hm : ∀ s : Cell, s ∈ sh ↔ s.1.natAbs ≤ 1 ∧ s.2.1.natAbs ≤ 1 ∧ s.2.2.natAbs ≤ 1)
    (cq c : Cell) : c ∈ sh.map (Cell.add cq) ↔ inStencil cq c = true := by
  -- `inStencil` takes the differences the other way round
  have flip : ∀ x y : Int, (x - y).natAbs = (y - x).natAbs := fun x y => by omega
  rw [mem_map_add_iff, hm, inStencil_iff, flip c.1, flip c.2.1, flip c.2.2]

theorem mem_stencilCells (cq c : Cell) : c ∈ stencilCells cq ↔ inStencil cq c = true :=
  mem_map_add shifts27 mem_shifts27 cq c

theorem mem_stencilCellsZ (cq c : Cell) : c ∈ stencilCellsZ cq ↔ inStencil cq c = true :=
  mem_map_add shifts27z mem_shifts27z cq c

theorem nonnegCell_iff (c : Cell) : nonnegCell c = true ↔ 0 ≤ c.1 ∧ 0 ≤ c.2.1 ∧ 0 ≤ c.2.2 := by
  simp only [nonnegCell, Bool.and_eq_true, decide_eq_true_eq, and_assoc]

theorem toNat3_inj (a b : Cell) (ha : nonnegCell a = true) (hb : nonnegCell b = true)
    (h : a.toNat3 = b.toNat3) : a = b := by
  have inj : ∀ {x y : Int}, 0 ≤ x → 0 ≤ y → x.toNat = y.toNat → x = y := fun _ _ _ => by omega
  rw [nonnegCell_iff] at ha hb
  simp only [Cell.toNat3, Prod.mk.injEq] at h
  exact Prod.ext (inj ha.1 hb.1 h.1) (Prod.ext (inj ha.2.1 hb.2.1 h.2.1) (inj ha.2.2 hb.2.2 h.2.2))

/-! the shape of every `_neighbor_boxes`: the cells of a mask around `cq` that have non-negative
coordinates -/

theorem mem_maskBoxes (mask : List Cell) (H : Nat)
    (hmask : ∀ m : Cell, m ∈ mask ↔ m.1.natAbs ≤ H ∧ m.2.1.natAbs ≤ H ∧ m.2.2.natAbs ≤ H)
    (cq c : Cell) :
    c ∈ (mask.map (Cell.add cq)).filter nonnegCell ↔ nonnegCell c = true ∧
      ((c.1 - cq.1).natAbs ≤ H ∧ (c.2.1 - cq.2.1).natAbs ≤ H ∧ (c.2.2 - cq.2.2).natAbs ≤ H) := by
  rw [List.mem_filter, mem_map_add_iff, hmask, and_comm]

theorem maskBoxes_nodup (mask : List Cell) (hm : mask.Nodup) (cq : Cell) :
    ((mask.map (Cell.add cq)).filter nonnegCell).Nodup :=
  (hm.map (Cell.add_injective cq)).filter _

/-- what a per-cell lookup must deliver; the key `κ` is a cell or, for the stratified classes, a
level and a cell -/
def LookupSpec {κ : Type} (n : Nat) (cellAt : Nat → κ) (lookup : κ → List Nat) (c : κ) : Prop :=
  (lookup c).Nodup ∧ ∀ j, j ∈ lookup c ↔ j < n ∧ cellAt j = c

/-- how every storage lemma reaches `LookupSpec` -/
theorem spec_of_perm_filter {n : Nat} {l : List Nat} {P : Nat → Bool} {Q : Nat → Prop}
    (h : l.Perm ((List.range n).filter P)) (hP : ∀ j, j < n → (P j = true ↔ Q j)) :
    l.Nodup ∧ ∀ j, j ∈ l ↔ j < n ∧ Q j :=
  ⟨h.nodup_iff.mpr (List.nodup_range.filter _), fun j => by
    rw [h.mem_iff, List.mem_filter, List.mem_range]; exact and_congr_right (hP j)⟩

section lookup
variable {κ : Type} {n : Nat} {cellAt : Nat → κ} {lookup : κ → List Nat} {boxes : List κ}

theorem mem_flatMap_lookup (hspec : ∀ c ∈ boxes, LookupSpec n cellAt lookup c) (j : Nat) :
    j ∈ boxes.flatMap lookup ↔ j < n ∧ cellAt j ∈ boxes := by
  rw [List.mem_flatMap]
  constructor
  · rintro ⟨c, hc, hj⟩
    obtain ⟨hlt, rfl⟩ := ((hspec c hc).2 j).mp hj
    exact ⟨hlt, hc⟩
  · rintro ⟨hlt, hb⟩
    exact ⟨cellAt j, hb, ((hspec _ hb).2 j).mpr ⟨hlt, rfl⟩⟩

theorem flatMap_lookup_nodup (hnd : boxes.Nodup)
    (hspec : ∀ c ∈ boxes, LookupSpec n cellAt lookup c) : (boxes.flatMap lookup).Nodup := by
  rw [List.nodup_flatMap]
  refine ⟨fun c hc => (hspec c hc).1, List.Pairwise.imp_of_mem ?_ hnd⟩
  intro a b ha hb hab j hja hjb
  exact hab ((((hspec a ha).2 j).mp hja).2.symm.trans (((hspec b hb).2 j).mp hjb).2)

theorem exactNbrs_of_lookup {α : Type} [Add α] [Sub α] [Mul α] [LT α] [DecidableLT α] (rs : α)
    (src : List (Pt α)) (q : Pt α) (hnd : boxes.Nodup)
    (hspec : ∀ c ∈ boxes, LookupSpec src.length cellAt lookup c)
    (hcover : ∀ j (hj : j < src.length), isNbr rs q src[j] = true → cellAt j ∈ boxes) :
    ExactNbrs rs src q (boxes.flatMap lookup) :=
  exactNbrs_of_cover_nodup rs src q _
    (fun j hj hn => (mem_flatMap_lookup hspec j).mpr ⟨hj, hcover j hj hn⟩)
    (flatMap_lookup_nodup hnd hspec)

theorem exactNbrs_of_levels {α : Type} [Add α] [Sub α] [Mul α] [LT α] [DecidableLT α] (rs : α)
    (src : List (Pt α)) (q : Pt α) (L : Nat) (levelOf : Nat → Nat) (cellAtL : Nat → Nat → κ)
    (boxes : Nat → List κ) (lookup : Nat → κ → List Nat) (hnd : ∀ k, (boxes k).Nodup)
    (hspec : ∀ k, k < L → ∀ b ∈ boxes k, (lookup k b).Nodup ∧
      ∀ j, j ∈ lookup k b ↔ j < src.length ∧ levelOf j = k ∧ cellAtL k j = b)
    (hcover : ∀ j (hj : j < src.length), isNbr rs q src[j] = true →
      levelOf j < L ∧ cellAtL (levelOf j) j ∈ boxes (levelOf j)) :
    ExactNbrs rs src q ((List.range L).flatMap fun k => (boxes k).flatMap (lookup k)) := by
  -- the boxes of all levels: `List.sigma`, the levels paired with their boxes
  have hflat : ((List.range L).flatMap fun k => (boxes k).flatMap (lookup k)) =
      ((List.range L).sigma (σ := fun _ => κ) boxes).flatMap fun kb => lookup kb.1 kb.2 := by
    simp only [List.sigma, List.flatMap_assoc, List.flatMap_map]
  rw [hflat]
  refine exactNbrs_of_lookup
    (cellAt := fun j => (⟨levelOf j, cellAtL (levelOf j) j⟩ : (_ : Nat) × κ)) rs src q
    (List.nodup_range.sigma hnd) (fun kb hkb => ?_) fun j hj hn =>
      List.mem_sigma.mpr ⟨List.mem_range.mpr (hcover j hj hn).1, (hcover j hj hn).2⟩
  obtain ⟨k, b⟩ := kb
  obtain ⟨hk, hb⟩ := List.mem_sigma.mp hkb
  have hs := hspec k (List.mem_range.mp hk) b hb
  refine ⟨hs.1, fun j => ?_⟩
  rw [hs.2 j]
  constructor
  · rintro ⟨hj, rfl, rfl⟩; exact ⟨hj, rfl⟩
  · rintro ⟨hj, e⟩; cases e; exact ⟨hj, rfl, rfl⟩

end lookup

theorem cellAtOf_of_lt {α : Type} [Sub α] [Div α] (fl : α → Int) (c : α) (o : Pt α)
    (src : List (Pt α)) {j : Nat} (hj : j < src.length) :
    cellAtOf fl c o src j = cell3 fl c o src[j] := by
  simp only [cellAtOf, List.getElem?_eq_getElem hj]

theorem hAtOf_of_lt {α : Type} [OfNat α 0] (src : List (Pt α)) {j : Nat} (hj : j < src.length) :
    hAtOf src j = src[j].h := by
  simp only [hAtOf, List.getElem?_eq_getElem hj]

theorem isValidCell_iff (nc : Nat × Nat × Nat) (c : Cell) :
    isValidCell nc c = true ↔ 0 ≤ c.1 ∧ c.1 < (nc.1 : Int) ∧ 0 ≤ c.2.1 ∧ c.2.1 < (nc.2.1 : Int) ∧
      0 ≤ c.2.2 ∧ c.2.2 < (nc.2.2 : Int) := by
  simp only [isValidCell, Bool.and_eq_true, decide_eq_true_eq, and_assoc]

theorem divmod_unique (X r r' q q' : Int) (hr : 0 ≤ r) (hrX : r < X) (hr' : 0 ≤ r') (hr'X : r' < X)
    (h : r + X * q = r' + X * q') : r = r' ∧ q = q' := by
  have hX : 0 < X := lt_of_le_of_lt hr hrX
  obtain ⟨a1, a2⟩ := (Int.ediv_emod_unique hX).mpr ⟨rfl, hr, hrX⟩
  obtain ⟨b1, b2⟩ := (Int.ediv_emod_unique hX).mpr ⟨h.symm, hr', hr'X⟩
  exact ⟨a2.symm.trans b2, a1.symm.trans b1⟩

theorem flattenCell_inj (nc : Nat × Nat × Nat) (a b : Cell) (ha : isValidCell nc a = true)
    (hb : isValidCell nc b = true) (h : flattenCell nc a = flattenCell nc b) : a = b := by
  rw [isValidCell_iff] at ha hb
  obtain ⟨a1, a2, a3⟩ := a
  obtain ⟨b1, b2, b3⟩ := b
  simp only [flattenCell] at h
  simp only at ha hb
  -- in nested form `x` is the remainder by `ncx`, and in the quotient `y` the remainder by `ncy`
  have e : a1 + (nc.1 : Int) * (a2 + (nc.2.1 : Int) * a3) =
      b1 + (nc.1 : Int) * (b2 + (nc.2.1 : Int) * b3) := by
    rw [mul_add, mul_add, ← mul_assoc, ← mul_assoc, ← add_assoc, ← add_assoc]; exact h
  obtain ⟨e1, e2⟩ := divmod_unique _ _ _ _ _ ha.1 ha.2.1 hb.1 hb.2.1 e
  obtain ⟨e3, e4⟩ := divmod_unique _ _ _ _ _ ha.2.2.1 ha.2.2.2.1 hb.2.2.1 hb.2.2.2.1 e2
  subst e1 e3 e4
  rfl

/-- the test `-1 < cell_index < n_cells` of the code, `n_cells = ncx·ncy·ncz` -/
theorem flattenCell_range (nc : Nat × Nat × Nat) (c : Cell) (hc : isValidCell nc c = true) :
    0 ≤ flattenCell nc c ∧ flattenCell nc c < ((nc.1 * nc.2.1 * nc.2.2 : Nat) : Int) := by
  rw [isValidCell_iff] at hc
  obtain ⟨c1, c2, c3⟩ := c
  obtain ⟨X, Y, Z⟩ := nc
  simp only [flattenCell] at hc ⊢
  obtain ⟨h1, h2, h3, h4, h5, h6⟩ := hc
  have hX : (0 : Int) ≤ X := by omega
  have hY : (0 : Int) ≤ Y := by omega
  have p1 : 0 ≤ (X : Int) * c2 := mul_nonneg hX h3
  have p2 : 0 ≤ (X : Int) * (Y : Int) * c3 := mul_nonneg (mul_nonneg hX hY) h5
  refine ⟨by omega, ?_⟩
  have q1 : (X : Int) * (c2 + 1) ≤ X * Y := mul_le_mul_of_nonneg_left (by omega) hX
  have q2 : (X : Int) * Y * (c3 + 1) ≤ X * Y * Z :=
    mul_le_mul_of_nonneg_left (by omega) (mul_nonneg hX hY)
  have r1 : (X : Int) * (c2 + 1) = X * c2 + X := by ring
  have r2 : (X : Int) * Y * (c3 + 1) = X * Y * c3 + X * Y := by ring
  push_cast
  omega

/-- LinkedList and BoxSort alike.  The conclusion is `LookupSpec n cellAt _ c` written out, the
lookup being the walk of chain `idx c`. -/
theorem bucket_lookup_spec (n : Nat) (cellAt : Nat → Cell) (idx : Cell → Nat) (c : Cell)
    (hinj : ∀ j, j < n → idx (cellAt j) = idx c → cellAt j = c) :
    ((LL.build ((List.range n).map fun i => (i, idx (cellAt i)))).traverse n (idx c)).Nodup ∧
      ∀ j, j ∈ (LL.build ((List.range n).map fun i => (i, idx (cellAt i)))).traverse n (idx c) ↔
        j < n ∧ cellAt j = c := by
  have hfst : ((List.range n).map fun i => (i, idx (cellAt i))).map (·.1) = List.range n := by
    simp [List.map_map, Function.comp_def]
  have hnd := hfst ▸ List.nodup_range
  rw [traverse_eq_bucket _ hnd (idx c) n (by simp)]
  refine spec_of_perm_filter (P := fun j => decide (idx (cellAt j) = idx c)) ?_
    fun j hj => by rw [decide_eq_true_iff]; exact ⟨hinj j hj, congrArg idx⟩
  rw [List.filter_map, List.map_map]
  simp only [Function.comp_def, List.map_id']
  exact List.reverse_perm _

/-- `LookupSpec` written out for the lookup `[]` -/
theorem nil_lookup_spec (n : Nat) (cellAt : Nat → Cell) (c : Cell)
    (h : ∀ j, j < n → cellAt j ≠ c) :
    ([] : List Nat).Nodup ∧ ∀ j, j ∈ ([] : List Nat) ↔ j < n ∧ cellAt j = c :=
  ⟨List.nodup_nil, fun j => ⟨fun hj => absurd hj List.not_mem_nil, fun hj => absurd hj.2 (h j hj.1)⟩⟩

theorem ll_lookup_spec (nc : Nat × Nat × Nat) (n : Nat) (cellAt : Nat → Cell)
    (hvalid : ∀ j, j < n → isValidCell nc (cellAt j) = true) (c : Cell) :
    LookupSpec n cellAt
      (llLookup (LL.build (llItems nc n cellAt)) nc (nc.1 * nc.2.1 * nc.2.2) n) c := by
  unfold LookupSpec llLookup validCellIndex
  by_cases hv : isValidCell nc c = true
  · obtain ⟨r0, r1⟩ := flattenCell_range nc c hv
    simp only [hv, if_true, r0, r1, and_self]
    exact bucket_lookup_spec n cellAt (fun c => (flattenCell nc c).toNat) c fun j hj h =>
      flattenCell_inj nc _ _ (hvalid j hj) hv (by
        have := (flattenCell_range nc _ (hvalid j hj)).1
        omega)
  · simp only [hv]
    exact nil_lookup_spec n cellAt c fun j hj hc => hv (hc ▸ hvalid j hj)

theorem mem_insertKey (k a : Int) (l : List Int) : a ∈ insertKey k l ↔ a = k ∨ a ∈ l := by
  induction l with
  | nil => simp [insertKey]
  | cons b t ih =>
    unfold insertKey
    split
    · simp
    · split
      · rename_i h1 h2; subst h2; simp
      · simp only [List.mem_cons, ih]
        exact or_left_comm

theorem mem_occupied (ids : List Int) (a : Int) : a ∈ occupied ids ↔ a ∈ ids :=
  foldl_prefix_inv occStep (fun m done => ∀ a, a ∈ m ↔ a ∈ done) ids [] (fun _ => Iff.rfl)
    (fun m done k _ _ h a => by
      rw [occStep, mem_insertKey, h, List.mem_append, List.mem_singleton, or_comm]) a

theorem box_lookup_spec (nc : Nat × Nat × Nat) (occ : List Int) (n : Nat) (cellAt : Nat → Cell)
    (hvalid : ∀ j, j < n → isValidCell nc (cellAt j) = true)
    (hocc : ∀ j, j < n → flattenCell nc (cellAt j) ∈ occ) (c : Cell) :
    LookupSpec n cellAt (boxLookup (LL.build (boxItems nc occ n cellAt)) nc occ n) c := by
  unfold LookupSpec boxLookup boxValidIndex
  by_cases hv : isValidCell nc c = true
  · obtain ⟨r0, _⟩ := flattenCell_range nc c hv
    simp only [hv, if_true, r0]
    by_cases hm : flattenCell nc c ∈ occ
    · have hidx : ∀ c', flattenCell nc c' ∈ occ →
          (cellToIndex occ (flattenCell nc c')).getD 0 = occ.idxOf (flattenCell nc c') :=
        fun c' h => by simp only [cellToIndex, h, if_true, Option.getD_some]
      have := bucket_lookup_spec n cellAt (fun c => (cellToIndex occ (flattenCell nc c)).getD 0) c
        fun j hj h => flattenCell_inj nc _ _ (hvalid j hj) hv (by
          rw [hidx _ (hocc j hj), hidx _ hm] at h
          exact (List.idxOf_inj (hocc j hj)).mp h)
      rw [hidx c hm] at this
      simp only [cellToIndex, hm, if_true]
      exact this
    · simp only [cellToIndex, hm, if_false]
      exact nil_lookup_spec n cellAt c fun j hj hc => hm (hc ▸ hocc j hj)
  · simp only [hv]
    exact nil_lookup_spec n cellAt c fun j hj hc => hv (hc ▸ hvalid j hj)

theorem Cell.Within.natAbs_le {K : Int} {a b : Cell} (h : Cell.Within K a b) :
    (a.1 - b.1).natAbs ≤ K.toNat ∧ (a.2.1 - b.2.1).natAbs ≤ K.toNat ∧
      (a.2.2 - b.2.2).natAbs ≤ K.toNat := by
  obtain ⟨h1, h2, h3⟩ := h
  omega

open scoped PysphVerif.OrderChain in
theorem cellOf_nonneg {α : Type} [Field α] [LinearOrder α] [IsStrictOrderedRing α] [FloorRing α]
    {c x0 x : α} (hc : 0 < c) (h : x0 ≤ x) : 0 ≤ cellOf Int.floor c x0 x :=
  Int.floor_nonneg.mpr (div_nonneg (sub_nonneg.mpr h) hc.le)

theorem forall_cellAtOf {α : Type} [Sub α] [Div α] (fl : α → Int) (c : α) (o : Pt α)
    (src : List (Pt α)) (P : Cell → Prop) (h : ∀ p ∈ src, P (cell3 fl c o p)) :
    ∀ j, j < src.length → P (cellAtOf fl c o src j) := fun _ hj =>
  cellAtOf_of_lt fl c o src hj ▸ h _ (List.getElem_mem hj)

end PysphVerif.Nnps
