import PysphVerif.Lemmas.PArrayAddProperty
import PysphVerif.Lemmas.FoldInv
/-!
The operations that fold `add_property` over a list of names or columns
(`ensure_properties`, `empty_clone`, `append_parray`, pickling), on the invariant side.
Each is the fold of a step, and a successful step keeps the invariant and the particle count.
`empty_clone` has only its equation here: that the clone is coherent needs the strides declared
so far, which `emptyClone_spec` of `PArraySpecClone` tracks together with the view.
-/
namespace PysphVerif.PArray

/-! The model writes a loop that may raise as a `foldl` over `Option` whose step passes `none`
on.  Both ways to reason about it are `foldl_prefix_inv` with the invariant `Q` (which may depend on
the prefix processed so far) lifted to `Option`. -/

theorem foldl_opt_inv {α β : Type} (step : Option α → β → Option α) (Q : List β → α → Prop)
    (hnone : ∀ b, step none b = none) (l : List β)
    (hstep : ∀ pre b suf a a', l = pre ++ b :: suf → Q pre a → step (some a) b = some a' →
      Q (pre ++ [b]) a')
    (a : α) (ha : Q [] a) (r : α) (hr : l.foldl step (some a) = some r) : Q l r :=
  foldl_prefix_inv step (fun o pre => ∀ r, o = some r → Q pre r) l (some a)
    (fun _ e => Option.some.inj e ▸ ha)
    (fun o pre b suf hl hq a' hs => by
      cases o with
      | none => rw [hnone] at hs; cases hs
      | some a => exact hstep pre b suf a a' hl (hq a rfl) hs) r hr

theorem foldl_opt_exists {α β : Type} (step : Option α → β → Option α) (Q : List β → α → Prop)
    (l : List β)
    (hstep : ∀ pre b suf a, l = pre ++ b :: suf → Q pre a →
      ∃ a', step (some a) b = some a' ∧ Q (pre ++ [b]) a')
    (a : α) (ha : Q [] a) : ∃ r, l.foldl step (some a) = some r ∧ Q l r :=
  foldl_prefix_inv step (fun o pre => ∃ r, o = some r ∧ Q pre r) l (some a) ⟨a, rfl, ha⟩
    (fun _ pre b suf hl ⟨a, e, hq⟩ => e ▸ hstep pre b suf a hl hq)

theorem key_not_mem_prefix {α κ : Type} (key : α → κ) {l pre suf : List α} {x : α}
    (hl : l = pre ++ x :: suf) (h : (l.map key).Nodup) : key x ∉ pre.map key :=
  not_mem_done (by rwa [hl, List.map_append, List.map_cons] at h)

def ensureStep (src : PA) (acc : Option PA) (nm : String) : Option PA :=
  match acc with
  | none => none
  | some a =>
    if a.hasProp nm then some a else
    match src.col? nm with
    | some sc => a.addProperty nm sc.ctype (some (src.defaultOf nm)) none (src.strideOf nm)
    | none => none

def ensureNames (src : PA) (props : Option (List String)) : List String :=
  match props with
  | some [] => src.props.map Col.name
  | some ps => ps
  | none => src.props.map Col.name

theorem ensureProperties_eq (pa src : PA) (props : Option (List String)) :
    pa.ensureProperties src props = (ensureNames src props).foldl (ensureStep src) (some pa) := by
  cases props with
  | none => rfl
  | some l => cases l <;> rfl

theorem ensureStep_some {src a a' : PA} {nm : String}
    (hr : ensureStep src (some a) nm = some a') :
    a' = a ∨ ∃ sc, nm ∉ a.props.map Col.name ∧ src.col? nm = some sc ∧
      a.addProperty nm sc.ctype (some (src.defaultOf nm)) none (src.strideOf nm) = some a' := by
  unfold ensureStep at hr
  simp only [] at hr
  split at hr
  · exact Or.inl (Option.some.inj hr).symm
  · rename_i hp
    split at hr
    · rename_i sc hsc
      exact Or.inr ⟨sc, fun hm => hp ((hasProp_iff a nm).mpr hm), hsc, hr⟩
    · exact absurd hr (by simp)

theorem inv_ensureStep {src a a' : PA} (hs : Inv src) (ha : Inv a) (nm : String)
    (hr : ensureStep src (some a) nm = some a') : Inv a' ∧ a'.n = a.n := by
  rcases ensureStep_some hr with rfl | ⟨sc, hnm, hsc, hadd⟩
  · exact ⟨ha, rfl⟩
  · obtain ⟨hmem, hcn⟩ := col?_some src nm sc hsc
    exact inv_addProperty_n ha (.of_new ha (hcn ▸ (hs.len sc hmem).1) hnm) hadd

/-- `empty_clone`, one name -/
def cloneStep (pa : PA) (acc : Option PA) (nm : String) : Option PA :=
  match acc with
  | none => none
  | some a =>
    match pa.col? nm with
    | some c => a.addProperty nm c.ctype (some (pa.defaultOf nm)) none (pa.strideOf nm)
    | none => none

theorem emptyClone_eq (pa : PA) (props : Option (List String)) :
    pa.emptyClone props =
      if !((cloneNames pa props).all pa.hasProp) then none else
      match (cloneNames pa props).foldl (cloneStep pa) (some { PA.empty "" with consts := pa.consts }) with
      | none => none
      | some a => some { a with name := pa.name, outputs := match props with
          | none => pa.outputs
          | some ps => dedup (ps.filter (fun p => pa.outputs.contains p)) } := rfl

def appendStep (src : PA) (oldN : Nat) (acc : Option PA) (sc : Col) : Option PA :=
  match acc with
  | none => none
  | some a =>
    match a.col? sc.name with
    | some c =>
      let s := a.strideOf sc.name
      if c.data.length - oldN * s == sc.data.length then
        some (a.setCol { c with data := c.data.take (oldN * s) ++ sc.data })
      else none
    | none =>
      let s := src.strideOf sc.name
      match a.addProperty sc.name sc.ctype (some (src.defaultOf sc.name)) none s with
      | none => none
      | some a' =>
        match a'.col? sc.name with
        | some c =>
          if c.data.length - oldN * s == sc.data.length then
            some (a'.setCol { c with data := c.data.take (oldN * s) ++ sc.data })
          else none
        | none => none

/-- `update_constants`: the constants self lacks are taken over from the source -/
def appendConsts (src : PA) (up : Bool) (a : PA) : PA :=
  if up then
    { a with consts := src.consts.foldl (fun cs c =>
        if cs.any (fun x => x.1 == c.1) then cs else cs ++ [c]) a.consts }
  else a

theorem appendConsts_eq (src : PA) (up : Bool) (a : PA) :
    ∃ cs, appendConsts src up a = { a with consts := cs } ∧ (up = false → cs = a.consts) := by
  cases up
  · exact ⟨a.consts, rfl, fun _ => rfl⟩
  · exact ⟨_, rfl, fun e => by cases e⟩

theorem appendParray_eq (pa src : PA) (al up : Bool) :
    pa.appendParray src al up =
      if src.n == 0 then some pa else
      match src.props.foldl (appendStep src pa.n) (some (pa.extend src.n)) with
      | none => none
      | some a => some ((appendConsts src up a).alignIf (src.n > 0 && al)) := rfl

theorem appendParray_some {pa src pa' : PA} {al up : Bool}
    (hr : pa.appendParray src al up = some pa') :
    (src.n = 0 ∧ pa' = pa) ∨
    ∃ a, src.props.foldl (appendStep src pa.n) (some (pa.extend src.n)) = some a ∧
      pa' = (appendConsts src up a).alignIf (src.n > 0 && al) := by
  rw [appendParray_eq] at hr
  split at hr
  · rename_i h0
    exact Or.inl ⟨by simpa using h0, (Option.some.inj hr).symm⟩
  · split at hr
    · exact absurd hr (by simp)
    · rename_i a hfold
      exact Or.inr ⟨a, hfold, (Option.some.inj hr).symm⟩

theorem appendStep_some {src a a' : PA} {oldN : Nat} {sc : Col}
    (hr : appendStep src oldN (some a) sc = some a') :
    ∃ a1 c s, (a1 = a ∨ a.col? sc.name = none ∧
        a.addProperty sc.name sc.ctype (some (src.defaultOf sc.name)) none (src.strideOf sc.name)
          = some a1) ∧
      a1.col? sc.name = some c ∧ (c.data.length - oldN * s == sc.data.length) = true ∧
      a' = a1.setCol { c with data := c.data.take (oldN * s) ++ sc.data } := by
  unfold appendStep at hr
  simp only [] at hr
  split at hr
  · rename_i c hc
    split at hr
    · exact ⟨a, c, _, Or.inl rfl, hc, ‹_›, (Option.some.inj hr).symm⟩
    · exact absurd hr (by simp)
  · rename_i hc
    split at hr
    · exact absurd hr (by simp)
    · rename_i a1 hadd
      split at hr
      · rename_i c hc1
        split at hr
        · exact ⟨a1, c, _, Or.inr ⟨hc, hadd⟩, hc1, ‹_›, (Option.some.inj hr).symm⟩
        · exact absurd hr (by simp)
      · exact absurd hr (by simp)

theorem inv_appendStep {src a a' : PA} (hs : Inv src) (ha : Inv a) (oldN : Nat) (sc : Col)
    (hsc : sc ∈ src.props) (hr : appendStep src oldN (some a) sc = some a') :
    Inv a' ∧ a'.n = a.n := by
  obtain ⟨a1, c, s, h1, hc, hlen, rfl⟩ := appendStep_some hr
  have h1' : Inv a1 ∧ a1.n = a.n := by
    rcases h1 with rfl | ⟨hnone, hadd⟩
    · exact ⟨ha, rfl⟩
    · exact inv_addProperty_n ha (.of_new ha (hs.len sc hsc).1 (col?_none a _ hnone)) hadd
  have := inv_setCol_sameLen h1'.1 c (col?_some a1 _ c hc).1 _ (take_append_length _ _ _ hlen)
  exact ⟨this.1, this.2.trans h1'.2⟩

/-- `__setstate__`, one property -/
def pickleStep (pa : PA) (acc : Option PA) (c : Col) : Option PA :=
  match acc with
  | none => none
  | some a => a.addProperty c.name c.ctype (some (pa.defaultOf c.name)) (some c.data)
                (pa.strideOf c.name)

/-- `__setstate__`, one constant -/
def constStep (acc : Option PA) (c : String × List Int) : Option PA :=
  match acc with
  | none => none
  | some a => a.addConstant c.1 c.2

/-- the fresh object after `__setstate__` emptied `properties`/`default_values` -/
def pickleStart (nm : String) : PA :=
  { name := nm, props := [], stride := [], defaults := [], consts := [], nReal := 0,
    outputs := [] }

theorem pickle_eq (pa : PA) :
    pa.pickle =
      match pa.props.foldl (pickleStep pa) (some (pickleStart pa.name)) with
      | none => none
      | some a =>
        match pa.consts.foldl constStep (some a) with
        | none => none
        | some a2 => some { a2 with nReal := (pa.tags.filter (· == localTag)).length } := rfl

theorem pickle_first (pa : PA) (ct : String) (d : List Int) (hts : pa.strideOf "tag" = 1) :
    ∃ nr, pickleStep pa (some (pickleStart pa.name)) ⟨"tag", ct, d⟩
      = some { name := pa.name, props := [⟨"tag", ct, d⟩], stride := [],
               defaults := [("tag", pa.defaultOf "tag")], consts := [], nReal := nr,
               outputs := [] } := by
  unfold pickleStep
  simp only []
  rw [hts]
  cases d with
  | nil => exact ⟨_, rfl⟩
  | cons x xs => exact ⟨_, rfl⟩

theorem defaults_eq_of_keys (D : List (String × Int)) (names : List String)
    (hk : D.map Prod.fst = names) (hn : names.Nodup) :
    D = names.map (fun nm => (nm, lookupD D nm 0)) := by
  subst hk
  rw [List.map_map]
  conv_lhs => rw [← List.map_id D]
  apply List.map_congr_left
  intro e he
  rw [Function.comp, lookupD_eq_getD, AssocList.get?_of_mem D hn e he]
  rfl

theorem pickleProps {pa : PA} (h : Inv pa) :
    ∃ a, pa.props.foldl (pickleStep pa) (some (pickleStart pa.name)) = some a ∧
      Inv a ∧ a.props = pa.props ∧ a.defaults = pa.defaults ∧
      (∀ nm, a.strideOf nm = pa.strideOf nm) ∧ a.consts = [] ∧ a.name = pa.name ∧
      a.outputs = [] := by
  obtain ⟨t, rest, hp, ht, _, hn, _⟩ := n_of_tagFirst pa h.tagFirst
  obtain ⟨tn, tc, td⟩ := t
  simp only at ht
  subst ht
  obtain ⟨nr, hstep1⟩ := pickle_first pa tc td h.tagStride
  rw [hp, List.foldl_cons, hstep1]
  have hnodup := h.nodup
  rw [hp] at hnodup
  have hrestlen : ∀ c ∈ rest, 0 < pa.strideOf c.name ∧ c.data.length = pa.n * pa.strideOf c.name :=
    fun c hc => h.len c (by rw [hp]; simp [hc])
  -- every further property is new and brings exactly one row per particle
  obtain ⟨a, hfold, hai, han, hap, had, has, hac, hanm, hao⟩ := foldl_opt_exists (pickleStep pa)
    (fun pre a => Inv a ∧ a.n = pa.n ∧ a.props = ⟨"tag", tc, td⟩ :: pre ∧
      a.defaults = ((⟨"tag", tc, td⟩ : Col) :: pre).map (fun c => (c.name, pa.defaultOf c.name)) ∧
      (∀ nm ∈ a.props.map Col.name, a.strideOf nm = pa.strideOf nm) ∧
      a.consts = [] ∧ a.name = pa.name ∧ a.outputs = [])
    rest
    (fun pre c suf a hl hq => by
      obtain ⟨hqi, hqn, hqp, hqd, hqs, hqc, hqnm, hqo⟩ := hq
      have hc : c ∈ rest := by rw [hl]; simp
      have hnew : c.name ∉ a.props.map Col.name :=
        hqp ▸ key_not_mem_prefix Col.name (pre := ⟨"tag", tc, td⟩ :: pre)
          (congrArg (⟨"tag", tc, td⟩ :: ·) hl) hnodup
      have hlenc : c.data.length = a.n * pa.strideOf c.name := by rw [hqn]; exact (hrestlen c hc).2
      have hs' := addProperty_new c.name c.ctype (pa.defaultOf c.name) (hrestlen c hc).1 hnew hlenc
      refine ⟨_, hs', ?_⟩
      have hflds := addProperty_fields hs'
      -- the new name is pending once default and stride are written; then its column is written
      have hinv := ((addPA1_invP hqi (some (pa.defaultOf c.name))
        (.of_new hqi (hrestlen c hc).1 hnew)).inv_setCol ⟨c.name, c.ctype, c.data⟩ rfl (by
          show c.data.length = a.n * lookupD (strideSet a.stride c.name _) c.name 1
          rw [lookupD_strideSet_new hqi.toF _ _ hnew]; exact hlenc)).inv_and_n
      have hprops : ((addPA1 a c.name (some (pa.defaultOf c.name)) (pa.strideOf c.name)).setCol
          ⟨c.name, c.ctype, c.data⟩).props = a.props ++ [c] := by
        rw [setCol_props]; exact setColL_new a.props _ hnew
      refine ⟨hinv.1, hinv.2.trans hqn, by rw [hprops, hqp]; simp, ?_, ?_,
        hflds.2.1.trans hqc, hflds.2.2.1.trans hqnm, hflds.2.2.2.trans hqo⟩
      · rw [setCol_defaults]
        show setKey a.defaults c.name (pa.defaultOf c.name) = _
        rw [setKey_new _ _ _ (by rw [hqi.defaultKeys]; exact hnew), hqd]; simp
      · intro nm hnm
        show lookupD (PA.stride _) nm 1 = _
        rw [hflds.1]
        by_cases hx : nm = c.name
        · rw [hx]; exact lookupD_strideSet_new hqi.toF _ _ hnew
        · rw [lookupD_strideSet_ne _ _ _ _ hx]
          apply hqs nm
          rw [hprops] at hnm
          simp only [List.map_append, List.map_cons, List.map_nil, List.mem_append,
            List.mem_singleton] at hnm
          exact hnm.resolve_right hx)
    { name := pa.name, props := [⟨"tag", tc, td⟩], stride := [],
      defaults := [("tag", pa.defaultOf "tag")], consts := [], nReal := nr, outputs := [] }
    (by
      refine ⟨?_, ?_, rfl, rfl, ?_, rfl, rfl, rfl⟩
      · apply InvF.toInv (m := pa.n)
        refine ⟨?_, rfl, rfl, by simp, by simp, rfl⟩
        intro c hc
        have : c = ⟨"tag", tc, td⟩ := by simpa using hc
        subst this
        exact ⟨by show 0 < lookupD ([] : List (String × Nat)) "tag" 1; decide,
          by show td.length = pa.n * 1; rw [hn]; simp⟩
      · show td.length = pa.n
        rw [hn]
      · intro nm hnm
        have : nm = "tag" := by simpa using hnm
        subst this
        exact h.tagStride.symm)
  refine ⟨a, hfold, hai, hap, ?_, ?_, hac, hanm, hao⟩
  · rw [had, defaults_eq_of_keys pa.defaults _ h.defaultKeys h.nodup, hp, List.map_map]
    rfl
  · intro nm
    by_cases hm : nm ∈ a.props.map Col.name
    · exact has nm hm
    · show lookupD a.stride nm 1 = lookupD pa.stride nm 1
      rw [lookupD_of_not_mem a.stride nm 1 (fun hk => hm (hai.strideKeys nm hk)),
        lookupD_of_not_mem pa.stride nm 1 (fun hk => hm (by rw [hap, ← hp]; exact h.strideKeys nm hk))]

theorem constFold_spec (a : PA) (cs : List (String × List Int)) (r : PA)
    (hr : cs.foldl constStep (some a) = some r) : r = { a with consts := a.consts ++ cs } :=
  foldl_opt_inv constStep (fun pre b => b = { a with consts := a.consts ++ pre })
    (fun _ => rfl) cs
    (fun pre c suf b b' _ hq hs' => by
      rw [addConstant_some (nm := c.1) (d := c.2) hs', hq]
      simp)
    a (by simp) r hr

theorem constFold_exists (a : PA) (cs : List (String × List Int))
    (hnd : (a.consts.map Prod.fst ++ cs.map Prod.fst).Nodup)
    (hcd : ∀ k ∈ cs.map Prod.fst, k ∉ a.props.map Col.name) :
    ∃ r, cs.foldl constStep (some a) = some r := by
  obtain ⟨r, hr, _⟩ := foldl_opt_exists constStep
    (fun pre b => b = { a with consts := a.consts ++ pre }) cs
    (fun pre c suf b hl hq => by
      subst hq
      have h1 : ¬ ((a.consts ++ pre).any (fun x => x.1 == c.1) || a.hasProp c.1) = true := by
        rw [Bool.or_eq_true, not_or, AssocList.any_key_iff Prod.fst, hasProp_iff]
        exact ⟨key_not_mem_prefix Prod.fst (l := a.consts ++ cs) (by rw [hl, List.append_assoc])
          (by rwa [List.map_append]), hcd c.1 (by rw [hl]; simp)⟩
      refine ⟨{ a with consts := a.consts ++ pre ++ [(c.1, c.2)] }, ?_, by simp⟩
      unfold constStep PA.addConstant
      exact if_neg h1)
    a (by simp)
  exact ⟨r, hr⟩

theorem pickle_spec {pa pa' : PA} (h : Inv pa) (hr : pa.pickle = some pa') :
    Inv pa' ∧ pa'.props = pa.props ∧ pa'.defaults = pa.defaults ∧
      (∀ nm, pa'.strideOf nm = pa.strideOf nm) ∧ pa'.consts = pa.consts ∧
      pa'.name = pa.name ∧ pa'.outputs = [] ∧
      pa'.nReal = (pa.tags.filter (· == localTag)).length := by
  obtain ⟨a, hfold, hai, hap, had, has, hac, hanm, hao⟩ := pickleProps h
  rw [pickle_eq, hfold] at hr
  simp only [] at hr
  split at hr
  · exact absurd hr (by simp)
  rename_i a2 hfold2
  rw [constFold_spec a _ a2 hfold2, hac, Option.some.injEq] at hr
  subst hr
  exact ⟨InvF.toInv (pa := { a with consts := _, nReal := _ }) hai.toF, hap, had, has, rfl, hanm,
    hao, rfl⟩

end PysphVerif.PArray
