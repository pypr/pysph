import PysphVerif.Gen.C05Discipline
/-!
The table of read/write sets (`Gen/C05Discipline.lean`) against its list of
tolerated exceptions: the listed classes are exactly the rows that break the
syntactic rule `eqOk`.  `translate/c05_rw_sets.py` prints the rows and the list
in the same (sorted) order of class names, so this is an equality of lists and
one evaluation of `eqOk` per row settles it.
-/
namespace PysphVerif.Determinism

theorem all_ok_or_listed {table : List EqRW} {listed : List Nat}
    (h : (table.filter fun e => !eqOk e).map (·.eqId) = listed) :
    table.all (fun e => eqOk e || listed.contains e.eqId) = true := by
  subst h
  rw [List.all_eq_true]
  intro e he
  cases hok : eqOk e with
  | true => rfl
  | false =>
    rw [Bool.false_or, List.contains_iff_mem]
    exact List.mem_map.mpr ⟨e, List.mem_filter.mpr ⟨he, by rw [hok]; rfl⟩, rfl⟩

theorem listed_break_rule {table : List EqRW} {listed : List Nat}
    (h : (table.filter fun e => !eqOk e).map (·.eqId) = listed) :
    listed.all (fun x => table.any fun e => e.eqId == x && !eqOk e) = true := by
  subst h
  rw [List.all_eq_true]
  intro x hx
  obtain ⟨e, he, rfl⟩ := List.mem_map.mp hx
  obtain ⟨het, hbad⟩ := List.mem_filter.mp he
  exact List.any_eq_true.mpr ⟨e, het, by rw [beq_self_eq_true, hbad]; rfl⟩

end PysphVerif.Determinism

namespace PysphVerif.Gen.C05Discipline
open PysphVerif.Determinism

theorem exceptions_eq : (table.filter fun e => !eqOk e).map (·.eqId) = exceptions := by
  decide +kernel

end PysphVerif.Gen.C05Discipline
