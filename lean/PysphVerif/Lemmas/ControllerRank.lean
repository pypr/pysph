import PysphVerif.Lemmas.ControllerFull
/-!
C18, repaired protocol: a ranking function.  `MuLt n` orders the states by the
lexicographic triple (`muIface`: remaining work of the interface threads,
`muSolver`: distance of the solver to the next event somebody may be waiting
for, `muWait`: position inside the `while … plock.wait()` loops).  Every step
of an interface thread decreases it, and so does the solver's step in every
state in which no interface thread can move (unless everything is finished).
-/
namespace PysphVerif.Controller

/-- remaining primitives of the current operation (longest branch); constant round the loop of
`wait()`, where `waitPos` takes over -/
def pcRank : IPc → Nat
  | IPc.idle => 0
  | IPc.gAcqD => 2 | IPc.gRelD _ => 1
  | IPc.sAcqD _ => 2 | IPc.sRelD => 1
  | IPc.qAcqD _ => 6 | IPc.qAcqC _ _ => 5 | IPc.qAcqQ _ _ => 4 | IPc.qNtaQ _ => 3
  | IPc.qRelQ _ => 2 | IPc.qRelD _ => 1
  | IPc.rAcqC _ => 4 | IPc.rAcqRes _ => 3 | IPc.rRelRes _ _ => 2 | IPc.rRelC _ _ => 1
  | IPc.pAcqP => 3 | IPc.pNtfP => 2 | IPc.pRelP => 1
  | IPc.wAcqP => 3 | IPc.wWaitP => 2 | IPc.wBlocked => 2 | IPc.wReacqP => 2 | IPc.wRelP => 1
  | IPc.cAcqP => 6 | IPc.cNtfP => 5 | IPc.cRelP _ => 4 | IPc.cAcqQ => 3 | IPc.cNtaQ => 2
  | IPc.cRelQ => 1

/-- one more than the largest `pcRank` of the operation: starting it is a step too -/
def opCost : Op → Nat
  | Op.get => 3 | Op.setNow _ => 3 | Op.queue _ => 7 | Op.getResult _ => 5 | Op.getMine _ => 5
  | Op.pause => 4 | Op.wait => 4 | Op.cont => 7

def progCost : List Op → Nat
  | [] => 0
  | op :: r => opCost op + progCost r

def rk (th : IThread) : Nat := progCost th.prog + pcRank th.pc

def waitPos : IPc → Nat
  | IPc.wReacqP => 2
  | IPc.wWaitP => 1
  | _ => 0

def ctxOff : Ctx → Nat
  | Ctx.first => 8
  | Ctx.loop => 0

/-- position of the solver on its way to the next pop / the next `paused.update`.  The numbers go
down along the solver's loop: `reacqQ` 21 → (`acqQ2` 20 →) `relQ2` 19 → `start` 18 → `acqQ1` 17 →
first `run_queued_commands` 16, 15, 14 → `relQ1` 13 → `acqQ2` 12 → `acqP` 11 → `ntaP` 10 → `relP` 9 →
`run_queued_commands` in the loop 8, 7, 6 → `waitQ` 5 → `blocked` 4.  Popping the next command after
one has run goes back up (14 → 16, 6 → 8) but shortens the queue, whose entries `muSolver` weighs 32
each.  At `acqQ2` the solver leaves the loop for the next time step if nobody pauses: that is
downwards from 20 if a command is queued (the next pop is ahead); with nothing queued it is the one
step upwards, the round of an idle solver (`solver_rank`).  The wake-up from `blocked` to `reacqQ` is
an interface step. -/
def solverPos : SPc → List Tid → List Nat → Nat
  | SPc.reacqQ, _, _ => 21
  | SPc.acqQ2, p, q => if p = [] ∧ q ≠ [] then 20 else 12
  | SPc.relQ2, _, _ => 19
  | SPc.start, _, _ => 18
  | SPc.acqQ1, _, _ => 17
  | SPc.runAcqRes ctx _ _, _, _ => 8 + ctxOff ctx
  | SPc.runRelC ctx _, _, _ => 7 + ctxOff ctx
  | SPc.runRelRes ctx, _, _ => 6 + ctxOff ctx
  | SPc.relQ1, _, _ => 13
  | SPc.acqP, _, _ => 11
  | SPc.ntaP, _, _ => 10
  | SPc.relP, _, _ => 9
  | SPc.waitQ, _, _ => 5
  | SPc.blocked, _, _ => 4
  | SPc.crashed, _, _ => 0

def muSolver (s : State) : Nat := s.queue.length * 32 + solverPos s.spc s.pause s.queue

/-- `sumTo f n = f 1 + … + f n`: the interface threads are `1 … n`, thread 0 is the solver -/
def sumTo (f : Nat → Nat) : Nat → Nat
  | 0 => 0
  | n + 1 => sumTo f n + f (n + 1)

theorem sumTo_le {f g : Nat → Nat} : ∀ n, (∀ t, 1 ≤ t → t ≤ n → f t ≤ g t) → sumTo f n ≤ sumTo g n
  | 0, _ => Nat.le_refl _
  | n + 1, h => by
    have h1 := sumTo_le n (fun t h1 h2 => h t h1 (Nat.le_succ_of_le h2))
    have h2 := h (n + 1) (Nat.succ_le_succ (Nat.zero_le _)) (Nat.le_refl _)
    simp only [sumTo]; omega

theorem sumTo_congr {f g : Nat → Nat} (n : Nat) (h : ∀ t, 1 ≤ t → t ≤ n → f t = g t) :
    sumTo f n = sumTo g n :=
  Nat.le_antisymm (sumTo_le n (fun t h1 h2 => Nat.le_of_eq (h t h1 h2)))
    (sumTo_le n (fun t h1 h2 => Nat.le_of_eq (h t h1 h2).symm))

theorem sumTo_lt_of_drop {f g : Nat → Nat} : ∀ {n t : Nat}, 1 ≤ t → t ≤ n → f t < g t →
    (∀ j, j ≠ t → f j = g j) → sumTo f n < sumTo g n
  | 0, t, ht1, htn, _, _ => by omega
  | n + 1, t, ht1, htn, hlt, hoth => by
    simp only [sumTo]
    by_cases ht : t = n + 1
    · have := sumTo_congr (f := f) (g := g) n fun j _ hj => hoth j (by omega)
      subst ht; omega
    · have := sumTo_lt_of_drop (n := n) ht1 (by omega) hlt hoth
      have := hoth (n + 1) (Ne.symm ht)
      omega

theorem sumTo_eq_of_eq {f g : Nat → Nat} {n t : Nat} (heq : f t = g t)
    (hoth : ∀ j, j ≠ t → f j = g j) : sumTo f n = sumTo g n :=
  sumTo_congr n fun j _ _ => if hj : j = t then hj ▸ heq else hoth j hj

def muIface (n : Nat) (s : State) : Nat := sumTo (fun t => rk (s.th t)) n
def muWait (n : Nat) (s : State) : Nat := sumTo (fun t => waitPos (s.th t).pc) n

def MuLt (n : Nat) (s' s : State) : Prop :=
  muIface n s' < muIface n s ∨
  (muIface n s' = muIface n s ∧
    (muSolver s' < muSolver s ∨ (muSolver s' = muSolver s ∧ muWait n s' < muWait n s)))

theorem rk_wake {a : IThread} (h : a.pc = IPc.wBlocked) :
    rk { a with pc := IPc.wReacqP } = rk a := by
  simp only [rk, h, pcRank]

theorem pcRank_firstPc (s : State) (t : Tid) (op : Op) : pcRank (firstPc s t op) < opCost op := by
  cases op <;> simp only [firstPc] <;> (repeat' split) <;> simp [pcRank, opCost]

/-- the second alternative is the two steps once round the loop `while pred: plock.wait()` -/
theorem iface_rank {s s' : State} {t : Tid} (hw : W s)
    (hs : IfaceStep Cfg.fixed s t s') :
    (∀ j, j ≠ t → rk (s'.th j) = rk (s.th j)) ∧
    (rk (s'.th t) < rk (s.th t) ∨
      (rk (s'.th t) = rk (s.th t) ∧ waitPos (s'.th t).pc < waitPos (s.th t).pc ∧
        (∀ j, j ≠ t → s'.th j = s.th j) ∧ muSolver s' = muSolver s ∧
        s'.pause = s.pause ∧ s'.paused = s.paused ∧ mustWait s t = true)) := by
  refine ⟨fun j hj => ?_, ?_⟩
  · rcases hs.others hj with e | ⟨hm, e⟩
    · rw [e]
    · rw [e, rk_wake (hw.waiting j (by rw [hm]; exact List.mem_cons_self))]
  obtain ⟨hpc, he⟩ := hs
  simp only [rk, setPc_th_same, setPc_th_prog, hpc]
  cases he with
  | @start op rest hp =>
    have := pcRank_firstPc s t op
    have h0 : pcRank IPc.idle = 0 := rfl
    refine Or.inl ?_
    simp only [hp, progCost, h0, setProg, if_true]
    omega
  | qRelD => exact Or.inl (by simp only [addMine, pcRank, if_true]; omega)
  | wWaitP =>
    exact Or.inr ⟨rfl, Nat.lt_succ_self _, fun j hj => setPc_th_other _ _ _ _ hj, rfl, rfl, rfl,
      mustWait_iff.mpr (hw.pred t hpc)⟩
  | wReacqP_wait _ _ hm =>
    exact Or.inr ⟨rfl, Nat.lt_succ_self _, fun j hj => setPc_th_other _ _ _ _ hj, rfl, rfl, rfl, hm⟩
  | pNtfP_wake | cNtfP_wake | cNtfP_wake_orig =>
    exact Or.inl (by rw [setPc_th_prog]; simp [pcRank])
  | cRelQ_orig h => exact absurd h (by decide)
  | _ => exact Or.inl (by simp [pcRank])

theorem solver_muIface {cfg : Cfg} {s s' : State} (hw : PW s) (hs : SolverStep cfg s s') (n : Nat) :
    muIface n s' = muIface n s :=
  sumTo_congr n fun j _ _ => by
    rcases hs.th j with e | ⟨hm, e⟩
    · rw [e]
    · rw [e, rk_wake (hw j hm)]

/-- the exception is taking `qlock` in `wait_for_cmd` when nobody pauses and nothing is queued (the
round of an idle solver); `hrq` is `QS.rq` -/
theorem solver_rank {s s' : State} (hrq : s.spc = SPc.relQ1 → s.queue = [])
    (hal : s'.spc ≠ SPc.crashed) (hs : SolverStep Cfg.fixed s s') :
    muSolver s' < muSolver s ∨ (s.spc = SPc.acqQ2 ∧ s.pause = [] ∧ s.queue = []) := by
  -- a comparison of entries of `solverPos`, by cases of the step and of where the loop is taken up
  cases hs with
  | acqQ1 hspc _ ho | runRelRes hspc ho | relP hspc _ ho | reacqQ_orig hspc _ _ ho
  | acqQ2 hspc _ ho | reacqQ hspc _ _ ho =>
    cases ho <;> (simp only [muSolver, hspc, solverPos] at hrq ⊢; grind [ctxOff, Cfg.fixed])
  | _ =>
    simp only [muSolver, ‹s.spc = _›, solverPos, wakeAllP] at hrq ⊢
    grind [ctxOff, Cfg.fixed]

theorem iface_step_muLt {n : Nat} {s s' : State} {t : Tid} (hW : W s) (ht1 : 1 ≤ t) (htn : t ≤ n)
    (hs : IfaceStep Cfg.fixed s t s') : MuLt n s' s := by
  obtain ⟨hoth, hcase⟩ := iface_rank hW hs
  rcases hcase with hlt | ⟨heq, hwlt, hsame, hmu, -⟩
  · exact Or.inl (sumTo_lt_of_drop ht1 htn hlt hoth)
  · exact Or.inr ⟨sumTo_eq_of_eq heq hoth, Or.inr ⟨hmu,
      sumTo_lt_of_drop ht1 htn hwlt fun j hj => by rw [hsame j hj]⟩⟩

/-- every interface thread has returned from its last call and every queued command has run -/
def Final (n : Nat) (s : State) : Prop :=
  (∀ t, 1 ≤ t → t ≤ n → (s.th t).pc = IPc.idle ∧ (s.th t).prog = []) ∧
  s.queue = [] ∧ inflight s = []

theorem Final.executed {n : Nat} {s : State} (hf : Final n s) (hi : Inv s) :
    s.queuedLog = execIds s ∧ (execIds s).Nodup := by
  have e := hi.fifo
  rw [hf.2.1, hf.2.2, List.append_nil, List.append_nil] at e
  exact ⟨e, e ▸ hi.nodup⟩

theorem stuck_solver_step {n : Nat} {s : State} (hg : Good n s)
    (hno : ∀ v, 1 ≤ v → v ≤ n → stepIface Cfg.fixed s v = none) (hnf : ¬ Final n s) :
    ∃ s' evs, stepSolver Cfg.fixed s = some (s', evs) ∧ muSolver s' < muSolver s := by
  have hst := stuck_all hg hno
  cases hs0 : stepSolver Cfg.fixed s with
  | none => exact absurd hs0 (stuck_solver_moves hg hst)
  | some x =>
    obtain ⟨s', evs⟩ := x
    have hs := stepSolver_cases hs0
    refine ⟨s', evs, rfl, (solver_rank hg.locks.qs.rq (safe_stepSolver hg.safe hg.inv hs).alive
      hs).resolve_right fun ⟨hsp, hpe, hqe⟩ => hnf ?_⟩
    exact ⟨fun t _ _ => stuck_idle_all_done hg hst hsp hpe hqe t, hqe, by simp [inflight, hsp]⟩

theorem exists_decreasing_step {n : Nat} {s : State} (hg : Good n s) (hnf : ¬ Final n s) :
    ∃ t s' evs, t ≤ n ∧ step Cfg.fixed s t = some (s', evs) ∧ MuLt n s' s := by
  by_cases hex : ∃ t, 1 ≤ t ∧ t ≤ n ∧ stepIface Cfg.fixed s t ≠ none
  · obtain ⟨t, ht1, htn, hne⟩ := hex
    have ht0 : t ≠ 0 := by omega
    cases hst : stepIface Cfg.fixed s t with
    | none => exact absurd hst hne
    | some x =>
      exact ⟨t, x.1, x.2, htn, by simp [step, ht0, hst],
        iface_step_muLt hg.w ht1 htn (stepIface_cases hst)⟩
  · obtain ⟨s', evs, hs0, hlt⟩ := stuck_solver_step hg
      (fun v hv hvn => Classical.not_not.mp fun hne => hex ⟨v, hv, hvn, hne⟩) hnf
    exact ⟨0, s', evs, Nat.zero_le _, by simp [step, hs0],
      Or.inr ⟨solver_muIface hg.w.waiting (stepSolver_cases hs0) _, Or.inl hlt⟩⟩

theorem muLt_wf (n : Nat) : WellFounded (MuLt n) :=
  Subrelation.wf (r := InvImage (Prod.Lex (· < ·) (Prod.Lex (· < ·) (· < ·)))
      fun s => (muIface n s, muSolver s, muWait n s))
    (fun h => Prod.lex_def.mpr (h.imp_right (And.imp_right Prod.lex_def.mpr)))
    (InvImage.wf _ (Prod.lex Nat.lt_wfRel (Prod.lex Nat.lt_wfRel Nat.lt_wfRel)).wf)

theorem can_finish {ps : List (List Op)} (hwf : ∀ p ∈ ps, WF false p = true) :
    ∀ s, Reachable Cfg.fixed (progsOf ps) s →
      ∃ sched, (∀ t ∈ sched, t ≤ ps.length) ∧ runs Cfg.fixed s sched = true ∧
        Final ps.length (run Cfg.fixed s sched) := by
  intro s
  induction s using (muLt_wf ps.length).induction with | _ s ih
  intro hr
  by_cases hf : Final ps.length s
  · exact ⟨[], by simp, rfl, hf⟩
  · obtain ⟨t, s', evs, htn, hstep, hlt⟩ := exists_decreasing_step (reachable_good hwf hr) hf
    obtain ⟨sched, h1, h2, h3⟩ := ih s' hlt (Reachable.step hr hstep)
    exact ⟨t :: sched, List.forall_mem_cons.mpr ⟨htn, h1⟩, by simp [runs, hstep, h2],
      by simp [run, hstep, h3]⟩

end PysphVerif.Controller
