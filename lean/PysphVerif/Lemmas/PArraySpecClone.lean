import PysphVerif.Lemmas.PArrayFolds
import PysphVerif.Lemmas.PArraySpecAddProperty
import PysphVerif.Lemmas.PArrayRefine
/-!
The operations that add the properties of another array without data:
`ensure_properties`, `empty_clone`, `extract_particles` into a fresh clone.  Pickling at the record level.
-/
namespace PysphVerif.PArray

theorem ensureNames_abs (src : PA) (props : Option (List String)) :
    specEnsureNames props (absPA src) = ensureNames src props := by
  unfold specEnsureNames ensureNames
  rw [absPA_dflt_keys]
  cases props with
  | none => rfl
  | some l => cases l <;> rfl

theorem ensure_refines {pa src : PA} (h : Inv pa) (hs : Inv src) (props : Option (List String))
    (hnames : ∀ nm ∈ ensureNames src props, nm ∈ src.props.map Col.name) :
    ∃ pa', pa.ensureProperties src props = some pa' ∧
      absPA pa' = specEnsure props (absPA pa) (absPA src) := by
  rw [ensureProperties_eq]
  unfold specEnsure
  rw [ensureNames_abs]
  generalize ensureNames src props = names at hnames ⊢
  obtain ⟨r, hr, hq⟩ := foldl_opt_exists (ensureStep src)
    (fun pre a => Inv a ∧ absPA a = pre.foldl (specEnsureStep (absPA src)) (absPA pa)) names
    (fun pre b suf a hl hq => by
      obtain ⟨hia, habs⟩ := hq
      have hb : b ∈ src.props.map Col.name := hnames b (by rw [hl]; simp)
      rw [List.foldl_append, List.foldl_cons, List.foldl_nil, ← habs]
      unfold ensureStep specEnsureStep
      simp only []
      rw [hasProp_keys]
      by_cases hp : a.hasProp b = true
      · rw [if_pos hp, if_pos hp]
        exact ⟨a, rfl, hia, rfl⟩
      · have hnm : b ∉ a.props.map Col.name := fun hm => hp ((hasProp_iff a b).mpr hm)
        rw [if_neg hp, if_neg hp]
        obtain ⟨sc, hsc⟩ := col?_isSome_of_mem src b hb
        rw [hsc]
        simp only []
        obtain ⟨a', ha', hi', _, _, _, _, habs'⟩ := addProperty_nodata_abs hia
          (.of_new hia (hs.stride_pos hb) hnm) sc.ctype (some (src.defaultOf b))
        refine ⟨a', ha', hi', ?_⟩
        rw [habs']
        simp only [hp, Bool.false_eq_true, if_false, addStride_new hp, addDv]
        rw [lookupD_absPA_dflt b hb,
          setKey_new _ _ _ (by rw [← recKeys, absPA_dflt_keys]; exact hnm)])
    pa ⟨h, rfl⟩
  exact ⟨r, hr, hq.2⟩

/-- That every cloned name has the source's stride is what `extract_particles` into the clone
needs.  Every step re-declares or declares a name on an array without particles, where any stride
is admissible (`AddOk.own`, third case); this is why a name listed twice, or one of
`tag`/`pid`/`gid`, does no harm. -/
theorem emptyClone_spec {pa : PA} (h : Inv pa) (props : Option (List String))
    (hnames : ∀ nm ∈ cloneNames pa props, nm ∈ pa.props.map Col.name) :
    ∃ d, pa.emptyClone props = some d ∧ Inv d ∧ d.n = 0 ∧
      absPA d = specEmptyClone props (absPA pa) ∧
      ∀ nm ∈ cloneNames pa props, d.hasProp nm = true ∧ d.strideOf nm = pa.strideOf nm := by
  rw [emptyClone_eq]
  have hall : (cloneNames pa props).all pa.hasProp = true := by
    rw [List.all_eq_true]
    intro nm hnm
    exact (hasProp_iff pa nm).mpr (hnames nm hnm)
  rw [hall]
  simp only [Bool.not_true, Bool.false_eq_true, if_false]
  have hstart : Inv ({ PA.empty "" with consts := pa.consts } : PA) :=
    InvF.toInv (pa := { PA.empty "" with consts := pa.consts }) (inv_empty "").toF
  -- the clone's strides in closed form: the source's on the names declared so far, 1 elsewhere
  obtain ⟨r, hr, hq⟩ := foldl_opt_exists (cloneStep pa)
    (fun pre a => Inv a ∧ a.n = 0 ∧
      (absPA a).dflt = pre.foldl (specCloneStep (absPA pa)) baseDflt ∧
      (∀ x, a.strideOf x = if x ∈ pre then pa.strideOf x else 1) ∧
      (∀ nm ∈ pre, nm ∈ a.props.map Col.name))
    (cloneNames pa props)
    (fun pre b suf a hl hq => by
      obtain ⟨hia, hn0, habs, hstr, hpre⟩ := hq
      have hb : b ∈ pa.props.map Col.name := hnames b (by rw [hl]; simp)
      obtain ⟨c, hc⟩ := col?_isSome_of_mem pa b hb
      unfold cloneStep
      simp only [hc]
      have ok : AddOk a b (pa.strideOf b) :=
        ⟨h.stride_pos hb, fun _ => Or.inr (Or.inr hn0), fun e => by rw [e]; exact h.tagStride⟩
      obtain ⟨a', ha', hi', hn', hso, hsn, hnm', habs'⟩ := addProperty_nodata_abs hia ok
        c.ctype (some (pa.defaultOf b))
      have hst : addStride a b (pa.strideOf b) = pa.strideOf b := by
        unfold addStride
        split
        · split
          · rename_i h1'
            rw [hstr b, h1']; split <;> rfl
          · rfl
        · rfl
      refine ⟨a', ha', hi', by rw [hn', hn0], ?_, fun x => ?_, fun nm hnm => ?_⟩
      · rw [List.foldl_append, List.foldl_cons, List.foldl_nil, ← habs, habs']
        simp only [hst, addDv]
        unfold specCloneStep
        rw [lookupD_absPA_dflt b hb]
      · by_cases hx : x = b
        · rw [hx, hsn, hst, if_pos (by simp)]
        · rw [hso x hx, hstr x]; simp [hx]
      · rw [hnm']
        rcases List.mem_append.mp hnm with e | e
        · split
          · exact hpre nm e
          · exact List.mem_append_left _ (hpre nm e)
        · have : nm = b := by simpa using e
          subst this
          split
          · rename_i hp; exact (hasProp_iff a nm).mp hp
          · simp)
    _ ⟨hstart, rfl, rfl, fun x => by simp; rfl, fun nm hnm => by simp at hnm⟩
  rw [hr]
  simp only []
  obtain ⟨hir, hn0, habs, hstr, hpre⟩ := hq
  have hcong : ∀ (nm : String) (outs : List String),
      absPA ({ r with name := nm, outputs := outs } : PA) = absPA r :=
    fun nm outs => absPA_congr_fields rfl rfl rfl
  refine ⟨_, rfl, InvF.toInv (pa := { r with name := _, outputs := _ }) hir.toF, hn0, ?_, ?_⟩
  · rw [hcong]
    unfold specEmptyClone
    rw [cloneNames_abs, ← habs]
    show (⟨defaultParticle r, particles r⟩ : RA) = _
    rw [particles_of_n_zero r hn0]
    rfl
  · intro nm hnm
    exact ⟨(hasProp_iff r nm).mpr (hpre nm hnm), (hstr nm).trans (if_pos hnm)⟩

theorem extract_refines {pa : PA} (h : Inv pa) (idx : List Nat) (al : Bool)
    (props : Option (List String))
    (hnames : ∀ nm ∈ cloneNames pa props, nm ∈ pa.props.map Col.name)
    (hin : ∀ i ∈ idx, i < pa.n) :
    ∃ pa', pa.extract idx al props = some pa' ∧
      (absPA pa').equiv (specExtractInto (specNames props (absPA pa)) idx (absPA pa)
        (specEmptyClone props (absPA pa))) := by
  obtain ⟨d, hd, hid, _, habs, hdn⟩ := emptyClone_spec h props hnames
  unfold PA.extract
  rw [hd]
  simp only []
  obtain ⟨pa', hr⟩ := extractInto_isSome pa d idx al props
    (fun nm hnm => ⟨(hasProp_iff pa nm).mpr (hnames nm hnm), (hdn nm hnm).1⟩)
  refine ⟨pa', hr, ?_⟩
  rw [← habs]
  exact extractInto_refines h hid idx al props (fun nm hnm => ((hdn nm hnm).2).symm) hin hr

theorem pickle_abs {pa pa' : PA} (h : Inv pa) (hr : pa.pickle = some pa') :
    absPA pa' = absPA pa := by
  obtain ⟨_, hp, hd, hs, _⟩ := pickle_spec h hr
  exact absPA_congr hp hs (fun nm => by unfold PA.defaultOf; rw [hd])

end PysphVerif.PArray
