import PysphVerif.Model.Schedule
import PysphVerif.Lemmas.FoldInv
/-!
Helper lemmas for C03 (`Model/Schedule.lean`).  The template's `has_*` guards are redundant,
`MegaGroup._make_data` has a closed form (`specData`, a prefix invariant of its loop), and the
generated and the documented iteration loop both make `passes` up to the first pass that
`stopsAfter`; so one top-level group of the template makes the documented calls (`doTop_eq`).
At the end, namespace `Example`: the programs and oracles the `example`s of `Props/C03.lean`
evaluate.
-/
namespace PysphVerif.Schedule

section forEach
variable {α β : Type}

@[simp] theorem forEach_nil (f : α → Hist → Hist) (h : Hist) : forEach [] f h = h := rfl
@[simp] theorem forEach_cons (a : α) (l : List α) (f : α → Hist → Hist) (h : Hist) :
    forEach (a :: l) f h = forEach l f (f a h) := rfl

theorem forEach_eq_foldl (l : List α) (f : α → Hist → Hist) (h : Hist) :
    forEach l f h = l.foldl (fun h a => f a h) h := by
  induction l generalizing h with
  | nil => rfl
  | cons a l ih => exact ih _

theorem forEach_append (l1 l2 : List α) (f : α → Hist → Hist) (h : Hist) :
    forEach (l1 ++ l2) f h = forEach l2 f (forEach l1 f h) := by
  simp only [forEach_eq_foldl, List.foldl_append]

theorem forEach_congr {l : List α} {f g : α → Hist → Hist}
    (hfg : ∀ a ∈ l, ∀ h, f a h = g a h) (h : Hist) : forEach l f h = forEach l g h := by
  simp only [forEach_eq_foldl]
  exact List.foldl_rel (r := Eq) rfl fun a ha h _ e => e ▸ hfg a ha h

theorem forEach_id {l : List α} {f : α → Hist → Hist}
    (hf : ∀ a ∈ l, ∀ h, f a h = h) (h : Hist) : forEach l f h = h := by
  rw [forEach_eq_foldl]
  exact List.foldlRecOn (motive := (· = h)) l _ rfl fun h' e a ha => (hf a ha h').trans e

theorem forEach_map (g : β → α) (l : List β) (f : α → Hist → Hist) (h : Hist) :
    forEach (l.map g) f h = forEach l (fun b => f (g b)) h := by
  simp only [forEach_eq_foldl, List.foldl_map]

theorem forEach_zipIdx_map (g : β → α) (l : List β) (f : α × Nat → Hist → Hist) (h : Hist) :
    forEach (l.map g).zipIdx f h = forEach l.zipIdx (fun p => f (g p.1, p.2)) h := by
  rw [List.zipIdx_map, forEach_map]
  rfl

theorem forEach_filter (p : α → Bool) (l : List α) (f : α → Hist → Hist) (h : Hist) :
    forEach (l.filter p) f h = forEach l (fun a h => if p a then f a h else h) h := by
  simp only [forEach_eq_foldl, List.foldl_filter]

theorem forEach_emit (F : α → List Event) (l : List α) {f : α → Hist → Hist}
    (hf : ∀ a h, f a h = (F a).reverse ++ h) (h : Hist) :
    forEach l f h = (l.flatMap F).reverse ++ h := by
  induction l generalizing h with
  | nil => rfl
  | cons a l ih => simp [ih, hf]

end forEach

theorem callAll_eq_specCalls (g : List Equation) (k : Hook) (mk : Equation → Event) :
    callAll g k mk = specCalls g k mk := by
  funext h
  unfold callAll specCalls
  rw [forEach_filter]
  rfl

theorem specCalls_of_not_hasCode {g : List Equation} {k : Hook} (hk : hasCode g k = false)
    (mk : Equation → Event) (h : Hist) : specCalls g k mk h = h := by
  unfold specCalls
  have : g.filter (·.has k) = [] := by simpa [hasCode, List.filter_eq_nil_iff] using hk
  rw [this]; rfl

theorem specCalls_eq (g : List Equation) (k : Hook) (mk : Equation → Event) (h : Hist) :
    specCalls g k mk h = ((g.filter (·.has k)).map mk).reverse ++ h := by
  rw [List.map_eq_flatMap]
  exact forEach_emit (fun e => [mk e]) _ (fun _ _ => rfl) h

theorem guardedIf_eq_apply {b : Bool} {f : Hist → Hist} (hb : b = false → ∀ h, f h = h)
    (h : Hist) : guardedIf b f h = f h := by
  cases b
  · exact (hb rfl h).symm
  · rfl

theorem guardedLoop_eq_forEach {α : Type} {b : Bool} {l : List α} {f : α → Hist → Hist}
    (hb : b = false → ∀ a h, f a h = h) (h : Hist) : guardedLoop b l f h = forEach l f h :=
  guardedIf_eq_apply (f := forEach l f) (fun hk => forEach_id fun a _ => hb hk a) h

/-- the guard `b` is the bare `has_code(k)`, or one that also asks for the list to be non-empty -/
theorem guardedLoop_callAll {α : Type} {b : Bool} {g : List Equation} {k : Hook}
    (hb : b = false → hasCode g k = false) (l : List α) (mk : α → Equation → Event) (h : Hist) :
    guardedLoop b l (fun i => callAll g k (mk i)) h = forEach l (fun i => specCalls g k (mk i)) h := by
  simp only [callAll_eq_specCalls]
  exact guardedLoop_eq_forEach (fun hk _ => specCalls_of_not_hasCode (hb hk) _) h

theorem guardedIf_callAll {b : Bool} {g : List Equation} {k : Hook}
    (hb : b = false → hasCode g k = false) (mk : Equation → Event) (h : Hist) :
    guardedIf b (callAll g k mk) h = specCalls g k mk h := by
  rw [callAll_eq_specCalls]
  exact guardedIf_eq_apply (fun hk => specCalls_of_not_hasCode (hb hk) _) h

theorem srcParticle_eq (O : Oracle) (d s : Nat) (g : List Equation) (i : Nat) (h : Hist) :
    srcParticle O d s g i h = specSrcParticle O d s g i h := by
  unfold srcParticle specSrcParticle loopNbr
  simp only
  rw [guardedIf_callAll id, guardedLoop_callAll id]

theorem doSource_eq (O : Oracle) (d : Nat) (rng : List Nat) (eqsD : List Equation) (s : Nat)
    (h : Hist) :
    doSource O d rng (s, eqsD.filter (fun e => e.sources.contains s)) h
      = specSource O d rng eqsD s h := by
  unfold doSource specSource initPairParticle
  simp only
  generalize eqsD.filter (fun e => e.sources.contains s) = g
  rw [guardedLoop_callAll id, guardedLoop_eq_forEach]
  · exact forEach_congr (fun i _ => srcParticle_eq O d s g i) _
  · -- neither `loop` nor `loop_all`: both guards of the per-particle block fail
    intro hk i h
    rw [Bool.or_eq_false_iff] at hk
    unfold srcParticle
    rw [hk.1, hk.2]
    rfl

/-- `if x not in acc: acc.append(x)` -/
def faStep (acc : List Nat) (x : Nat) : List Nat := if acc.contains x then acc else acc ++ [x]

theorem faStep_of_mem {K : List Nat} {s : Nat} (h : s ∈ K) : faStep K s = K := by
  simp [faStep, h]
theorem faStep_of_not_mem {K : List Nat} {s : Nat} (h : s ∉ K) : faStep K s = K ++ [s] := by
  simp [faStep, h]

theorem mem_firstAppearance {x : Nat} {l : List Nat} : x ∈ firstAppearance l ↔ x ∈ l := by
  induction l with
  | nil => simp [firstAppearance]
  | cons y ys ih =>
    simp only [firstAppearance, List.mem_cons, List.mem_filter, ih]
    by_cases hxy : x = y <;> simp [hxy]

theorem firstAppearance_nodup (l : List Nat) : (firstAppearance l).Nodup := by
  induction l with
  | nil => simp [firstAppearance]
  | cons x xs ih =>
    simp only [firstAppearance, List.nodup_cons, List.mem_filter]
    exact ⟨by simp, ih.filter _⟩

theorem firstAppearance_of_nodup {l : List Nat} (h : l.Nodup) : firstAppearance l = l := by
  induction l with
  | nil => rfl
  | cons x xs ih =>
    rw [List.nodup_cons] at h
    simp only [firstAppearance, ih h.2]
    congr 1
    rw [List.filter_eq_self]
    intro y hy
    have : y ≠ x := fun e => h.1 (e ▸ hy)
    simpa using this

theorem firstAppearance_snoc (a : List Nat) (x : Nat) :
    firstAppearance (a ++ [x]) = faStep (firstAppearance a) x := by
  induction a with
  | nil => rfl
  | cons y a ih =>
    simp only [List.cons_append, firstAppearance, ih]
    by_cases hxy : x = y
    · subst hxy
      by_cases hx : x ∈ firstAppearance a <;> simp [faStep, List.filter_append, hx]
    · by_cases hx : x ∈ firstAppearance a <;> simp [faStep, List.filter_append, hxy, hx]

theorem destList_eq (eqs : List Equation) :
    destList eqs = firstAppearance (eqs.map (·.dest)) :=
  foldl_prefix_inv destListStep (fun acc done => acc = firstAppearance (done.map (·.dest))) eqs _ rfl
    fun acc done e _ _ h => by
      rw [h, List.map_append]
      exact (firstAppearance_snoc _ e.dest).symm

/-- an insertion-ordered dict given by its key list and a value function -/
def dictOf (K : List Nat) (V : Nat → List Equation) : List (Nat × List Equation) :=
  K.map (fun k => (k, V k))

/-- value function after `sources[s].append(e)` -/
def updV (e : Equation) (V : Nat → List Equation) (s : Nat) : Nat → List Equation :=
  fun k => if k = s then V k ++ [e] else V k

theorem dictOf_updV_of_not_mem (e : Equation) {K : List Nat} (V : Nat → List Equation) {s : Nat}
    (hs : s ∉ K) : dictOf K (updV e V s) = dictOf K V :=
  List.map_congr_left (fun k hk => by rw [updV, if_neg (fun h : k = s => hs (h ▸ hk))])

theorem addSource_dictOf (e : Equation) (K : List Nat) (V : Nat → List Equation) (s : Nat)
    (hK : K.Nodup) (hV : s ∉ K → V s = []) :
    addSource e (dictOf K V) s = dictOf (faStep K s) (updV e V s) := by
  induction K with
  | nil => simp [dictOf, addSource, faStep, updV, hV List.not_mem_nil]
  | cons k K ih =>
    rw [List.nodup_cons] at hK
    by_cases hks : k = s
    · subst hks
      rw [faStep_of_mem List.mem_cons_self]
      have := dictOf_updV_of_not_mem e V hK.1
      simp only [dictOf, List.map_cons, addSource, if_true, updV] at this ⊢
      rw [this]
    · have := ih hK.2 (fun h => hV (fun h' => (List.mem_cons.mp h').elim (fun e => hks e.symm) h))
      have hf : faStep (k :: K) s = k :: faStep K s := by
        by_cases h : s ∈ K
        · rw [faStep_of_mem h, faStep_of_mem (List.mem_cons_of_mem _ h)]
        · rw [faStep_of_not_mem h, faStep_of_not_mem (fun h' => (List.mem_cons.mp h').elim
            (fun e => hks e.symm) h)]
          rfl
      simp only [hf, dictOf, List.map_cons, addSource, hks, if_false, updV] at this ⊢
      rw [this]

def srcDict (g : List Equation) : List (Nat × List Equation) :=
  dictOf (firstAppearance (g.flatMap (·.sources)))
    (fun s => g.filter (fun e => e.sources.contains s))

/-- `_make_data` for one destination in closed form: plain filters of the user's list -/
def specData (p : List Equation) (d : Nat) : DestData :=
  let g := p.filter (fun e => e.dest == d)
  ⟨g.filter (·.noSource), srcDict g, g⟩

theorem srcDict_snoc (g : List Equation) (e : Equation) (hs : e.sources.Nodup) :
    e.sources.foldl (addSource e) (srcDict g) = srcDict (g ++ [e]) := by
  -- after the sources `done` of `e`: the keys in order of first appearance, `e` filed under `done`
  have key := foldl_prefix_inv (addSource e)
    (fun m done => m = dictOf (firstAppearance (g.flatMap (·.sources) ++ done))
      (fun s => g.filter (fun e => e.sources.contains s) ++ if done.contains s then [e] else []))
    e.sources (srcDict g) (by simp [srcDict]) ?_
  · rw [key]
    simp [srcDict, dictOf, List.filter_append, List.filter_cons]
  · intro m done s rest hl hm
    have hsd : s ∉ done := not_mem_done (hl ▸ hs)
    rw [hm, addSource_dictOf e _ _ s (firstAppearance_nodup _), ← firstAppearance_snoc,
      List.append_assoc]
    · apply List.map_congr_left
      intro k _
      by_cases hks : k = s
      · subst hks
        simp [updV, hsd]
      · simp [updV, hks]
    · intro hk
      rw [mem_firstAppearance, List.mem_append, List.mem_flatMap, not_or] at hk
      simp only [hsd, List.contains_eq_mem, decide_false, Bool.false_eq_true, if_false,
        List.append_nil, List.filter_eq_nil_iff]
      exact fun a ha hc => hk.1 ⟨a, ha, by simpa using hc⟩

/-- all branches at once: an equation without sources has nothing to add to the `sources` dict -/
theorem destDataStep_eq (d : Nat) (dd : DestData) (e : Equation) :
    destDataStep d dd e =
      if e.dest = d then
        ⟨dd.noSrc ++ (if e.noSource then [e] else []), e.sources.foldl (addSource e) dd.sources,
          if dd.all.contains e then dd.all else dd.all ++ [e]⟩
      else dd := by
  unfold destDataStep
  by_cases hd : e.dest = d
  · by_cases hns : e.noSource
    · have : e.sources = [] := by simpa [Equation.noSource] using hns
      simp [hd, hns, this]
    · simp [hd, hns]
  · simp [hd]

/-- whatever the lists hold (no `Nodup` needed): the step of `megagroup_sublists` -/
theorem destDataStep_sublist (d : Nat) (dd : DestData) (e : Equation) :
    (destDataStep d dd e).all.Sublist (dd.all ++ [e]) ∧
    (destDataStep d dd e).noSrc.Sublist (dd.noSrc ++ [e]) := by
  rw [destDataStep_eq]
  split
  · refine ⟨?_, List.Sublist.append (List.Sublist.refl _) ?_⟩
    · dsimp only
      split
      · exact List.sublist_append_left _ _
      · exact List.Sublist.refl _
    · split
      · exact List.Sublist.refl _
      · exact List.nil_sublist _
  · exact ⟨List.sublist_append_left _ _, List.sublist_append_left _ _⟩

theorem destDataStep_specData (p : List Equation) (d : Nat) (e : Equation)
    (hnd : e ∉ p) (hs : e.sources.Nodup) :
    destDataStep d (specData p d) e = specData (p ++ [e]) d := by
  rw [destDataStep_eq]
  by_cases hd : e.dest = d
  · have hc : (p.filter (fun e => e.dest == d)).contains e = false := by
      simpa using fun h _ => hnd h
    simp only [specData, hd, if_true, hc, Bool.false_eq_true, if_false, srcDict_snoc _ e hs]
    simp [List.filter_append, List.filter_cons, hd]
  · simp [specData, List.filter_append, hd]

theorem makeDest_eq (eqs : List Equation) (d : Nat) (hnd : eqs.Nodup)
    (hs : ∀ e ∈ eqs, e.sources.Nodup) : makeDest eqs d = specData eqs d :=
  foldl_prefix_inv (destDataStep d) (fun dd done => dd = specData done d) eqs _ rfl
    fun _ done e _ hl hdd => by
      subst hl hdd
      exact destDataStep_specData done d e
        (not_mem_done hnd) (hs e (by simp))

theorem makeData_eq (eqs : List Equation) (hnd : eqs.Nodup) (hs : ∀ e ∈ eqs, e.sources.Nodup) :
    makeData eqs = (firstAppearance (eqs.map (·.dest))).map (fun d => (d, specData eqs d)) := by
  unfold makeData
  rw [destList_eq]
  exact List.map_congr_left (fun d _ => by rw [makeDest_eq eqs d hnd hs])

theorem isEmpty_makeData (eqs : List Equation) : (makeData eqs).isEmpty = eqs.isEmpty := by
  unfold makeData
  rw [destList_eq]
  cases eqs <;> rfl

theorem doDest_specData (O : Oracle) (a : Attrs) (eqs : List Equation) (d : Nat) (h : Hist) :
    doDest O a (d, specData eqs d) h = specDest O a eqs d h := by
  unfold doDest specDest specData initParticle noSrcParticle postLoopParticle
  simp only
  generalize destRange O h a d = rng
  generalize eqs.filter (fun e => e.dest == d) = g
  have noSrcGuard : ∀ {g' : List Equation},
      (!g'.isEmpty && hasCode g' .loop) = false → hasCode g' .loop = false := by
    intro g' hk
    cases g' with
    | nil => rfl
    | cons => simpa using hk
  rw [guardedLoop_callAll id, guardedLoop_callAll noSrcGuard, guardedLoop_callAll id,
    guardedIf_callAll id, callAll_eq_specCalls, srcDict, dictOf, forEach_map,
    forEach_congr (fun s _ => doSource_eq O d rng g s)]

theorem doGroup_eq (O : Oracle) (gid : GId) (a : Attrs) (eqs : List Equation)
    (hnd : eqs.Nodup) (hs : ∀ e ∈ eqs, e.sources.Nodup) :
    doGroup O gid a (makeData eqs) = specGroup O gid a eqs := by
  funext h
  unfold doGroup specGroup
  rw [makeData_eq eqs hnd hs, forEach_map, forEach_congr (fun d _ => doDest_specData O a eqs d)]

def onePass (O : Oracle) (a : Attrs) (convEqs : List Equation) (body : Hist → Hist)
    (count : Nat) (h : Hist) : Hist :=
  if a.minIter ≤ count then (queryConv O convEqs (body h)).1 else body h

/-- the generated check `count >= min and (converged or count == max)` after the pass numbered
`count` that started from history `h` -/
def stopsAfter (O : Oracle) (a : Attrs) (convEqs : List Equation) (body : Hist → Hist)
    (count : Nat) (h : Hist) : Bool :=
  decide (a.minIter ≤ count) && ((queryConv O convEqs (body h)).2 || count == a.maxIter)

def passes (O : Oracle) (a : Attrs) (convEqs : List Equation) (body : Hist → Hist) :
    Nat → Nat → Hist → Hist
  | 0, _, h => h
  | n + 1, count, h => passes O a convEqs body n (count + 1) (onePass O a convEqs body count h)

section iteration
variable (O : Oracle) (gid : GId) (a : Attrs) (convEqs : List Equation) (body : Hist → Hist)

theorem implIter_succ (fuel count : Nat) (h : Hist) :
    implIter O gid a convEqs body (fuel + 1) count h =
      if stopsAfter O a convEqs body count h then onePass O a convEqs body count h
      else implIter O gid a convEqs body fuel (count + 1) (onePass O a convEqs body count h) := by
  simp only [implIter, stopsAfter, onePass]
  by_cases hle : a.minIter ≤ count <;> simp [hle]

theorem specIter_zero (count : Nat) (h : Hist) :
    specIter O a convEqs body 0 count h = onePass O a convEqs body count h := by
  simp only [specIter, onePass]
  by_cases hle : a.minIter ≤ count <;> simp [hle, Nat.not_lt.mpr, Nat.lt_of_not_le]

theorem specIter_succ (rem count : Nat) (h : Hist) :
    specIter O a convEqs body (rem + 1) count h =
      if a.minIter ≤ count ∧ (queryConv O convEqs (body h)).2 = true then
        onePass O a convEqs body count h
      else specIter O a convEqs body rem (count + 1) (onePass O a convEqs body count h) := by
  simp only [specIter, onePass]
  by_cases hle : a.minIter ≤ count <;> simp [hle, Nat.not_lt.mpr, Nat.lt_of_not_le]

theorem stopsAfter_iff (count : Nat) (h : Hist) :
    stopsAfter O a convEqs body count h = true ↔
      a.minIter ≤ count ∧ ((queryConv O convEqs (body h)).2 = true ∨ count = a.maxIter) := by
  simp [stopsAfter]

theorem implIter_diverged (fuel count : Nat) (h : Hist)
    (hnever : ∀ c h, count ≤ c → stopsAfter O a convEqs body c h = false) :
    implIter O gid a convEqs body fuel count h =
      Event.diverged gid :: passes O a convEqs body fuel count h := by
  induction fuel generalizing count h with
  | zero => rfl
  | succ f ih =>
    rw [implIter_succ, hnever count h (Nat.le_refl _)]
    exact ih _ _ (fun c h hc => hnever c h (Nat.le_of_succ_le hc))

theorem implIter_passes (rem fuel count : Nat) (h : Hist)
    (hsum : count + rem = a.maxIter) (hmin : a.minIter ≤ a.maxIter) (hfuel : rem + 1 ≤ fuel) :
    ∃ n, n ≤ rem ∧
      (∀ j, j < n →
        stopsAfter O a convEqs body (count + j) (passes O a convEqs body j count h) = false) ∧
      stopsAfter O a convEqs body (count + n) (passes O a convEqs body n count h) = true ∧
      implIter O gid a convEqs body fuel count h = passes O a convEqs body (n + 1) count h ∧
      specIter O a convEqs body rem count h = passes O a convEqs body (n + 1) count h := by
  induction fuel generalizing rem count h with
  | zero => exact absurd hfuel (Nat.not_succ_le_zero _)
  | succ f ih =>
    rw [implIter_succ]
    cases rem with
    | zero =>
      obtain rfl : count = a.maxIter := hsum
      have hs := (stopsAfter_iff O a convEqs body a.maxIter h).mpr ⟨hmin, .inr rfl⟩
      exact ⟨0, Nat.le_refl 0, fun j hj => absurd hj (Nat.not_lt_zero j), hs, if_pos hs,
        specIter_zero O a convEqs body _ h⟩
    | succ r =>
      -- below `max` the documented test "all converged, at least `min` passes" is the generated one
      have hiff := (stopsAfter_iff O a convEqs body count h).trans
        (and_congr_right' (or_iff_left (show count ≠ a.maxIter by omega)))
      rw [specIter_succ]
      cases hs : stopsAfter O a convEqs body count h with
      | true =>
        exact ⟨0, Nat.zero_le _, fun j hj => absurd hj (Nat.not_lt_zero j), hs, rfl,
          if_pos (hiff.mp hs)⟩
      | false =>
        rw [if_neg fun hc => Bool.false_ne_true (hs.symm.trans (hiff.mpr hc))]
        obtain ⟨n, hn, hbefore, hstop, heq⟩ := ih r (count + 1) (onePass O a convEqs body count h)
          (by rw [Nat.add_right_comm]; exact hsum) (Nat.le_of_succ_le_succ hfuel)
        refine ⟨n + 1, Nat.succ_le_succ hn, fun j hj => ?_, ?_, heq⟩
        · cases j with
          | zero => exact hs
          | succ j =>
            have := hbefore j (Nat.lt_of_succ_lt_succ hj)
            rwa [Nat.add_right_comm] at this
        · rwa [Nat.add_right_comm] at hstop

theorem wrapIter_eq_specRepeat (fuel : Nat)
    (hok : a.iterOK) (hfuel : a.iterate = true → a.maxIter ≤ fuel) :
    wrapIter O fuel gid a convEqs body = specRepeat O a convEqs body := by
  funext h
  unfold wrapIter specRepeat
  split
  · rename_i hi
    obtain ⟨h1, h2⟩ := hok hi
    obtain ⟨n, _, _, _, himpl, hspec⟩ := implIter_passes O gid a convEqs body (a.maxIter - 1) fuel 1 h
      (Nat.add_sub_cancel' h1) h2 (Nat.sub_add_cancel h1 ▸ hfuel hi)
    exact himpl.trans hspec.symm
  · rfl

end iteration

/-- the documented reading of a top-level group without equations, in `doTop_eq` -/
theorem specIter_id (O : Oracle) (a : Attrs) (rem count : Nat) (h : Hist) :
    specIter O a [] (fun h => h) rem count h = h := by
  induction rem generalizing count with
  | zero => simp [specIter, queryConv]
  | succ r ih => simp [specIter, queryConv, ih]

theorem doSub_eq (O : Oracle) (gi : Nat) (sk : Leaf × Nat) (hwf : sk.1.WF) :
    doSub O gi sk = specSub O gi sk := by
  unfold doSub specSub
  rw [doGroup_eq O _ _ _ hwf.1 hwf.2]

theorem parentBody_eq (O : Oracle) (gi : Nat) (a : Attrs) (subs : List Leaf)
    (hwf : ∀ l ∈ subs, l.WF) : parentBody O gi a subs = specParentBody O gi a subs := by
  funext h
  unfold parentBody specParentBody
  rw [forEach_congr (fun sk hsk =>
    congrFun (doSub_eq O gi sk (hwf sk.1 (List.fst_mem_of_mem_zipIdx hsk))))]

theorem doTop_eq (O : Oracle) (fuel : Nat) (tg : Top × Nat) (hwf : tg.1.WF)
    (hfuel : tg.1.maxIter ≤ fuel) (h : Hist) : doTop O fuel tg h = specTop O tg h := by
  obtain ⟨g, gi⟩ := tg
  cases g with
  | leaf l =>
    obtain ⟨hl, hit, hsil⟩ := hwf
    simp only [doTop, specTop, isEmpty_makeData]
    by_cases hemp : l.eqs = []
    · -- the template skips the group; the documented order runs it, but it is silent
      obtain ⟨h1, h2, h3, h4⟩ := hsil hemp
      have hid : specGroup O ⟨gi, none⟩ l.attrs [] = fun h => h := by
        funext h
        simp [specGroup, emitIf, h2, h3, h4, firstAppearance]
      simp only [hemp, List.isEmpty_nil, if_true, wrapCond, h1, Bool.false_eq_true, if_false,
        specRepeat, hid]
      split
      · exact (specIter_id O l.attrs _ _ h).symm
      · rfl
    · rw [if_neg (by simpa using hemp), wrapIter_eq_specRepeat O _ _ _ _ fuel hit (fun _ => hfuel),
        doGroup_eq O ⟨gi, none⟩ l.attrs l.eqs hl.1 hl.2]
  | parent a subs =>
    obtain ⟨hit, hsubs⟩ := hwf
    simp only [doTop, specTop]
    rw [wrapIter_eq_specRepeat O _ _ _ _ fuel hit (fun _ => hfuel), parentBody_eq O gi a subs hsubs]

/-- calls of equation methods (as opposed to group-level events) -/
def Event.isHook : Event → Bool
  | .pyInit .. | .init .. | .loopNoSrc .. | .initPair .. | .loopAll .. | .loop .. | .postLoop ..
  | .reduce .. => true
  | _ => false

/-- destination array and destination particle index of a per-particle call -/
def Event.particle? : Event → Option (Nat × Nat)
  | .init _ d i | .loopNoSrc _ d i | .initPair _ d _ i | .loopAll _ d _ i _ | .loop _ d _ i _
  | .postLoop _ d i => some (d, i)
  | _ => none

def Ext (P : Event → Prop) (h h' : Hist) : Prop := ∃ new, h' = new ++ h ∧ ∀ e ∈ new, P e

theorem Ext.refl {P : Event → Prop} (h : Hist) : Ext P h h := ⟨[], rfl, by simp⟩

theorem Ext.trans {P : Event → Prop} {a b c : Hist} (h1 : Ext P a b) (h2 : Ext P b c) :
    Ext P a c := by
  obtain ⟨n1, rfl, p1⟩ := h1
  obtain ⟨n2, rfl, p2⟩ := h2
  exact ⟨n2 ++ n1, (List.append_assoc ..).symm,
    fun e he => (List.mem_append.mp he).elim (p2 e) (p1 e)⟩

theorem Ext.mono {P Q : Event → Prop} (hPQ : ∀ e, P e → Q e) {h h' : Hist} (hx : Ext P h h') :
    Ext Q h h' :=
  hx.imp fun _ hn => ⟨hn.1, fun e he => hPQ e (hn.2 e he)⟩

theorem ext_forEach {α : Type} {P : Event → Prop} (l : List α) (f : α → Hist → Hist)
    (hf : ∀ a ∈ l, ∀ h, Ext P h (f a h)) (h : Hist) : Ext P h (forEach l f h) := by
  rw [forEach_eq_foldl]
  exact List.foldlRecOn l _ (Ext.refl h) fun h' hh' a ha => hh'.trans (hf a ha h')

theorem ext_callAll {P : Event → Prop} (g : List Equation) (k : Hook) (mk : Equation → Event)
    (hmk : ∀ e, P (mk e)) (h : Hist) : Ext P h (callAll g k mk h) :=
  ⟨_, callAll_eq_specCalls g k mk ▸ specCalls_eq g k mk h, fun e he => by
    obtain ⟨x, _, rfl⟩ := List.mem_map.mp (List.mem_reverse.mp he)
    exact hmk x⟩

theorem ext_guardedIf {P : Event → Prop} (b : Bool) (f : Hist → Hist)
    (hf : ∀ h, Ext P h (f h)) (h : Hist) : Ext P h (guardedIf b f h) := by
  cases b
  · exact Ext.refl h
  · exact hf h

theorem ext_guardedLoop {α : Type} {P : Event → Prop} (b : Bool) (l : List α)
    (f : α → Hist → Hist) (hf : ∀ a ∈ l, ∀ h, Ext P h (f a h)) (h : Hist) :
    Ext P h (guardedLoop b l f h) :=
  ext_guardedIf b (forEach l f) (ext_forEach l f hf) h

/-- what a destination `D` whose index range was set up as `rng` may emit -/
def DestCall (D : Nat) (rng : List Nat) (e : Event) : Prop :=
  e.isHook = true ∧ ∀ d i, e.particle? = some (d, i) → d = D ∧ i ∈ rng

theorem DestCall.particle {D : Nat} {rng : List Nat} {i : Nat} (hi : i ∈ rng) {e : Event}
    (hh : e.isHook = true) (hp : e.particle? = some (D, i)) : DestCall D rng e :=
  ⟨hh, fun d j hj => by rw [hp] at hj; cases hj; exact ⟨rfl, hi⟩⟩

theorem DestCall.array {D : Nat} {rng : List Nat} {e : Event}
    (hh : e.isHook = true) (hp : e.particle? = none) : DestCall D rng e :=
  ⟨hh, fun d j hj => by rw [hp] at hj; cases hj⟩

theorem ext_doSource (O : Oracle) (D : Nat) (rng : List Nat) (sg : Nat × List Equation)
    (h : Hist) : Ext (DestCall D rng) h (doSource O D rng sg h) := by
  unfold doSource
  refine Ext.trans (ext_guardedLoop _ _ _ (fun i hi h => ?_) h) (ext_guardedLoop _ _ _ ?_ _)
  · exact ext_callAll _ _ _ (fun e => .particle hi rfl rfl) h
  · intro i hi h
    unfold srcParticle
    refine Ext.trans (ext_guardedIf _ _ (fun h => ?_) h) (ext_guardedLoop _ _ _ (fun j _ h => ?_) _)
    · exact ext_callAll _ _ _ (fun e => .particle hi rfl rfl) h
    · exact ext_callAll _ _ _ (fun e => .particle hi rfl rfl) h

theorem ext_doDest (O : Oracle) (a : Attrs) (ddd : Nat × DestData) (h : Hist) :
    Ext (DestCall ddd.1 (destRange O h a ddd.1)) h (doDest O a ddd h) := by
  unfold doDest
  simp only
  generalize destRange O h a ddd.1 = rng
  have perParticle : ∀ (g : List Equation) (k : Hook) (mk : Nat → Equation → Event),
      (∀ i e, (mk i e).isHook = true ∧ (mk i e).particle? = some (ddd.1, i)) →
      ∀ b h, Ext (DestCall ddd.1 rng) h (guardedLoop b rng (fun i => callAll g k (mk i)) h) :=
    fun g k mk hmk b h => ext_guardedLoop _ _ _ (fun i hi h =>
      ext_callAll _ _ _ (fun e => .particle hi (hmk i e).1 (hmk i e).2) h) h
  refine Ext.trans ?_ (ext_guardedIf _ _ (ext_callAll _ _ _ (fun e => .array rfl rfl)) _)
  refine Ext.trans ?_ (perParticle _ _ (fun i e => .postLoop e.id ddd.1 i) (fun _ _ => ⟨rfl, rfl⟩) _ _)
  refine Ext.trans ?_ (ext_forEach _ _ (fun sg _ => ext_doSource O _ rng sg) _)
  refine Ext.trans ?_ (perParticle _ _ (fun i e => .loopNoSrc e.id ddd.1 i) (fun _ _ => ⟨rfl, rfl⟩) _ _)
  refine Ext.trans ?_ (perParticle _ _ (fun i e => .init e.id ddd.1 i) (fun _ _ => ⟨rfl, rfl⟩) _ _)
  exact ext_callAll _ _ _ (fun e => .array rfl rfl) h

theorem emitIf_eq (b : Bool) (e : Event) (h : Hist) :
    emitIf b e h = (if b then [e] else []) ++ h := by
  cases b <;> rfl

theorem doGroup_shape (O : Oracle) (gid : GId) (a : Attrs) (data : List (Nat × DestData))
    (h : Hist) :
    ∃ mid, (∀ e ∈ mid, e.isHook = true) ∧
      doGroup O gid a data h =
        (if a.hasPost then [Event.post gid] else []) ++
        (if a.updateNnps then [Event.nnps gid] else []) ++ mid ++
        (if a.hasPre then [Event.pre gid] else []) ++ h := by
  obtain ⟨mid, e1, p1⟩ := ext_forEach (P := fun e => e.isHook = true) data (doDest O a)
    (fun ddd _ h => (ext_doDest O a ddd h).mono fun _ he => he.1)
    (emitIf a.hasPre (.pre gid) h)
  refine ⟨mid, p1, ?_⟩
  unfold doGroup
  rw [e1]
  simp only [emitIf_eq, List.append_assoc]

instance (l : Leaf) : Decidable l.WF := by unfold Leaf.WF; infer_instance
instance (a : Attrs) : Decidable a.silent := by unfold Attrs.silent; infer_instance
instance (a : Attrs) : Decidable a.iterOK := by unfold Attrs.iterOK; infer_instance
instance (g : Top) : Decidable g.WF := by cases g <;> (unfold Top.WF; infer_instance)
instance (P : Program) : Decidable P.WF := by unfold Program.WF; infer_instance

/-! Group names are never read: every definition of the model goes through the other fields of
`Attrs` and through the position `GId`.  Below the iteration wrapper this holds by unfolding
(`a.eraseName` has the same other fields as `a`); the two iteration loops recurse, so for them it
is an induction. -/

theorem implIter_eraseName (O : Oracle) (gid : GId) (a : Attrs) (convEqs : List Equation)
    (body : Hist → Hist) (fuel count : Nat) (h : Hist) :
    implIter O gid a.eraseName convEqs body fuel count h
      = implIter O gid a convEqs body fuel count h := by
  induction fuel generalizing count h with
  | zero => rfl
  | succ f ih => simp only [implIter_succ, ih]; rfl

theorem specIter_eraseName (O : Oracle) (a : Attrs) (convEqs : List Equation)
    (body : Hist → Hist) (rem count : Nat) (h : Hist) :
    specIter O a.eraseName convEqs body rem count h = specIter O a convEqs body rem count h := by
  induction rem generalizing count h with
  | zero => rfl
  | succ r ih => simp only [specIter_succ, ih]; rfl

theorem wrapIter_eraseName (O : Oracle) (fuel : Nat) (gid : GId) (a : Attrs) :
    wrapIter O fuel gid a.eraseName = wrapIter O fuel gid a := by
  funext convEqs body h
  unfold wrapIter
  rw [implIter_eraseName]
  rfl

theorem specRepeat_eraseName (O : Oracle) (a : Attrs) :
    specRepeat O a.eraseName = specRepeat O a := by
  funext convEqs body h
  unfold specRepeat
  rw [specIter_eraseName]
  rfl

theorem parentBody_eraseNames (O : Oracle) (gi : Nat) (a : Attrs) (subs : List Leaf) :
    parentBody O gi a.eraseName (subs.map Leaf.eraseNames) = parentBody O gi a subs := by
  funext h
  unfold parentBody
  rw [forEach_zipIdx_map]
  rfl

theorem specParentBody_eraseNames (O : Oracle) (gi : Nat) (a : Attrs) (subs : List Leaf) :
    specParentBody O gi a.eraseName (subs.map Leaf.eraseNames) = specParentBody O gi a subs := by
  funext h
  unfold specParentBody
  rw [forEach_zipIdx_map]
  rfl

theorem flatMap_eqs_eraseNames (subs : List Leaf) :
    (subs.map Leaf.eraseNames).flatMap (·.eqs) = subs.flatMap (·.eqs) := by
  rw [List.flatMap_map]
  rfl

theorem doTop_eraseNames (O : Oracle) (fuel : Nat) (t : Top) (i : Nat) (h : Hist) :
    doTop O fuel (t.eraseNames, i) h = doTop O fuel (t, i) h := by
  cases t with
  | leaf l =>
    simp only [Top.eraseNames, Leaf.eraseNames, doTop, wrapIter_eraseName]
    rfl
  | parent a subs =>
    simp only [Top.eraseNames, doTop, wrapIter_eraseName, flatMap_eqs_eraseNames,
      parentBody_eraseNames]
    rfl

theorem specTop_eraseNames (O : Oracle) (t : Top) (i : Nat) (h : Hist) :
    specTop O (t.eraseNames, i) h = specTop O (t, i) h := by
  cases t with
  | leaf l =>
    simp only [Top.eraseNames, Leaf.eraseNames, specTop, specRepeat_eraseName]
    rfl
  | parent a subs =>
    simp only [Top.eraseNames, specTop, specRepeat_eraseName, flatMap_eqs_eraseNames,
      specParentBody_eraseNames]
    rfl

theorem implRun_eraseNames (O : Oracle) (fuel : Nat) (P : Program) (h : Hist) :
    implRun O fuel P.eraseNames h = implRun O fuel P h := by
  rcases P with eqs | _ | ⟨g, gs⟩
  · rfl
  · rfl
  · show forEach ((g :: gs).map Top.eraseNames).zipIdx (doTop O fuel) h = _
    rw [forEach_zipIdx_map]
    exact forEach_congr (fun p _ h => doTop_eraseNames O fuel p.1 p.2 h) h

theorem specRun_eraseNames (O : Oracle) (P : Program) (h : Hist) :
    specRun O P.eraseNames h = specRun O P h := by
  cases P with
  | flat eqs => rfl
  | groups gs =>
    show forEach (gs.map Top.eraseNames).zipIdx (specTop O) h = _
    rw [forEach_zipIdx_map]
    exact forEach_congr (fun p _ h => specTop_eraseNames O p.1 p.2 h) h

namespace Example
/-- two arrays (0: 2 real + 1 ghost, 1: 3 real), an iterated group with two destinations and a
source-free equation, then a conditional group with two sub-groups (second over ghosts too,
named start) -/
def prog : Program := .groups [
  .leaf ⟨{ iterate := true, minIter := 2, maxIter := 3, hasPre := true, updateNnps := true },
    [⟨1, 1, [0, 1], [.pyInit, .init, .loop, .postLoop]⟩, ⟨2, 0, [], [.loop, .reduce]⟩,
     ⟨3, 1, [1], [.initPair, .loopAll, .loop]⟩]⟩,
  .parent { hasCond := true, hasPost := true }
    [⟨{ stop := some (.num 1) }, [⟨4, 0, [1], [.loopAll, .reduce]⟩]⟩,
     ⟨{ real := false, start := .named 0, hasCond := true, hasPre := true }, [⟨5, 0, [0], [.init, .loop]⟩]⟩]]

/-- a history-dependent oracle: convergence once 60 calls have been made, neighbours and sizes
change once 30 calls have been made (in the middle of the first pass over `prog`, whose first
NNPS refresh is call 36), the second sub-group's condition fails -/
def oracle : Oracle where
  cond _ g := g.sub != some 1 || g.top != 1
  conv h e := decide (60 < h.length) || e == 2
  size h a real := if a == 0 then (if real then 2 else 3) else (if h.length < 30 then 3 else 2)
  named _ _ _ := 1
  nbrs h _ s i := if h.length < 30 then [i, s] else [s]

/-- shared labels: two top-level groups labelled `density` (the first one's
condition fails, the second one's holds), and a group `outer` whose two sub-groups are both
labelled `correct` (first condition holds, second fails) — one label is also shared between
a top-level group and a sub-group of another parent -/
def sameNames : Program := .groups [
  .leaf ⟨{ name := some "density", hasCond := true, hasPre := true, hasPost := true },
    [⟨1, 0, [], [.init]⟩]⟩,
  .leaf ⟨{ name := some "density", hasCond := true, hasPre := true, hasPost := true },
    [⟨2, 0, [], [.init]⟩]⟩,
  .parent { name := some "outer", hasPre := true, hasPost := true }
    [⟨{ name := some "correct", hasCond := true, hasPre := true, hasPost := true },
       [⟨3, 0, [], [.init]⟩]⟩,
     ⟨{ name := some "correct", hasCond := true, hasPre := true, hasPost := true },
       [⟨4, 0, [], [.init]⟩]⟩],
  .parent { name := some "correct" }
    [⟨{ name := some "density", hasCond := true, hasPost := true }, [⟨5, 0, [], [.init]⟩]⟩]]

/-- conditions by POSITION: group 0 False, group 1 True, 2.0 True, 2.1 False, 3.0 True; one
particle per array -/
def posOracle : Oracle where
  cond _ g := g = ⟨1, none⟩ || g = ⟨2, some 0⟩ || g = ⟨3, some 0⟩
  conv _ _ := true
  size _ _ _ := 1
  named _ _ _ := 0
  nbrs _ _ _ _ := []

def emptyWithPre : Program := .groups [.leaf ⟨{ hasPre := true }, []⟩]
def minGtMax : Program :=
  .groups [.leaf ⟨{ iterate := true, minIter := 3, maxIter := 2 }, [⟨1, 0, [], [.reduce]⟩]⟩]
end Example

end PysphVerif.Schedule
