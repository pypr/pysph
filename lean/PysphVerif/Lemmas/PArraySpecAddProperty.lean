import PysphVerif.Lemmas.PArraySpecColumns
/-!
`add_property` at the record level.  Declaring the name (`addPA1_view`) changes no record; a new
name then gets its column of defaults.  With data, the named column is written
(`InvP.setCol_abs`) into `addBase`: the array with the name declared and, if it was empty, every
column filled with defaults for as many rows as the data has (`fillPA_view`).
-/
namespace PysphVerif.PArray

/-- the stride `add_property` leaves for the name -/
def addStride (pa : PA) (name : String) (stride : Nat) : Nat :=
  if pa.hasProp name then (if stride = 1 then pa.strideOf name else stride) else stride

theorem addStride_new {pa : PA} {name : String} (hp : ¬ pa.hasProp name = true) (stride : Nat) :
    addStride pa name stride = stride := if_neg hp

theorem addStride_own {pa : PA} {name : String} {stride : Nat} (hp : pa.hasProp name = true)
    (h : stride = 1 ∨ stride = pa.strideOf name) : addStride pa name stride = pa.strideOf name := by
  unfold addStride
  rw [if_pos hp]
  rcases h with e | e
  · rw [if_pos e]
  · split
    · rfl
    · exact e

theorem zipWith_replicate_right {β γ δ : Type} (f : β → γ → δ) (x : γ) (l : List β) :
    List.zipWith f l (List.replicate l.length x) = l.map (fun r => f r x) := by
  rw [← List.map_const', List.zipWith_map_right, List.zipWith_self]

theorem addPA1_view {pa : PA} {name : String} {stride : Nat} (h : Inv pa) (dflt : Option Int)
    (ok : AddOk pa name stride) :
    InvP pa.props (addPA1 pa name dflt stride).stride (addPA1 pa name dflt stride).defaults name pa.n ∧
    (∀ x, x ≠ name → (addPA1 pa name dflt stride).strideOf x = pa.strideOf x) ∧
    (addPA1 pa name dflt stride).strideOf name = addStride pa name stride ∧
    (addPA1 pa name dflt stride).defaultOf name = addDv pa name dflt ∧
    (∀ X, setKey (defaultParticle (addPA1 pa name dflt stride)) name X =
      setKey (defaultParticle pa) name X) ∧
    particles (addPA1 pa name dflt stride) = particles pa := by
  have hP := addPA1_invP h dflt ok
  have hso : ∀ x, x ≠ name → (addPA1 pa name dflt stride).strideOf x = pa.strideOf x :=
    fun x hx => lookupD_strideSet_ne _ _ _ _ hx
  have hsn : (addPA1 pa name dflt stride).strideOf name = addStride pa name stride := by
    unfold addStride
    split
    · exact lookupD_strideSet_self _ _ _
    · rename_i hp
      exact lookupD_strideSet_new h.toF name stride (fun hm => hp ((hasProp_iff pa name).mpr hm))
  have hn : (addPA1 pa name dflt stride).n = pa.n := InvP.n_eq (q := addPA1 pa name dflt stride) hP
  refine ⟨hP, hso, hsn, lookupD_setKey_self _ _ _ _, fun X => ?_, ?_⟩
  · refine setKey_map_congr _ _ _ _ _ (fun c _ e => ?_)
    unfold defaultRow PA.defaultOf
    rw [hso _ e]
    exact congrArg _ (lookupD_setKey_ne _ _ _ _ _ e)
  · by_cases hn0 : pa.n = 0
    · rw [particles_of_n_zero _ hn0, particles_of_n_zero _ (hn.trans hn0)]
    · unfold particles particleAt
      rw [hn]
      refine List.map_congr_left (fun k _ => List.map_congr_left (fun c hc => ?_))
      by_cases e : c.name = name
      · have hmem : name ∈ pa.props.map Col.name := e ▸ List.mem_map_of_mem hc
        rw [e, hsn, addStride_own ((hasProp_iff pa name).mpr hmem)
          ((ok.own hmem).imp_right (·.resolve_right hn0))]
      · rw [hso _ e]

theorem addProperty_nodata_abs {pa : PA} {name : String} {stride : Nat} (h : Inv pa)
    (ok : AddOk pa name stride) (ctype : String) (dflt : Option Int) :
    ∃ pa', pa.addProperty name ctype dflt none stride = some pa' ∧ Inv pa' ∧ pa'.n = pa.n ∧
    (∀ x, x ≠ name → pa'.strideOf x = pa.strideOf x) ∧
    pa'.strideOf name = addStride pa name stride ∧
    pa'.props.map Col.name = (if pa.hasProp name then pa.props.map Col.name
      else pa.props.map Col.name ++ [name]) ∧
    absPA pa' =
      ⟨setKey (absPA pa).dflt name (List.replicate (addStride pa name stride) (addDv pa name dflt)),
       if pa.hasProp name then (absPA pa).recs
       else (absPA pa).recs.map (fun r => r ++
         [(name, List.replicate (addStride pa name stride) (addDv pa name dflt))])⟩ := by
  obtain ⟨hP, hso, hsn, hdn, hdp, hpt⟩ := addPA1_view h dflt ok
  have hdr : defaultRow (addPA1 pa name dflt stride) name =
      List.replicate (addStride pa name stride) (addDv pa name dflt) := by
    unfold defaultRow; rw [hsn, hdn]
  rw [addProperty_nodata]
  by_cases hp : pa.hasProp name = true
  · -- an existing name: the array is `addPA1`; no record changes (`hpt`), and in the default record
    -- only the row of `name` is rewritten (`setKey_own` puts the entry of its own column back)
    simp only [hp, if_true]
    have hmem := (hasProp_iff pa name).mp hp
    have hF := hP.toF hmem
    refine ⟨_, rfl, hF.toInv (pa := addPA1 pa name dflt stride),
      hF.n_eq (pa := addPA1 pa name dflt stride), hso, hsn, rfl, ?_⟩
    obtain ⟨c, hc, e⟩ := List.mem_map.mp hmem
    show (⟨defaultParticle _, particles _⟩ : RA) = ⟨setKey (defaultParticle pa) _ _, particles pa⟩
    rw [hpt, ← hdr, ← hdp, ← e]
    exact congrArg (RA.mk · _) (setKey_own pa.props h.nodup _ hc).symm
  · -- a new name: the column of `pa.n * stride` defaults is written into the pending name; its rows
    -- are `pa.n` default rows, and setting an absent field appends it (`setKey_new`)
    simp only [hp, Bool.false_eq_true, if_false]
    have hnm : name ∉ pa.props.map Col.name := fun hm => hp ((hasProp_iff pa name).mpr hm)
    obtain ⟨hi, hn, habs⟩ := InvP.setCol_abs (q := addPA1 pa name dflt stride) hP
      ⟨name, ctype, List.replicate (pa.n * stride) (addDv pa name dflt)⟩ rfl
      (by rw [hsn, addStride_new hp, List.length_replicate])
    refine ⟨_, rfl, hi, hn, fun x hx => by unfold PA.strideOf; rw [setCol_stride]; exact hso x hx,
      by unfold PA.strideOf; rw [setCol_stride]; exact hsn,
      by rw [setCol_props, setColL_new _ _ hnm, List.map_append]; rfl, ?_⟩
    rw [habs, hdp, hdr, hpt, hsn, addStride_new hp, rowsOf_replicate _ _ ok.pos,
      ← particles_length pa, zipWith_replicate_right]
    refine congrArg (RA.mk _) (List.map_congr_left (fun r hr => setKey_new r _ _ ?_))
    obtain ⟨k, _, rfl⟩ := List.mem_map.mp hr
    unfold particleAt
    rw [List.map_map]
    exact hnm

theorem zipWith_replicate_left {β γ δ : Type} (f : β → γ → δ) (x : β) (R : List γ) :
    List.zipWith f (List.replicate R.length x) R = R.map (f x) := by
  rw [← List.map_const', List.zipWith_map_left, List.zipWith_self]

theorem specAddDv_abs {pa : PA} (h : Inv pa) (name : String) (dflt : Option Int) :
    specAddDv (absPA pa) name dflt = addDv pa name dflt := by
  unfold addDv specAddDv
  cases dflt with
  | some v => rfl
  | none =>
    simp only [hasProp_keys]
    split
    · rename_i hp
      have hmem := (hasProp_iff pa name).mp hp
      rw [lookupD_absPA_dflt name hmem]
      have := h.stride_pos hmem
      cases hs : pa.strideOf name with
      | zero => omega
      | succ k => rfl
    · rfl

theorem specAddStride_abs (pa : PA) (name : String) (stride : Nat) :
    specAddStride (absPA pa) name stride =
      if pa.hasProp name then pa.strideOf name else stride := by
  unfold specAddStride
  rw [hasProp_keys]
  split
  · rename_i hp
    exact length_lookupD_absPA_dflt name ((hasProp_iff pa name).mp hp)
  · rfl

theorem fillPA_view {q : PA} {pend : String} {m0 : Nat}
    (h : InvP q.props q.stride q.defaults pend m0) (m nr : Nat) :
    defaultParticle (fillPA q m nr) = defaultParticle q ∧
      particles (fillPA q m nr) = List.replicate m (defaultParticle q) := by
  have hd : defaultParticle (fillPA q m nr) = defaultParticle q := by
    unfold defaultParticle fillPA
    rw [List.map_map]; rfl
  refine ⟨hd, ?_⟩
  rw [particles_eq_transpose, (h.fillPA m nr).n_eq]
  unfold defaultParticle
  rw [← transposeCols_replicate]
  show transposeCols m ((q.props.map (fillCol q m)).map _) = _
  rw [List.map_map]
  apply transposeCols_congr
  intro c hc
  show (c.name, rowsOf (q.strideOf c.name) (flat (List.replicate _ (defaultRow _ c.name)))) = _
  have hs : 0 < q.strideOf c.name := (h.len c hc).1
  rw [rowsOf_flat _ hs _
    (fun r hr => by rw [(List.mem_replicate.mp hr).2]; exact defaultRow_length _ c.name)]

theorem addBase_view {pa : PA} {name : String} {stride : Nat} (h : Inv pa) (dflt : Option Int)
    (h1 : 1 ≤ stride) (hpres : name ∈ pa.props.map Col.name → stride = pa.strideOf name)
    (d : List Int) :
    (addBase pa name dflt stride d).strideOf name = stride ∧
    (addBase pa name dflt stride d).defaultOf name = addDv pa name dflt ∧
    (∀ X, setKey (defaultParticle (addBase pa name dflt stride d)) name X =
      setKey (defaultParticle pa) name X) ∧
    particles (addBase pa name dflt stride d) =
      if pa.n = 0 then List.replicate (d.length / stride)
        (defaultParticle (addBase pa name dflt stride d))
      else particles pa := by
  obtain ⟨hP, _, hsn, hdn, hdp, hpt⟩ := addPA1_view h dflt (.of_own h h1 hpres)
  have hs : addStride pa name stride = stride := by
    by_cases hp : pa.hasProp name = true
    · have e := hpres ((hasProp_iff pa name).mp hp)
      rw [addStride_own hp (Or.inr e)]; exact e.symm
    · exact addStride_new hp stride
  rw [hs] at hsn
  by_cases hn0 : pa.n = 0
  · obtain ⟨e1, e2⟩ := fillPA_view (q := addPA1 pa name dflt stride) hP (d.length / stride)
      (if name == "tag" then (d.filter (· == localTag)).length else d.length / stride)
    unfold addBase
    rw [if_pos hn0, if_pos hn0, e1]
    exact ⟨hsn, hdn, hdp, e2⟩
  · unfold addBase
    rw [if_neg hn0, if_neg hn0]
    exact ⟨hsn, hdn, hdp, hpt⟩

theorem addProperty_data_refines {pa : PA} {name ctype : String} {dflt : Option Int}
    {stride : Nat} {d : List Int} (h : Inv pa) (h1 : 1 ≤ stride) (hd : d.length ≠ 0)
    (hpres : name ∈ pa.props.map Col.name → stride = pa.strideOf name)
    (hdiv : d.length % stride = 0) (hlen : pa.n ≠ 0 → d.length = pa.n * stride) :
    ∃ pa', pa.addProperty name ctype dflt (some d) stride = some pa' ∧
      absPA pa' = specAddProperty name dflt (some d) stride (absPA pa) := by
  have hdne : d ≠ [] := fun e => hd (by rw [e]; rfl)
  have hsz : pa.n = 0 ∨ (pa.n = d.length / stride ∧ d.length % stride = 0) := by
    by_cases hn0 : pa.n = 0
    · exact Or.inl hn0
    · exact Or.inr ⟨by rw [hlen hn0, Nat.mul_div_cancel _ (by omega)], hdiv⟩
  have hB := addBase_invP h dflt (.of_own h h1 hpres) d
  obtain ⟨hsn, hdn, hdp, hpt⟩ := addBase_view h dflt h1 hpres d
  rw [addProperty_data _ _ _ _ _ hdne, if_pos hsz]
  -- `m` rows of data go into the named column of `B`, replacing it or appended
  generalize addBase pa name dflt stride d = B at hB hsn hdn hdp hpt ⊢
  generalize hm : (if pa.n = 0 then d.length / stride else pa.n) = m at hB
  have hk : d.length = m * B.strideOf name := by
    rw [hsn, ← hm]; split
    · exact (Nat.div_mul_cancel (Nat.dvd_of_mod_eq_zero hdiv)).symm
    · rename_i hn0; exact hlen hn0
  obtain ⟨c, hc, hcd, hr⟩ : ∃ c : Col, c.name = name ∧ c.data = d ∧
      (match B.col? name with
        | some c => (setData c.data d).map (fun nd => B.setCol { c with data := nd })
        | none => some (B.setCol ⟨name, ctype, d⟩)) = some (B.setCol c) := by
    cases hcol : B.col? name with
    | none => exact ⟨⟨name, ctype, d⟩, rfl, rfl, rfl⟩
    | some c0 =>
      obtain ⟨hc0m, hc0n⟩ := col?_some B name c0 hcol
      have hsd : setData c0.data d = some d := by
        have : c0.data.length = m * B.strideOf name := hc0n ▸ (hB.len c0 hc0m).2
        unfold setData
        rw [if_pos (by omega), List.drop_of_length_le (by omega), List.append_nil]
      exact ⟨{ c0 with data := d }, hc0n, rfl, by simp only [hsd, Option.map_some]⟩
  refine ⟨B.setCol c, hr, ?_⟩
  rw [(hB.setCol_abs c hc (hcd ▸ hk)).2.2, hcd, hdp, hsn]
  have hsl : specAddStride (absPA pa) name stride = stride := by
    rw [specAddStride_abs]; split
    · rename_i hp; exact (hpres ((hasProp_iff pa name).mp hp)).symm
    · rfl
  have hspec : specAddProperty name dflt (some d) stride (absPA pa) =
      if (particles pa).length = 0 then
        ⟨setKey (defaultParticle pa) name (defaultRow B name), (rowsOf stride d).map
          (fun row => setField (setKey (defaultParticle pa) name (defaultRow B name)) name row)⟩
      else ⟨setKey (defaultParticle pa) name (defaultRow B name),
        List.zipWith (fun r row => setField r name row) (particles pa) (rowsOf stride d)⟩ := by
    cases d with
    | nil => exact absurd rfl hdne
    | cons x xs =>
      unfold specAddProperty defaultRow
      simp only [hsl, specAddDv_abs h, hsn, hdn]
      rfl
  rw [hspec, hpt, particles_length]
  by_cases hn0 : pa.n = 0
  · rw [if_pos hn0, if_pos hn0]
    have hrl : (rowsOf stride d).length = d.length / stride := by
      rw [hsn, ← hm, if_pos hn0] at hk
      exact (rowsOf_uniform _ (by omega) _ d hk).1
    rw [← hrl, zipWith_replicate_left]
    congr 1
    apply List.map_congr_left
    intro row _
    unfold setField
    rw [setKey_setKey, hdp]
  · rw [if_neg hn0, if_neg hn0]

theorem addProperty_nodata_refines {pa : PA} {name ctype : String} {dflt : Option Int}
    {stride : Nat} (h : Inv pa) (h1 : 1 ≤ stride)
    (hpres : name ∈ pa.props.map Col.name → stride = 1 ∨ stride = pa.strideOf name) :
    ∃ pa', pa.addProperty name ctype dflt none stride = some pa' ∧
      absPA pa' = specAddProperty name dflt none stride (absPA pa) := by
  obtain ⟨paN, hN, _, _, _, _, _, habsN⟩ := addProperty_nodata_abs h
    (.of_one_or_own h h1 hpres) ctype dflt
  refine ⟨paN, hN, ?_⟩
  rw [habsN]
  have hsl : specAddStride (absPA pa) name stride = addStride pa name stride := by
    rw [specAddStride_abs]
    split
    · rename_i hp
      exact (addStride_own hp (hpres ((hasProp_iff pa name).mp hp))).symm
    · rename_i hp
      exact (addStride_new hp stride).symm
  unfold specAddProperty specAddNoData
  simp only [hsl, specAddDv_abs h, hasProp_keys]

end PysphVerif.PArray
