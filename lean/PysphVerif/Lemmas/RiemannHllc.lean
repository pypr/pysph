import PysphVerif.Lemmas.Riemann
/-!
# C15 — `hllc`: hand-written normal form and its mirror image

`hllc` computes wave-speed estimates `sl`, `sm`, `sr` (left, contact, right) in the frame of the
Roe-averaged velocity `ulr` and then takes one of four branches.  Of their order only
`sl < 0 < sr`, `sl < vl` and `vr < sr` are used (and shown, for admissible data, in
`hllcFrom_mirror`); `sl ≤ sm ≤ sr` is not needed.  The mirror
image of the data maps `(vl, vr, sl, sr, sm, ulr)` to `(-vr, -vl, -sr, -sl, -sm, -ulr)`,
branch 2 (`sl ≤ 0 < sm`) to branch 3 (`sm ≤ 0 < sr`) and keeps `phat`
(`pl + rhol (vl - sl)(vl - sm) = pr + rhor (vr - sr)(vr - sm)` is what defines `sm`,
provided the denominator of `sm` does not vanish).
-/
set_option linter.unusedSectionVars false
namespace PysphVerif.Riemann
open PysphVerif.Gen.Riemann
open scoped PysphVerif.OrderChain

variable {K : Type} [Field K] [LinearOrder K] [IsStrictOrderedRing K]

def hllcSm (rhol rhor pl pr vl vr sl sr : K) : K :=
  (rhor * vr * (sr - vr) - rhol * vl * (sl - vl) + pl - pr) /
    (rhor * (sr - vr) - rhol * (sl - vl))

def hllcPhat (rhol pl vl sl sm : K) : K := rhol * (vl - sl) * (vl - sm) + pl

/-- the star-region branches of `hllc`: `s, v, rho, u, e, pk` are the quantities of the side the
branch looks at; its momentum is `rho u`, its energy `rho (e + u² / 2)` -/
def hllcStar (s v rho u e pk sm phat ulr : K) : Res K :=
  ⟨0, sm * (1 / (s - sm) * ((s - v) * (rho * u) + (phat - pk))) + phat,
    (sm * (1 / (s - sm) * ((s - v) * (rho * (e + 1 / 2 * u * u)) - pk * v + phat * sm)) + (sm + ulr) * phat) /
      (sm * (1 / (s - sm) * ((s - v) * (rho * u) + (phat - pk))) + phat)⟩

def hllcTail (rhol rhor pl pr ul ur g1 ulr vl vr sl sr sm phat r0 r1 : K) : Res K :=
  if 0 < sl then ⟨0, pl, ul⟩
  else if sl ≤ 0 ∧ 0 < sm then
    hllcStar sl vl rhol ul (pl * g1 / rhol) pl sm phat ulr
  else if sm ≤ 0 ∧ 0 < sr then
    hllcStar sr vr rhor ur (pr * g1 / rhor) pr sm phat ulr
  else if sr < 0 then ⟨0, pr, ur⟩
  else ⟨1, r0, r1⟩

def hllcMid (rhol rhor pl pr ul ur g1 ulr vl vr sl sr r0 r1 : K) : Res K :=
  hllcTail rhol rhor pl pr ul ur g1 ulr vl vr sl sr (hllcSm rhol rhor pl pr vl vr sl sr)
    (hllcPhat rhol pl vl sl (hllcSm rhol rhor pl pr vl vr sl sr)) r0 r1

/-- `hllc` after its four square roots (`a, b = sqrt rho`, `csl, csr` the sound speeds) -/
def hllcFrom (a b csl csr rhol rhor pl pr ul ur g1 r0 r1 : K) : Res K :=
  let ulr := (a * ul + b * ur) / (a + b)
  let cslr := (a * csl + b * csr) / (a + b)
  hllcMid rhol rhor pl pr ul ur g1 ulr (ul - ulr) (ur - ulr) (min (ul - ulr - csl) (0 - cslr))
    (max (ur - ulr + csr) (0 + cslr)) r0 r1

theorem hllc_eq (o : Ops K) (rhol rhor pl pr ul ur gamma : K) (niter : Int) (tol r0 r1 : K) :
    hllc o rhol rhor pl pr ul ur gamma niter tol r0 r1 =
      hllcFrom (o.sqrt rhol) (o.sqrt rhor) (o.sqrt (gamma * pl / rhol)) (o.sqrt (gamma * pr / rhor))
        rhol rhor pl pr ul ur (1 / (gamma - 1)) r0 r1 := by
  unfold hllc hllcFrom hllcMid hllcTail hllcStar hllcSm hllcPhat
  simp only [Nat.cast_ofNat, Nat.cast_one, Nat.cast_zero, pymax_eq_max, pymin_eq_min]

theorem hllcSm_mirror (rhol rhor pl pr vl vr sl sr : K) :
    hllcSm rhor rhol pr pl (-vr) (-vl) (-sr) (-sl) = -hllcSm rhol rhor pl pr vl vr sl sr := by
  unfold hllcSm
  -- the numerator changes sign, the denominator stays
  rw [← neg_div]
  congr 1
  · ring
  · ring

theorem hllcPhat_mirror (rhol rhor pl pr vl vr sl sr : K)
    (hden : rhor * (sr - vr) - rhol * (sl - vl) ≠ 0) :
    hllcPhat rhor pr (-vr) (-sr) (-hllcSm rhol rhor pl pr vl vr sl sr)
      = hllcPhat rhol pl vl sl (hllcSm rhol rhor pl pr vl vr sl sr) := by
  unfold hllcPhat hllcSm
  -- with `sm = N / D` the difference of the two sides is `sm * D - N`
  linear_combination div_mul_cancel₀ (rhor * vr * (sr - vr) - rhol * vl * (sl - vl) + pl - pr) hden

theorem hllcStar_mirror (s v rho u e pk sm phat ulr : K) :
    Res.Rel id Neg.neg (hllcStar (-s) (-v) rho (-u) e pk (-sm) phat (-ulr))
      (hllcStar s v rho u e pk sm phat ulr) := by
  refine .of_eq ?_
  unfold hllcStar
  have em : -sm * (1 / -(s - sm) * ((-s - -v) * (rho * -u) + (phat - pk)))
      = sm * (1 / (s - sm) * ((s - v) * (rho * u) + (phat - pk))) := by
    rw [one_div, one_div, inv_neg]; ring
  have ee : -sm * (1 / -(s - sm) * ((-s - -v) * (rho * (e + 1 / 2 * -u * -u)) - pk * -v + phat * -sm))
      + (-sm + -ulr) * phat
      = -(sm * (1 / (s - sm) * ((s - v) * (rho * (e + 1 / 2 * u * u)) - pk * v + phat * sm))
      + (sm + ulr) * phat) := by
    rw [one_div, one_div, inv_neg]; ring
  rw [← neg_sub' s sm, em, ee, neg_div]
  rfl

/-- at `sm = 0` the two star states coincide -/
theorem hllcStar_zero (s v rho u e pk phat ulr : K) :
    hllcStar s v rho u e pk 0 phat ulr = ⟨0, phat, ulr * phat / phat⟩ := by
  unfold hllcStar
  simp only [zero_mul, zero_add]

/-- `sl < 0 < sr` always holds for admissible data: `sl ≤ -cslr < 0 < cslr ≤ sr` -/
theorem hllcTail_of_lt (rhol rhor pl pr ul ur g1 ulr vl vr sl sr sm phat r0 r1 : K)
    (hsl : sl < 0) (hsr : 0 < sr) :
    hllcTail rhol rhor pl pr ul ur g1 ulr vl vr sl sr sm phat r0 r1 =
      if 0 < sm then
        hllcStar sl vl rhol ul (pl * g1 / rhol) pl sm phat ulr
      else hllcStar sr vr rhor ur (pr * g1 / rhor) pr sm phat ulr := by
  unfold hllcTail
  rw [if_neg hsl.not_gt]
  by_cases hm : 0 < sm
  · rw [if_pos ⟨hsl.le, hm⟩, if_pos hm]
  · rw [if_neg (fun h => hm h.2), if_pos ⟨not_lt.mp hm, hsr⟩, if_neg hm]

/-- `sm` is well defined because `sl < vl`, `vr < sr` -/
theorem hllcMid_mirror (rhol rhor pl pr ul ur g1 ulr vl vr sl sr r0 r1 : K) (hrl : 0 < rhol)
    (hrr : 0 < rhor) (hl : sl < vl) (hr : vr < sr) (hsl : sl < 0) (hsr : 0 < sr) :
    Res.Rel id Neg.neg (hllcMid rhor rhol pr pl (-ur) (-ul) g1 (-ulr) (-vr) (-vl) (-sr) (-sl) r0 r1)
      (hllcMid rhol rhor pl pr ul ur g1 ulr vl vr sl sr r0 r1) := by
  unfold hllcMid
  have hden : rhor * (sr - vr) - rhol * (sl - vl) ≠ 0 :=
    (sub_pos.mpr ((mul_neg_of_pos_of_neg hrl (sub_neg.mpr hl)).trans (mul_pos hrr (sub_pos.mpr hr)))).ne'
  -- the contact speed changes sign, `phat` stays; the star states of the two sides change places
  rw [hllcSm_mirror, hllcPhat_mirror rhol rhor pl pr vl vr sl sr hden,
    hllcTail_of_lt _ _ _ _ _ _ _ _ _ _ _ _ _ _ _ _ hsl hsr,
    hllcTail_of_lt _ _ _ _ _ _ _ _ _ _ _ _ _ _ _ _ (neg_neg_of_pos hsr) (neg_pos.mpr hsl)]
  generalize hllcPhat rhol pl vl sl (hllcSm rhol rhor pl pr vl vr sl sr) = phat
  generalize hllcSm rhol rhor pl pr vl vr sl sr = sm
  rcases lt_trichotomy sm 0 with hm | rfl | hm
  · -- `sm < 0`: the right star state, whose mirror image is a left one
    rw [if_neg hm.not_gt, if_pos (neg_pos.mpr hm)]
    exact hllcStar_mirror ..
  · -- `sm = 0`: both runs take the right star state
    rw [neg_zero, if_neg (lt_irrefl _), if_neg (lt_irrefl _), hllcStar_zero, hllcStar_zero, neg_mul,
      neg_div]
    exact .of_eq rfl
  · rw [if_pos hm, if_neg (neg_pos.not.mpr hm.not_gt)]
    exact hllcStar_mirror ..

theorem hllcFrom_mirror (a b csl csr rhol rhor pl pr ul ur g1 r0 r1 : K)
    (ha : 0 < a) (hb : 0 < b) (hcl : 0 < csl) (hcr : 0 < csr) (hrl : 0 < rhol) (hrr : 0 < rhor) :
    Res.Rel id Neg.neg (hllcFrom b a csr csl rhor rhol pr pl (-ur) (-ul) g1 r0 r1)
      (hllcFrom a b csl csr rhol rhor pl pr ul ur g1 r0 r1) := by
  simp only [hllcFrom]
  have hC : 0 < (a * csl + b * csr) / (a + b) := by positivity
  rw [show (b * -ur + a * -ul) / (b + a) = -((a * ul + b * ur) / (a + b)) by rw [add_comm b a]; ring,
    show (b * csr + a * csl) / (b + a) = (a * csl + b * csr) / (a + b) by
      rw [add_comm b a, add_comm (b * csr)],
    ← neg_sub', ← neg_sub', zero_sub, zero_add, min_sub_mirror, max_add_mirror]
  exact hllcMid_mirror _ _ _ _ _ _ _ _ _ _ _ _ _ _ hrl hrr (min_lt_of_left_lt (sub_lt_self _ hcl))
    (lt_max_of_lt_left (lt_add_of_pos_right _ hcr)) (min_lt_of_right_lt (neg_neg_of_pos hC)) (lt_max_of_lt_right hC)

theorem hllcFrom_equal (a c rho p u g1 r0 r1 : K) (ha : 0 < a) (hc : 0 < c) (hp : 0 < p) :
    hllcFrom a a c c rho rho p p u u g1 r0 r1 = ⟨0, p, u⟩ := by
  simp only [hllcFrom, hllcMid]
  have haa : a + a ≠ 0 := by positivity
  rw [avg_self haa, avg_self haa, sub_self, min_self, max_self]
  have hsm : hllcSm rho rho p p 0 0 (0 - c) (0 + c) = 0 := by
    unfold hllcSm; simp
  rw [hsm]
  have hph : hllcPhat rho p 0 (0 - c) 0 = p := by unfold hllcPhat; ring
  rw [hph, hllcTail_of_lt _ _ _ _ _ _ _ _ _ _ _ _ _ _ _ _ (sub_neg.mpr hc) (by rw [zero_add]; exact hc),
    if_neg (lt_irrefl _), hllcStar_zero, mul_div_cancel_right₀ _ hp.ne']

end PysphVerif.Riemann
