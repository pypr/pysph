import PysphVerif.Lemmas.PArrayRows
import PysphVerif.Lemmas.PArrayPerm
import PysphVerif.Lemmas.AssocList
import Mathlib.Data.List.Nodup
/-!
The coherence invariant of a particle array, with the lemma layer about
lists keyed by name (`lookupD`/`setKey`/`eraseKey`, columns by name, `setCol`)
and the two generic ways to re-establish the invariant: every column rewritten
under its name to the right length (`InvF.mapCols`, `InvP.mapCols`), one column
written or appended (`InvP.setCol`).

`Inv pa` is the readable statement.  The workhorse is `InvF P S D m` over the
three fields it talks about (`props`, `stride`, `defaults`) with the particle
count `m` explicit (`Inv pa ↔ InvF … pa.n`), and `InvP … pend …`, the same with one
*pending* property name whose `default_values`/`stride` entries have been
written before the column itself is created (the middle of `add_property`).
-/
namespace PysphVerif.PArray

/-! `setKey` is `AssocList.set` (same text) and `lookupD` is `AssocList.get?` with a default. -/

theorem lookupD_eq_getD {β : Type} (l : List (String × β)) (k : String) (d : β) :
    lookupD l k d = (AssocList.get? l k).getD d := by
  unfold lookupD AssocList.get?
  cases l.find? (fun p => p.1 == k) <;> rfl

theorem lookupD_of_not_mem {β : Type} (l : List (String × β)) (k : String) (d : β)
    (h : k ∉ l.map Prod.fst) : lookupD l k d = d := by
  rw [lookupD_eq_getD, AssocList.get?_none_of_not_mem l k h]; rfl

theorem keys_setKey {β : Type} (l : List (String × β)) (k : String) (v : β) :
    (setKey l k v).map Prod.fst =
      if k ∈ l.map Prod.fst then l.map Prod.fst else l.map Prod.fst ++ [k] :=
  AssocList.keys_set l k v

theorem lookupD_nil {β : Type} (k : String) (d : β) : lookupD ([] : List (String × β)) k d = d := rfl

theorem lookupD_cons {β : Type} (p : String × β) (l : List (String × β)) (k : String) (d : β) :
    lookupD (p :: l) k d = if p.1 = k then p.2 else lookupD l k d := by
  unfold lookupD
  by_cases h : p.1 = k <;> simp [h]

theorem lookupD_setKey {β : Type} (l : List (String × β)) (k k' : String) (v d : β) :
    lookupD (setKey l k v) k' d = if k' = k then v else lookupD l k' d := by
  rw [lookupD_eq_getD, lookupD_eq_getD, show setKey l k v = AssocList.set l k v from rfl,
    AssocList.get?_set]
  split <;> rfl

theorem lookupD_setKey_self {β : Type} (l : List (String × β)) (k : String) (v d : β) :
    lookupD (setKey l k v) k d = v := by
  rw [lookupD_setKey]; simp

theorem lookupD_setKey_ne {β : Type} (l : List (String × β)) (k k' : String) (v d : β)
    (h : k' ≠ k) : lookupD (setKey l k v) k' d = lookupD l k' d := by
  rw [lookupD_setKey]; simp [h]

theorem keys_eraseKey {β : Type} (l : List (String × β)) (k : String) :
    (eraseKey l k).map Prod.fst = (l.map Prod.fst).filter (fun x => !(x == k)) :=
  (List.filter_map (f := Prod.fst) (p := fun x => !(x == k))).symm

theorem lookupD_eraseKey_ne {β : Type} (l : List (String × β)) (k k' : String) (d : β)
    (h : k' ≠ k) : lookupD (eraseKey l k) k' d = lookupD l k' d := by
  unfold lookupD eraseKey
  rw [List.find?_filter]
  have : (fun p : String × β => decide ((!(p.1 == k)) = true ∧ (p.1 == k') = true)) =
      fun p => p.1 == k' := by
    funext p
    by_cases hp : p.1 = k' <;> simp [hp, h]
  rw [this]

theorem filter_key_ne_of_not_mem {α : Type} (key : α → String) (l : List α) (nm : String)
    (h : nm ∉ l.map key) : l.filter (fun a => !(key a == nm)) = l := by
  rw [List.filter_eq_self]
  intro a ha
  have : key a ≠ nm := fun e => h (e ▸ List.mem_map_of_mem ha)
  simpa using this

theorem eraseKey_of_not_mem {β : Type} (l : List (String × β)) (nm : String)
    (h : nm ∉ l.map Prod.fst) : eraseKey l nm = l :=
  filter_key_ne_of_not_mem Prod.fst l nm h

theorem hasProp_iff (pa : PA) (nm : String) :
    pa.hasProp nm = true ↔ nm ∈ pa.props.map Col.name :=
  AssocList.any_key_iff Col.name pa.props nm

theorem hasProp_false_iff (pa : PA) (nm : String) :
    pa.hasProp nm = false ↔ nm ∉ pa.props.map Col.name := by
  rw [← hasProp_iff]; simp

theorem col?_some (pa : PA) (nm : String) (c : Col) (h : pa.col? nm = some c) :
    c ∈ pa.props ∧ c.name = nm := by
  unfold PA.col? at h
  exact ⟨List.mem_of_find?_eq_some h, by simpa using List.find?_some h⟩

theorem col?_eq_none_iff (pa : PA) (nm : String) :
    pa.col? nm = none ↔ nm ∉ pa.props.map Col.name := by
  rw [PA.col?, List.find?_eq_none, List.mem_map]
  simp only [beq_iff_eq, not_exists, not_and]

theorem col?_none (pa : PA) (nm : String) (h : pa.col? nm = none) :
    nm ∉ pa.props.map Col.name := (col?_eq_none_iff pa nm).mp h

theorem col?_isSome_of_mem (pa : PA) (nm : String) (h : nm ∈ pa.props.map Col.name) :
    ∃ c, pa.col? nm = some c := by
  cases hc : pa.col? nm with
  | none => exact absurd h (col?_none pa nm hc)
  | some c => exact ⟨c, rfl⟩

structure InvF (P : List Col) (S : List (String × Nat)) (D : List (String × Int)) (m : Nat) :
    Prop where
  len : ∀ c ∈ P, 0 < lookupD S c.name 1 ∧ c.data.length = m * lookupD S c.name 1
  tagFirst : (P.map Col.name).head? = some "tag"
  tagStride : lookupD S "tag" 1 = 1
  nodup : (P.map Col.name).Nodup
  strideKeys : ∀ k ∈ S.map Prod.fst, k ∈ P.map Col.name
  defaultKeys : D.map Prod.fst = P.map Col.name

/-- the same in the middle of `add_property(pend, …)`: `default_values[pend]`
(and possibly `stride[pend]`) are already written, the column may not exist yet -/
structure InvP (P : List Col) (S : List (String × Nat)) (D : List (String × Int))
    (pend : String) (m : Nat) : Prop where
  len : ∀ c ∈ P, 0 < lookupD S c.name 1 ∧ c.data.length = m * lookupD S c.name 1
  tagFirst : (P.map Col.name).head? = some "tag"
  tagStride : lookupD S "tag" 1 = 1
  nodup : (P.map Col.name).Nodup
  pendStride : 0 < lookupD S pend 1
  strideKeys : ∀ k ∈ S.map Prod.fst, k ∈ P.map Col.name ∨ k = pend
  defaultKeys : D.map Prod.fst =
    if pend ∈ P.map Col.name then P.map Col.name else P.map Col.name ++ [pend]

/-- **The invariant** of a particle array: every property holds exactly
`n × stride` values with a positive stride, `tag` is the first property and has
stride 1, property names are distinct, the sparse `stride` dict only has
property names as keys, and `default_values` has exactly the property names as
keys (in the same order). -/
structure Inv (pa : PA) : Prop where
  len : ∀ c ∈ pa.props, 0 < pa.strideOf c.name ∧ c.data.length = pa.n * pa.strideOf c.name
  tagFirst : (pa.props.map Col.name).head? = some "tag"
  tagStride : pa.strideOf "tag" = 1
  nodup : (pa.props.map Col.name).Nodup
  strideKeys : ∀ k ∈ pa.stride.map Prod.fst, k ∈ pa.props.map Col.name
  defaultKeys : pa.defaults.map Prod.fst = pa.props.map Col.name

theorem InvF.tagMem {P S D m} (h : InvF P S D m) : "tag" ∈ P.map Col.name :=
  List.mem_of_mem_head? h.tagFirst

/-- with `tag` first, `get_number_of_particles` is the length of the tag array -/
theorem n_of_tagFirst (pa : PA) (h : (pa.props.map Col.name).head? = some "tag") :
    ∃ t rest, pa.props = t :: rest ∧ t.name = "tag" ∧ pa.col? "tag" = some t ∧
      pa.n = t.data.length ∧ pa.tags = t.data := by
  cases hp : pa.props with
  | nil => rw [hp] at h; simp at h
  | cons t rest =>
    rw [hp] at h
    have ht : t.name = "tag" := by simpa using h
    have hc : pa.col? "tag" = some t := by
      unfold PA.col?; rw [hp]; simp [ht]
    refine ⟨t, rest, rfl, ht, hc, ?_, ?_⟩
    · unfold PA.n; rw [hc]
    · unfold PA.tags; rw [hc]

theorem InvF.toP {P S D m} (h : InvF P S D m) (pend : String) (hp : pend ∈ P.map Col.name) :
    InvP P S D pend m := by
  refine ⟨h.len, h.tagFirst, h.tagStride, h.nodup, ?_, fun k hk => Or.inl (h.strideKeys k hk),
    by rw [if_pos hp]; exact h.defaultKeys⟩
  obtain ⟨c, hc, rfl⟩ := List.mem_map.mp hp
  exact (h.len c hc).1

theorem InvP.toF {P S D pend m} (h : InvP P S D pend m) (hp : pend ∈ P.map Col.name) :
    InvF P S D m := by
  refine ⟨h.len, h.tagFirst, h.tagStride, h.nodup, ?_, by rw [h.defaultKeys, if_pos hp]⟩
  intro k hk
  rcases h.strideKeys k hk with h1 | h1
  · exact h1
  · rw [h1]; exact hp

theorem InvP.n_eq {q : PA} {pend : String} {m : Nat}
    (h : InvP q.props q.stride q.defaults pend m) : q.n = m := by
  obtain ⟨t, rest, hp, ht, _, hn, _⟩ := n_of_tagFirst q h.tagFirst
  have := (h.len t (by rw [hp]; simp)).2
  rw [ht, h.tagStride] at this
  omega

/-- `InvF` is `InvP` with nothing pending (`tag` is always there) -/
theorem InvF.n_eq {pa : PA} {m : Nat} (h : InvF pa.props pa.stride pa.defaults m) : pa.n = m :=
  (h.toP "tag" h.tagMem).n_eq

theorem InvF.toInv {pa : PA} {m : Nat} (h : InvF pa.props pa.stride pa.defaults m) : Inv pa := by
  have hn := h.n_eq
  subst hn
  exact ⟨h.len, h.tagFirst, h.tagStride, h.nodup, h.strideKeys, h.defaultKeys⟩

theorem Inv.toF {pa : PA} (h : Inv pa) : InvF pa.props pa.stride pa.defaults pa.n :=
  ⟨h.len, h.tagFirst, h.tagStride, h.nodup, h.strideKeys, h.defaultKeys⟩

theorem inv_iff (pa : PA) : Inv pa ↔ InvF pa.props pa.stride pa.defaults pa.n :=
  ⟨Inv.toF, InvF.toInv⟩

theorem Inv.tags_length {pa : PA} (h : Inv pa) : pa.tags.length = pa.n := by
  obtain ⟨t, rest, _, _, _, hn, htg⟩ := n_of_tagFirst pa h.tagFirst
  rw [hn, htg]

theorem map_name_map (P : List Col) (F : Col → Col) (hn : ∀ c ∈ P, (F c).name = c.name) :
    (P.map F).map Col.name = P.map Col.name := by
  rw [List.map_map]
  exact List.map_congr_left (fun c hc => hn c hc)

theorem InvP.mapCols {P S D pend m} (h : InvP P S D pend m) (F : Col → Col) (m' : Nat)
    (hn : ∀ c ∈ P, (F c).name = c.name)
    (hg : ∀ c ∈ P, (F c).data.length = m' * lookupD S c.name 1) :
    InvP (P.map F) S D pend m' := by
  have hnames := map_name_map P F hn
  refine ⟨?_, by rw [hnames]; exact h.tagFirst, h.tagStride, by rw [hnames]; exact h.nodup,
    h.pendStride, by rw [hnames]; exact h.strideKeys, by rw [hnames]; exact h.defaultKeys⟩
  intro c' hc'
  obtain ⟨c, hc, rfl⟩ := List.mem_map.mp hc'
  rw [hn c hc]
  exact ⟨(h.len c hc).1, hg c hc⟩

theorem InvF.mapCols {P S D m} (h : InvF P S D m) (F : Col → Col) (m' : Nat)
    (hn : ∀ c ∈ P, (F c).name = c.name)
    (hg : ∀ c ∈ P, (F c).data.length = m' * lookupD S c.name 1) : InvF (P.map F) S D m' :=
  ((h.toP "tag" h.tagMem).mapCols F m' hn hg).toF (map_name_map P F hn ▸ h.tagMem)

def setColL (P : List Col) (c : Col) : List Col :=
  if P.any (fun (c' : Col) => c'.name == c.name) then
    P.map (fun (c' : Col) => if c'.name == c.name then c else c')
  else P ++ [c]

theorem setCol_eq (pa : PA) (c : Col) : pa.setCol c = { pa with props := setColL pa.props c } := by
  unfold PA.setCol setColL PA.hasProp; split <;> rfl

theorem setCol_props (pa : PA) (c : Col) : (pa.setCol c).props = setColL pa.props c := by
  rw [setCol_eq]
theorem setCol_stride (pa : PA) (c : Col) : (pa.setCol c).stride = pa.stride := by rw [setCol_eq]
theorem setCol_defaults (pa : PA) (c : Col) : (pa.setCol c).defaults = pa.defaults := by
  rw [setCol_eq]
theorem setCol_consts (pa : PA) (c : Col) : (pa.setCol c).consts = pa.consts := by rw [setCol_eq]
theorem setCol_nReal (pa : PA) (c : Col) : (pa.setCol c).nReal = pa.nReal := by rw [setCol_eq]
theorem setCol_name (pa : PA) (c : Col) : (pa.setCol c).name = pa.name := by rw [setCol_eq]
theorem setCol_outputs (pa : PA) (c : Col) : (pa.setCol c).outputs = pa.outputs := by rw [setCol_eq]

theorem setColL_new (P : List Col) (c : Col) (h : c.name ∉ P.map Col.name) :
    setColL P c = P ++ [c] := by
  unfold setColL
  rw [if_neg (fun ha => h ((AssocList.any_key_iff Col.name P c.name).mp ha))]

theorem setKey_new {β : Type} (l : List (String × β)) (k : String) (v : β)
    (h : k ∉ l.map Prod.fst) : setKey l k v = l ++ [(k, v)] := AssocList.set_fresh l k v h

theorem InvP.setCol {P S D pend m} (h : InvP P S D pend m) (c : Col) (hc : c.name = pend)
    (hl : c.data.length = m * lookupD S pend 1) : InvF (setColL P c) S D m := by
  by_cases hp : pend ∈ P.map Col.name
  · unfold setColL
    rw [if_pos ((AssocList.any_key_iff Col.name P c.name).mpr (hc ▸ hp))]
    apply (h.toF hp).mapCols
    · intro c' _
      by_cases he : c'.name = c.name <;> simp [he]
    · intro c' hc'
      by_cases he : c'.name = c.name
      · simp only [he, beq_self_eq_true, if_true, hc]; exact hl
      · simp only [beq_iff_eq, he, if_false]; exact (h.len c' hc').2
  · rw [setColL_new P c (hc ▸ hp)]
    have hnames : (P ++ [c]).map Col.name = P.map Col.name ++ [pend] := by simp [hc]
    refine ⟨?_, ?_, h.tagStride, ?_, ?_, ?_⟩
    · intro c' hc'
      rcases List.mem_append.mp hc' with h1 | h1
      · exact h.len c' h1
      · have : c' = c := by simpa using h1
        subst this
        rw [hc]; exact ⟨h.pendStride, hl⟩
    · rw [hnames, List.head?_append, h.tagFirst]; rfl
    · rw [hnames]
      exact List.nodup_append_comm.mp (List.nodup_cons.mpr ⟨hp, h.nodup⟩)
    · intro k hk
      rw [hnames]
      rcases h.strideKeys k hk with h1 | h1
      · exact List.mem_append_left _ h1
      · simp [h1]
    · rw [hnames, h.defaultKeys, if_neg hp]

theorem InvP.inv_setCol {X : PA} {pend : String} {m : Nat}
    (h : InvP X.props X.stride X.defaults pend m) (c : Col) (hc : c.name = pend)
    (hl : c.data.length = m * lookupD X.stride pend 1) :
    InvF (X.setCol c).props (X.setCol c).stride (X.setCol c).defaults m := by
  rw [setCol_eq]
  exact h.setCol c hc hl

/-- stride dict after `if stride != 1: self.stride[name] = stride` -/
def strideSet (S : List (String × Nat)) (name : String) (stride : Nat) : List (String × Nat) :=
  if stride != 1 then setKey S name stride else S

theorem lookupD_strideSet_ne (S : List (String × Nat)) (name nm : String) (stride : Nat)
    (h : nm ≠ name) : lookupD (strideSet S name stride) nm 1 = lookupD S nm 1 := by
  unfold strideSet; split
  · exact lookupD_setKey_ne S name nm stride 1 h
  · rfl

theorem lookupD_strideSet_self (S : List (String × Nat)) (name : String) (stride : Nat) :
    lookupD (strideSet S name stride) name 1 = if stride = 1 then lookupD S name 1 else stride := by
  unfold strideSet
  by_cases hs : stride = 1
  · simp [hs]
  · have : (stride != 1) = true := by simp [hs]
    rw [if_pos this, if_neg hs, lookupD_setKey_self]

theorem keys_strideSet (S : List (String × Nat)) (name : String) (stride : Nat) :
    ∀ k ∈ (strideSet S name stride).map Prod.fst, k ∈ S.map Prod.fst ∨ k = name := by
  intro k hk
  unfold strideSet at hk
  split at hk
  · rw [keys_setKey] at hk
    exact AssocList.mem_keys_set.mp hk
  · exact Or.inl hk

theorem lookupD_strideSet_new {P S D m} (h : InvF P S D m) (name : String) (stride : Nat)
    (hn : name ∉ P.map Col.name) : lookupD (strideSet S name stride) name 1 = stride := by
  rw [lookupD_strideSet_self]
  split
  · rename_i hs
    rw [lookupD_of_not_mem S name 1 (fun hk => hn (h.strideKeys name hk)), hs]
  · rfl

theorem col?_of_mem {pa : PA} (h : Inv pa) (c : Col) (hc : c ∈ pa.props) :
    pa.col? c.name = some c :=
  AssocList.find?_key_of_mem Col.name pa.props h.nodup c hc

end PysphVerif.PArray
