import PysphVerif.Model.Stepper
import PysphVerif.Lemmas.OrderedInsert
/-!
Helper lemmas for C04 (`Props/C04.lean`), and the vocabulary its statements use beyond the
model.  Alignment (C06's invariant, the one hypothesis of the refinement theorems) makes
`range nReal` the set of real particles; the registers of the generated class track the stage time
computed from the program text (`RegsTrack`), whence `stepR_eq_literalStep` by induction along the
body.  `specEvents` is the closed form of the trace of one step in the tracer world whose hooks
add no particles (`staticWorld`); `wellStaged` is the stage / post-stage discipline the shipped
`one_timestep` bodies follow.
-/
namespace PysphVerif.Stepper

/-- C06's invariant as the integrator relies on it: the first `n` slots are
real (tag 0), every later slot is a ghost (tag ≠ 0). -/
def Aligned (tags : List Nat) (n : Nat) : Prop :=
  ∃ ghosts : List Nat, tags = List.replicate n 0 ++ ghosts ∧ ∀ g ∈ ghosts, g ≠ 0

/-- what the tracer worlds keep: `n` real particles, then ghosts with tag 2 -/
theorem aligned_replicate (n g : Nat) : Aligned (List.replicate n 0 ++ List.replicate g 2) n :=
  ⟨_, rfl, fun x hx => by rw [List.eq_of_mem_replicate hx]; decide⟩

theorem filter_range_add {p : Nat → Bool} {n m : Nat} (hlo : ∀ i, i < n → p i = true)
    (hhi : ∀ j, j < m → p (n + j) = false) : (List.range (n + m)).filter p = List.range n := by
  have h1 : (List.range n).filter p = List.range n :=
    List.filter_eq_self.mpr fun i hi => hlo i (List.mem_range.mp hi)
  have h2 : ((List.range m).map (n + ·)).filter p = [] :=
    List.filter_eq_nil_iff.mpr fun i hi => by
      obtain ⟨j, hj, rfl⟩ := List.mem_map.mp hi
      simp [hhi j (List.mem_range.mp hj)]
  rw [List.range_add, List.filter_append, h1, h2, List.append_nil]

theorem realIdxs_of_aligned {tags : List Nat} {n : Nat} (h : Aligned tags n) :
    realIdxs tags = List.range n := by
  obtain ⟨ghosts, rfl, hg⟩ := h
  unfold realIdxs
  rw [List.length_append, List.length_replicate]
  refine filter_range_add (fun i hi => ?_) (fun j hj => ?_)
  · simp [List.getElem?_append_left, hi]
  · rw [List.getElem?_append_right (by simp), List.length_replicate, Nat.add_sub_cancel_left,
      List.getElem?_eq_getElem hj]
    simpa using hg _ (List.getElem_mem hj)

section
variable {σ τ : Type}

def WorldAligned (W : World σ τ) : Prop :=
  ∀ d s, Aligned (W.tags d s) (W.nReal d s)

theorem litDest_eq_wrapperDest (W : World σ τ) (hW : WorldAligned W) (m : Meth) (t dt : τ)
    (s : σ) (a : ArrayCfg) : litDest W m t dt s a = wrapperDest W m t dt s a := by
  unfold litDest wrapperDest loopReal
  simp only
  split
  · rw [realIdxs_of_aligned (hW _ _)]
  · rfl

theorem litStage_eq_wrapper (W : World σ τ) (hW : WorldAligned W) (cfg : Cfg) (m : Meth)
    (r : Regs τ) (s : σ) : litStage W cfg m r.t r.dt s = wrapper W cfg m r s := by
  unfold litStage wrapper
  congr 1
  funext s a
  exact litDest_eq_wrapperDest W hW m r.t r.dt s a

theorem lastPost_snoc (done : List Cmd) (c : Cmd) :
    lastPost (done ++ [c]) =
      match c with
      | .doPostStage e _ => some e
      | _ => lastPost done := by
  induction done with
  | nil => cases c <;> rfl
  | cons c0 cs ih =>
    simp only [List.cons_append, lastPost, ih]
    cases c <;> rfl

theorem stageTime_of_lastPost (A : Arith τ) {p : List Cmd} {e : Expr} (h : lastPost p = some e)
    (t dt : τ) : stageTime A p t dt = A.add t (e.eval A t dt) := by
  simp only [stageTime, h]

/-- the invariant of `fold_eq_litGo` and of `stage_time_is_last_post_stage`: the registers after a
prefix `done` of the program -/
def RegsTrack (A : Arith τ) (done : List Cmd) (t dt : τ) (r : Regs τ) : Prop :=
  r.origT = t ∧ r.dt = dt ∧ r.t = stageTime A done t dt

theorem execCmd_regs (A : Arith τ) (W : World σ τ) (cfg : Cfg) (t dt : τ) (done : List Cmd)
    (r : Regs τ) (s : σ) (c : Cmd) (hr : RegsTrack A done t dt r) :
    RegsTrack A (done ++ [c]) t dt (execCmd A W cfg t dt (r, s) c).1 := by
  obtain ⟨h1, h2, h3⟩ := hr
  -- only `do_post_stage` writes a register (`t`), and only it changes the stage time
  cases c with
  | doPostStage e k => exact ⟨h1, h2, by simp only [execCmd, h1, stageTime, lastPost_snoc]⟩
  | _ => exact ⟨h1, h2, by simp only [stageTime, lastPost_snoc]; exact h3⟩

theorem execCmd_denote (A : Arith τ) (W : World σ τ) (hW : WorldAligned W) (cfg : Cfg)
    (t dt : τ) (done : List Cmd) (r : Regs τ) (s : σ) (c : Cmd)
    (hr : RegsTrack A done t dt r) :
    (execCmd A W cfg t dt (r, s) c).2 = denote A W cfg t dt (stageTime A done t dt) c s := by
  have stage : ∀ m, wrapper W cfg m r s = litStage W cfg m (stageTime A done t dt) dt s := by
    intro m
    rw [← hr.2.2, ← hr.2.1]
    exact (litStage_eq_wrapper W hW cfg m r s).symm
  rcases c with _ | k | ⟨i, upd⟩ | _ | ⟨e, k⟩
  · exact stage _
  · exact stage _
  · simp only [execCmd, denote, computeAccelerations, hr.2.2, hr.2.1]
  · rfl
  · simp only [execCmd, denote, hr.1, hr.2.1]

theorem fold_eq_litGo (A : Arith τ) (W : World σ τ) (hW : WorldAligned W) (cfg : Cfg)
    (t dt : τ) (rest done : List Cmd) (r : Regs τ) (s : σ) (hr : RegsTrack A done t dt r) :
    (rest.foldl (execCmd A W cfg t dt) (r, s)).2 = litGo A W cfg t dt done rest s := by
  induction rest generalizing done r s with
  | nil => rfl
  | cons c cs ih =>
    rw [List.foldl_cons, litGo, ← execCmd_denote A W hW cfg t dt done r s c hr]
    exact ih _ _ _ (execCmd_regs A W cfg t dt done r s c hr)

theorem stepR_eq_literalStep (A : Arith τ) (W : World σ τ) (hW : WorldAligned W) (cfg : Cfg)
    (prog : Program) (t dt : τ) (st : Regs τ × σ) :
    (stepR A W cfg prog t dt st).2 = literalStep A W cfg prog t dt st.2 :=
  fold_eq_litGo A W hW cfg t dt prog [] _ st.2 ⟨rfl, rfl, rfl⟩

end

section
variable {τ : Type}

theorem growEntry_zero (d : String) : growEntry d 0 = id := by
  funext x
  unfold growEntry
  split <;> rfl

theorem traceWorld_aligned (grow : String → Meth → Nat) :
    WorldAligned (traceWorld (τ := τ) grow) :=
  fun _ _ => aligned_replicate _ _

theorem foldl_events {α : Type} (f : TState τ → α → TState τ)
    (g : List (String × Nat × Nat) → α → List (Event τ))
    (hf : ∀ s a, f s a = { events := s.events ++ g s.sizes a, sizes := s.sizes }) (l : List α) :
    ∀ s, l.foldl f s = { events := s.events ++ l.flatMap (g s.sizes), sizes := s.sizes } := by
  induction l with
  | nil => intro s; simp
  | cons a as ih =>
    intro s
    simp only [List.foldl_cons, hf, ih, List.flatMap_cons, List.append_assoc]

theorem loopReal_trace (grow : String → Meth → Nat) (d : String) (m : Meth) (t dt : τ) (n : Nat)
    (s : TState τ) :
    loopReal (traceWorld grow) d m t dt n s =
      { events := s.events ++ (List.range n).map (fun i => Event.step d m i t dt),
        sizes := s.sizes } := by
  rw [List.map_eq_flatMap]
  exact foldl_events _ (fun _ i => [Event.step d m i t dt]) (fun _ _ => rfl) _ s

/-- what a stage call does to one array, as events -/
def destEvents (sizes : List (String × Nat × Nat)) (m : Meth) (cur dt : τ) (a : ArrayCfg) :
    List (Event τ) :=
  (if m ∈ a.sig.hooks then [Event.hook a.name m cur dt] else []) ++
  (if m ∈ a.sig.methods then
    (List.range (sizeOf? sizes a.name).1).map (fun i => Event.step a.name m i cur dt) else [])

def stageEvents (cfg : Cfg) (sizes : List (String × Nat × Nat)) (m : Meth) (cur dt : τ) :
    List (Event τ) :=
  (destOrder cfg).flatMap (destEvents sizes m cur dt)

def cmdEvents (A : Arith τ) (cfg : Cfg) (sizes : List (String × Nat × Nat)) (t dt cur : τ) :
    Cmd → List (Event τ)
  | .initialize => stageEvents cfg sizes .initialize cur dt
  | .stage k => stageEvents cfg sizes (.stage k) cur dt
  | .computeAccelerations i upd => (if upd then [Event.nnps] else []) ++ [Event.eval i cur dt]
  | .updateDomain => [Event.domain]
  | .doPostStage e k =>
    if cfg.hasCallback then [Event.callback (A.add t (e.eval A t dt)) dt k] else []

def specGo (A : Arith τ) (cfg : Cfg) (sizes : List (String × Nat × Nat)) (t dt : τ) :
    List Cmd → List Cmd → List (Event τ)
  | _, [] => []
  | done, c :: cs =>
    cmdEvents A cfg sizes t dt (stageTime A done t dt) c ++ specGo A cfg sizes t dt (done ++ [c]) cs

/-- the whole trace of one step, statement by statement, each at the stage
time determined by the statements before it -/
def specEvents (A : Arith τ) (cfg : Cfg) (sizes : List (String × Nat × Nat)) (prog : Program)
    (t dt : τ) : List (Event τ) :=
  specGo A cfg sizes t dt [] prog

/-- the tracer world in which no hook adds particles -/
def staticWorld : World (TState τ) τ := traceWorld (fun _ _ => 0)

theorem traceWorld_hook (grow : String → Meth → Nat) (d : String) (m : Meth) (t dt : τ)
    (s : TState τ) : (traceWorld grow).hook d m t dt s =
      { events := s.events ++ [Event.hook d m t dt],
        sizes := s.sizes.map (growEntry d (grow d m)) } := rfl

theorem traceWorld_nReal (grow : String → Meth → Nat) (d : String) (s : TState τ) :
    (traceWorld grow).nReal d s = (sizeOf? s.sizes d).1 := rfl

theorem wrapperDest_trace (grow : String → Meth → Nat) (m : Meth) (t dt : τ) (s : TState τ)
    (a : ArrayCfg) :
    let W := traceWorld grow
    let s1 := if m ∈ a.sig.hooks then W.hook a.name m t dt s else s
    wrapperDest W m t dt s a =
      { events := s1.events ++
          (if m ∈ a.sig.methods then
            (List.range (W.nReal a.name s1)).map (fun i => Event.step a.name m i t dt) else []),
        sizes := s1.sizes } := by
  intro W s1
  unfold wrapperDest
  by_cases hm : m ∈ a.sig.methods
  · simp only [hm, if_true]
    exact loopReal_trace grow a.name m t dt _ _
  · simp only [hm, if_false, List.append_nil]
    rfl

theorem wrapperDest_static (m : Meth) (t dt : τ) (s : TState τ) (a : ArrayCfg) :
    wrapperDest staticWorld m t dt s a =
      { events := s.events ++ destEvents s.sizes m t dt a, sizes := s.sizes } := by
  rw [staticWorld, wrapperDest_trace]
  unfold destEvents
  by_cases hh : m ∈ a.sig.hooks <;> simp [hh, traceWorld_hook, traceWorld_nReal, growEntry_zero]

theorem litStage_static (cfg : Cfg) (m : Meth) (cur dt : τ) (s : TState τ) :
    litStage staticWorld cfg m cur dt s =
      { events := s.events ++ stageEvents cfg s.sizes m cur dt, sizes := s.sizes } := by
  unfold litStage stageEvents
  exact foldl_events _ (fun sz a => destEvents sz m cur dt a)
    (fun s a => (litDest_eq_wrapperDest _ (traceWorld_aligned _) m cur dt s a).trans
      (wrapperDest_static m cur dt s a)) _ s

theorem denote_static (A : Arith τ) (cfg : Cfg) (t dt cur : τ) (c : Cmd) (s : TState τ) :
    denote A staticWorld cfg t dt cur c s =
      { events := s.events ++ cmdEvents A cfg s.sizes t dt cur c, sizes := s.sizes } := by
  rcases c with _ | k | ⟨i, upd⟩ | _ | ⟨e, k⟩
  · simp only [denote, cmdEvents, litStage_static]
  · simp only [denote, cmdEvents, litStage_static]
  · cases upd
    · rfl
    · show ({ events := s.events ++ [Event.nnps] ++ [Event.eval i cur dt], sizes := s.sizes } :
        TState τ) = _
      rw [List.append_assoc]
      rfl
  · rfl
  · unfold denote cmdEvents
    cases cfg.hasCallback
    · simp
    · rfl

theorem litGo_static (A : Arith τ) (cfg : Cfg) (t dt : τ) (rest : List Cmd) :
    ∀ (done : List Cmd) (s : TState τ),
      litGo A staticWorld cfg t dt done rest s =
        { events := s.events ++ specGo A cfg s.sizes t dt done rest, sizes := s.sizes } := by
  induction rest with
  | nil => intro done s; simp [litGo, specGo]
  | cons c cs ih =>
    intro done s
    simp only [litGo, specGo, denote_static, ih, List.append_assoc]

def Event.callback? : Event τ → Option (τ × τ × Nat)
  | .callback t dt k => some (t, dt, k)
  | .hook _ _ _ _ => none
  | .step _ _ _ _ _ => none
  | .nnps => none
  | .eval _ _ _ => none
  | .domain => none

def callbacksOf (l : List (Event τ)) : List (τ × τ × Nat) := l.filterMap Event.callback?

def Cmd.post? : Cmd → Option (Expr × Nat)
  | .doPostStage e k => some (e, k)
  | .initialize => none
  | .stage _ => none
  | .computeAccelerations _ _ => none
  | .updateDomain => none

def posts (p : Program) : List (Expr × Nat) := p.filterMap Cmd.post?

theorem callbacksOf_stageEvents (cfg : Cfg) (sizes : List (String × Nat × Nat)) (m : Meth)
    (cur dt : τ) : callbacksOf (stageEvents cfg sizes m cur dt) = [] := by
  unfold callbacksOf stageEvents
  apply List.filterMap_eq_nil_iff.mpr
  intro e he
  obtain ⟨a, _, hea⟩ := List.mem_flatMap.mp he
  unfold destEvents at hea
  rcases List.mem_append.mp hea with h | h
  · split at h
    · simp only [List.mem_singleton] at h; subst h; rfl
    · simp at h
  · split at h
    · obtain ⟨i, _, rfl⟩ := List.mem_map.mp h; rfl
    · simp at h

theorem posts_cons (c : Cmd) (cs : List Cmd) : posts (c :: cs) = c.post?.toList ++ posts cs := by
  unfold posts
  rw [List.filterMap_cons]
  cases c.post? <;> rfl

theorem callbacksOf_cmdEvents (A : Arith τ) (cfg : Cfg) (sizes : List (String × Nat × Nat))
    (t dt cur : τ) (c : Cmd) :
    callbacksOf (cmdEvents A cfg sizes t dt cur c) =
      if cfg.hasCallback then
        c.post?.toList.map (fun x => (A.add t (x.1.eval A t dt), dt, x.2))
      else [] := by
  rcases c with _ | k | ⟨i, upd⟩ | _ | ⟨e, k⟩
  · rw [cmdEvents, callbacksOf_stageEvents]; cases cfg.hasCallback <;> rfl
  · rw [cmdEvents, callbacksOf_stageEvents]; cases cfg.hasCallback <;> rfl
  · cases upd <;> cases cfg.hasCallback <;> rfl
  · cases cfg.hasCallback <;> rfl
  · unfold cmdEvents
    cases cfg.hasCallback <;> rfl

theorem callbacksOf_specGo (A : Arith τ) (cfg : Cfg) (sizes : List (String × Nat × Nat))
    (t dt : τ) (rest : List Cmd) :
    ∀ done, callbacksOf (specGo A cfg sizes t dt done rest) =
      if cfg.hasCallback then
        (posts rest).map (fun x => (A.add t (x.1.eval A t dt), dt, x.2))
      else [] := by
  induction rest with
  | nil => intro done; cases cfg.hasCallback <;> rfl
  | cons c cs ih =>
    intro done
    rw [specGo, callbacksOf, List.filterMap_append, ← callbacksOf, ← callbacksOf, ih,
      callbacksOf_cmdEvents, posts_cons, List.map_append]
    cases cfg.hasCallback <;> rfl

end

def stagePosts (p : Program) : List Cmd :=
  p.filter (fun c => match c with
    | .stage _ => true
    | .doPostStage _ _ => true
    | _ => false)

/-- `stage k, do_post_stage(e, k), stage k+1, do_post_stage(e', k+1), …`, the
last `stage_dt` being the whole `dt` -/
def wellStagedFrom : Nat → List Cmd → Bool
  | _, [] => true
  | k, .stage j :: .doPostStage e j' :: rest =>
    j == k && j' == k && (if rest.isEmpty then e == Expr.dt else true) &&
      wellStagedFrom (k + 1) rest
  | _, _ => false

def wellStaged (p : Program) : Bool := wellStagedFrom 1 (stagePosts p)

theorem posts_stagePosts (p : Program) : posts (stagePosts p) = posts p := by
  unfold posts stagePosts
  rw [List.filterMap_filter]
  congr 1
  funext c
  cases c <;> rfl

theorem wellStagedFrom_posts (k : Nat) (l : List Cmd) (h : wellStagedFrom k l = true) :
    (posts l).map (·.2) = List.range' k (posts l).length ∧
    (l ≠ [] → ((posts l).map (·.1)).getLast? = some Expr.dt) := by
  fun_induction wellStagedFrom k l with
  | case1 k => simp [posts]
  | case2 k j e j' rest ih =>
    simp only [Bool.and_eq_true, beq_iff_eq] at h
    obtain ⟨⟨⟨hj, hj'⟩, hlast⟩, hrest⟩ := h
    obtain ⟨ih1, ih2⟩ := ih hrest
    have hp : posts (Cmd.stage j :: Cmd.doPostStage e j' :: rest) = (e, k) :: posts rest := by
      simp [posts, List.filterMap_cons, Cmd.post?, hj']
    rw [hp]
    refine ⟨?_, ?_⟩
    · simp [List.range'_succ, ih1]
    · intro _
      rw [List.map_cons, List.getLast?_cons]
      by_cases hr : rest = []
      · subst hr
        simp at hlast
        simp [posts, hlast]
      · rw [ih2 hr]
        rfl
  | case3 k l h1 h2 => simp at h

theorem wellStaged_callbacks {τ : Type} (A : Arith τ) (prog : Program) (t dt : τ)
    (hw : wellStaged prog = true) :
    let cbs := (posts prog).map (fun x => (A.add t (x.1.eval A t dt), dt, x.2))
    cbs.map (·.2.2) = List.range' 1 cbs.length ∧
    (∀ c ∈ cbs, c.2.1 = dt) ∧
    (stagePosts prog ≠ [] → (cbs.map (·.1)).getLast? = some (A.add t dt)) := by
  obtain ⟨h1, h2⟩ := wellStagedFrom_posts 1 (stagePosts prog) hw
  rw [posts_stagePosts] at h1 h2
  refine ⟨?_, ?_, fun hne => ?_⟩
  · rw [List.map_map, List.length_map]
    exact h1
  · intro c hc
    obtain ⟨x, _, rfl⟩ := List.mem_map.mp hc
    rfl
  · rw [List.map_map]
    show ((posts prog).map ((fun e : Expr => A.add t (e.eval A t dt)) ∘ (·.1))).getLast? = _
    rw [← List.map_map, List.getLast?_map, h2 hne]
    rfl

/-- `x` may come before `y` in `sorted(...)` -/
def NameLe (x y : ArrayCfg) : Prop := x.name ≤ y.name

theorem insertByName_cons (a b : ArrayCfg) (bs : List ArrayCfg) :
    insertByName a (b :: bs) =
      if ¬ b.name < a.name then a :: b :: bs else b :: insertByName a bs :=
  (ite_not ..).symm

end PysphVerif.Stepper
