import PysphVerif.Lemmas.Eigen3
/-!
`tql2` of `Model/Eigen3.lean`: the implicit-shift QL sweep as an exact orthogonal similarity of the
shifted tridiagonal matrix.  A sweep on a 3×3 matrix has one of three shapes `(l, m) = (0,1), (1,2),
(0,2)`: each is first written out (`qlSweep…_form`, by `rfl`) and then recognised as one or two
rotations applied to the shifted matrix, from identities between polynomials (`core2a`, `core2b`,
`core2p`, `shift_spec`).  `qlSweep_spec` collects the three shapes as `SweepSpec`, which is all
`Eigen3Tql2Loop.lean` uses.
-/
set_option linter.unusedSectionVars false
namespace PysphVerif.Eigen3
open Matrix

variable {K : Type} [Field K] [LinearOrder K] [IsStrictOrderedRing K]

/-- the properties of `hypot2` the theorems use; both bodies the model has for it have them
(`hypOK_naive`, `hypOK_safe`) -/
structure HypOK (hyp : K → K → K) : Prop where
  nonneg : ∀ x y, 0 ≤ hyp x y
  sq : ∀ x y, hyp x y * hyp x y = x * x + y * y

theorem HypOK.ne_zero {hyp : K → K → K} (h : HypOK hyp) {x y : K} (hxy : x ≠ 0 ∨ y ≠ 0) :
    hyp x y ≠ 0 := by
  intro h0
  have := h.sq x y
  rw [h0, mul_zero] at this
  obtain ⟨hx, hy⟩ := mul_self_add_mul_self_eq_zero.mp this.symm
  exact hxy.elim (· hx) (· hy)

theorem hypOK_naive {sqrt : K → K} (hs : SqrtOK sqrt) : HypOK (hypotNaive sqrt) where
  nonneg _ _ := hs.nonneg _
  sq x y := hs.sq _ (add_nonneg (mul_self_nonneg x) (mul_self_nonneg y))

theorem hypotSafe_sq {sqrt : K → K} (hs : SqrtOK sqrt) (x y : K) (hx : x ≠ 0) :
    |x| * sqrt (1 + y / x * (y / x)) * (|x| * sqrt (1 + y / x * (y / x))) = x * x + y * y := by
  have := hs.sq (1 + y / x * (y / x)) (add_nonneg zero_le_one (mul_self_nonneg _))
  calc |x| * sqrt (1 + y / x * (y / x)) * (|x| * sqrt (1 + y / x * (y / x)))
      = (|x| * |x|) * (sqrt (1 + y / x * (y / x)) * sqrt (1 + y / x * (y / x))) := by ring
    _ = (x * x) * (1 + y / x * (y / x)) := by rw [this, abs_mul_abs_self]
    _ = x * x + y * y := by field_simp

theorem hypOK_safe {sqrt : K → K} (hs : SqrtOK sqrt) : HypOK (hypotSafe abs sqrt) where
  nonneg x y := by
    unfold hypotSafe
    split
    · exact mul_nonneg (abs_nonneg _) (hs.nonneg _)
    · split
      · exact mul_nonneg (abs_nonneg _) (hs.nonneg _)
      · exact le_refl _
  sq x y := by
    unfold hypotSafe
    split
    · rename_i h
      exact hypotSafe_sq hs x y fun h0 => by
        rw [h0, abs_zero] at h; exact absurd h (not_lt.mpr (abs_nonneg y))
    · split
      · rename_i h hy
        rw [hypotSafe_sq hs y x (by simpa using hy), add_comm]
      · rename_i h hy
        have hy : y = 0 := by simpa using hy
        have hx : x = 0 := by
          rw [hy, abs_zero] at h
          exact abs_eq_zero.mp (le_antisymm (not_lt.mp h) (abs_nonneg x))
        rw [hx, hy]; ring

/-- `c = p/r`, `s = e/r` with `r = hypot2(p, e) ≠ 0`, in division-free form -/
structure Giv (c s r p e : K) : Prop where
  cr : c * r = p
  sr : s * r = e
  f1 : c * e = s * p
  f2 : s * e + c * p = r
  f3 : c * c + s * s = 1
  r0 : r ≠ 0

theorem giv_of {hyp : K → K → K} (h : HypOK hyp) (p e : K) (hpe : p ≠ 0 ∨ e ≠ 0) :
    Giv (p / hyp p e) (e / hyp p e) (hyp p e) p e := by
  have hr := h.ne_zero hpe
  have hsq := h.sq p e
  refine ⟨by field_simp, by field_simp, by field_simp, ?_, ?_, hr⟩
  · field_simp; linear_combination -hsq
  · field_simp; linear_combination -hsq

/-- the rotation in the plane `(i, i+1)` that `tql2` applies to the columns of `V` -/
def rotM {R : Type} [CommRing R] (c s : R) : Nat → Matrix (Fin 3) (Fin 3) R
  | 0 => !![c, s, 0; -s, c, 0; 0, 0, 1]
  | _ => !![1, 0, 0; 0, c, s; 0, -s, c]

theorem rotM_zero {R : Type} [CommRing R] (c s : R) : rotM c s 0 = !![c, s, 0; -s, c, 0; 0, 0, 1] := rfl
theorem rotM_succ {R : Type} [CommRing R] (c s : R) (i : Nat) : rotM c s (i+1) = !![1, 0, 0; 0, c, s; 0, -s, c] := rfl

theorem rotM_orth {R : Type} [CommRing R] (c s : R) (h : c * c + s * s = 1) (i : Nat) :
    (rotM c s i)ᵀ * rotM c s i = 1 := by
  rcases i with _ | i <;>
    simp only [rotM, transpose_fin_three, mul_fin_three, one_fin_three, mul_zero, zero_mul,
      add_zero, zero_add, mul_one] <;>
    apply mat3_congr <;> first | rfl | ring1 | linear_combination h

theorem rotV_zero (c s : K) (V : Mat K) : (List.range 3).foldl (qlRotV c s 0) V =
    ⟨c * V.a00 - s * V.a01, s * V.a00 + c * V.a01, V.a02,
     c * V.a10 - s * V.a11, s * V.a10 + c * V.a11, V.a12,
     c * V.a20 - s * V.a21, s * V.a20 + c * V.a21, V.a22⟩ := rfl

theorem rotV_one (c s : K) (V : Mat K) : (List.range 3).foldl (qlRotV c s 1) V =
    ⟨V.a00, c * V.a01 - s * V.a02, s * V.a01 + c * V.a02,
     V.a10, c * V.a11 - s * V.a12, s * V.a11 + c * V.a12,
     V.a20, c * V.a21 - s * V.a22, s * V.a21 + c * V.a22⟩ := by
  simp only [List.range, List.range.loop, List.foldl, qlRotV]
  rfl

theorem rotV_toM (c s : K) (V : Mat K) (i : Nat) (hi : i < 2) :
    ((List.range 3).foldl (qlRotV c s i) V).toM = V.toM * rotM c s i := by
  have : i = 0 ∨ i = 1 := by omega
  rcases this with rfl | rfl
  · rw [rotV_zero, Mat.toM_eq, Mat.toM_eq V, rotM_zero, mul_fin_three]
    apply mat3_congr <;> dsimp only <;> ring
  · rw [rotV_one, Mat.toM_eq, Mat.toM_eq V, rotM_succ, mul_fin_three]
    apply mat3_congr <;> dsimp only <;> ring

/-- an orthogonal similarity commutes with a shift of the diagonal -/
theorem sim_of_core (G S S' L L' : Matrix (Fin 3) (Fin 3) K) (f : K) (hG : Gᵀ * G = 1)
    (hcore : Gᵀ * S * G = S') (h1 : L' = S' + f • 1) (h2 : L = S + f • 1) : G * L' * Gᵀ = L := by
  rw [h1, h2, Matrix.mul_add, Matrix.add_mul, conj_inv hG hcore, Matrix.mul_smul, Matrix.smul_mul,
    Matrix.mul_one, mul_eq_one_comm.mp hG]

theorem orthonormal_mul_rot (V : Mat K) (W : Mat K) (G : Matrix (Fin 3) (Fin 3) K)
    (hG : Gᵀ * G = 1) (hW : W.toM = V.toM * G) (hV : Orthonormal V) : Orthonormal W := by
  unfold Orthonormal at *
  rw [hW]
  exact orth_mul hV hG

/-- the symmetric tridiagonal matrix `tql2` is working on when it is at eigenvalue `l`:
diagonal `d[i]` (+ the accumulated shift `f` for the not yet finished `i ≥ l`), sub-diagonal
`e[0], e[1]` (`e[i]` couples `i` and `i+1` after the initial renumbering) -/
def Tm (l : Nat) (d e : Vec K) (f : K) : Matrix (Fin 3) (Fin 3) K :=
  !![d 0 + (if l ≤ 0 then f else 0), e 0, 0;
     e 0, d 1 + (if l ≤ 1 then f else 0), e 1;
     0, e 1, d 2 + (if l ≤ 2 then f else 0)]

/-- `x` at the two places where `Tm` has `e[j]`, nothing for `j = 2` (`e[2]` is not in `Tm`): what
a sweep that ends at `m = j` drops from `Tm` (`SweepSpec.sim`) -/
def offM (j : Nat) (x : K) : Matrix (Fin 3) (Fin 3) K :=
  match j with
  | 0 => !![0, x, 0; x, 0, 0; 0, 0, 0]
  | 1 => !![0, 0, 0; 0, 0, x; 0, x, 0]
  | _ => 0

theorem Tm_zero (d e : Vec K) (f : K) :
    Tm 0 d e f = !![d.x0 + f, e.x0, 0; e.x0, d.x1 + f, e.x1; 0, e.x1, d.x2 + f] := by
  simp [Tm]

theorem Tm_one (d e : Vec K) (f : K) :
    Tm 1 d e f = !![d.x0, e.x0, 0; e.x0, d.x1 + f, e.x1; 0, e.x1, d.x2 + f] := by
  simp [Tm]

theorem offM_one (x : K) : offM 1 x = !![0, 0, 0; 0, 0, x; 0, x, 0] := rfl
theorem offM_two (x : K) : offM 2 x = 0 := rfl

theorem offM_zero (j : Nat) : offM j (0 : K) = 0 := by
  rcases j with _ | _ | j
  · exact (eta_fin_three 0).symm
  · exact (eta_fin_three 0).symm
  · rfl

theorem add_smul_one3 (a b c d e f g h i F : K) :
    !![a, b, c; d, e, f; g, h, i] + F • (1 : Matrix (Fin 3) (Fin 3) K) =
      !![a + F, b, c; d, e + F, f; g, h, i + F] := by
  rw [one_fin_three, eta_fin_three (_ + _)]
  simp

theorem sub3 (a b c d e f g h i a' b' c' d' e' f' g' h' i' : K) :
    !![a, b, c; d, e, f; g, h, i] - !![a', b', c'; d', e', f'; g', h', i'] =
      !![a - a', b - b', c - c'; d - d', e - e', f - f'; g - g', h - h', i - i'] :=
  eta_fin_three _

/-- the shift of `tql2` (`d[l] = e[l]/(p+r)`, `d[l+1] = e[l]*(p+r)`, the rest `-= h`) is a
shift of the whole remaining diagonal by `h = d[l] - e[l]/(p+r)` -/
theorem shift_identity (d0 d1 e0 P r w : K) (he : e0 ≠ 0) (hP : P = (d1 - d0) / (2 * e0))
    (hr : r * r = P * P + 1 * 1) (hw : w = P + r) :
    w ≠ 0 ∧ d1 - (d0 - e0 / w) = e0 * w := by
  have h2 : (2 : K) * e0 ≠ 0 := mul_ne_zero two_ne_zero he
  have hP' : 2 * e0 * P = d1 - d0 := by rw [hP]; field_simp
  have hq : w * w - 2 * P * w - 1 = 0 := by rw [hw]; linear_combination hr
  have hw0 : w ≠ 0 := by
    intro h0; rw [h0] at hq; simp at hq
  refine ⟨hw0, ?_⟩
  field_simp
  linear_combination (-w) * hP' - e0 * hq

/-- rotation in the plane `(1,2)` applied to a tridiagonal matrix (the first rotation of a
sweep that ends at `m = 2`): a bulge `s*e0` appears at `(0,2)` -/
theorem core2a {R : Type} [CommRing R] (D0 D1 D2 e0 e1 c1 s1 r1 : R) (f1 : c1 * e1 = s1 * D2)
    (f2 : s1 * e1 + c1 * D2 = r1) (cr : c1 * r1 = D2) :
    (rotM c1 s1 1)ᵀ * !![D0, e0, 0; e0, D1, e1; 0, e1, D2] * rotM c1 s1 1 =
      !![D0, c1 * e0, s1 * e0;
         c1 * e0, c1 * (c1 * D1 - s1 * e1), s1 * (c1 * D1 - s1 * e1);
         s1 * e0, s1 * (c1 * D1 - s1 * e1), D2 + s1 * (c1 * e1 + s1 * D1)] := by
  rw [rotM_succ, transpose_fin_three, mul_fin_three, mul_fin_three]
  exact mat3_congr (by ring) (by ring) (by ring) (by ring)
    (by linear_combination (-s1) * f1) (by linear_combination c1 * f1) (by ring)
    (by linear_combination c1 * f1) (by linear_combination c1 * f2 + cr)

/-- rotation in the plane `(0,1)` applied to the matrix the previous rotation left (for a sweep
with `m = 1` there was none: `c1 = 1`, `s1 = 0`): it removes the bulge `s1*e0` -/
theorem core2b {R : Type} [CommRing R] (D0 e0 m22 c1 s1 p1 c0 s0 r0 : R) (f1 : c0 * e0 = s0 * p1)
    (f2 : s0 * e0 + c0 * p1 = r0) (cr : c0 * r0 = p1) :
    (rotM c0 s0 0)ᵀ * !![D0, c1 * e0, s1 * e0; c1 * e0, c1 * p1, s1 * p1; s1 * e0, s1 * p1, m22] *
        rotM c0 s0 0 =
      !![c0 * (c0 * D0 - s0 * (c1 * e0)), s0 * (c0 * D0 - s0 * (c1 * e0)), 0;
         s0 * (c0 * D0 - s0 * (c1 * e0)), c1 * p1 + s0 * (c0 * (c1 * e0) + s0 * D0), s1 * r0;
         0, s1 * r0, m22] := by
  rw [rotM_zero, transpose_fin_three, mul_fin_three, mul_fin_three]
  exact mat3_congr (by linear_combination (-s0 * c1) * f1) (by linear_combination (c0 * c1) * f1)
    (by linear_combination s1 * f1) (by linear_combination (c0 * c1) * f1)
    (by linear_combination (c1 * c0) * f2 + c1 * cr) (by linear_combination s1 * f2)
    (by linear_combination s1 * f1) (by linear_combination s1 * f2) (by ring)

/-- the closing formula of the sweep, `p = -s*s2*c3*el1*e[l]/dl1`, is the exact value
`c0*D0 - s0*(c1*e0)` of the QL step because the shifted leading block is singular (with
`c1 = 1`, `s1 = 0` when the sweep has a single rotation) -/
theorem core2p (D0 D1 e0 e1 c1 s1 p1 c0 s0 r0 : K) (g : Giv c0 s0 r0 p1 e0)
    (hp1 : p1 = c1 * D1 - s1 * e1) (hD : D0 * D1 = e0 * e0) (hD1 : D1 ≠ 0) :
    -s0 * s1 * 1 * e1 * e0 / D1 = c0 * D0 - s0 * (c1 * e0) := by
  rw [div_eq_iff hD1]
  apply mul_right_cancel₀ g.r0
  linear_combination (-s1 * e1 * e0 + c1 * e0 * D1) * g.sr + (-D0 * D1) * g.cr + (-p1) * hD
    + (-e0 * e0) * hp1

/-- what the loop `qlIter` needs to know of one QL sweep on the block `l..m`, and no more -/
structure SweepSpec (l m : Nat) (t t' : TQ K) : Prop where
  /-- `T` without `e[m]`: the entry `findM` found negligible and the first rotation overwrites -/
  sim : ∃ G : Matrix (Fin 3) (Fin 3) K, Gᵀ * G = 1 ∧ t'.V.toM = t.V.toM * G ∧
        G * Tm l t'.d t'.e t'.f * Gᵀ = Tm l t.d t.e t.f - offM m (t.e m)
  /-- `e[m] = s*r` with `s = 0.0` -/
  em : t'.e m = 0
  /-- the entries strictly inside the block stay non-zero, so the rotations of the next sweep are
  not degenerate (`e[l]` itself is tested by `while cont`) -/
  mid : ∀ i, l < i → i < m → t'.e i ≠ 0
  low : ∀ i, i < l → t'.e i = t.e i
  tst : t'.tst1 = t.tst1
  drops : t'.drops = t.drops

/-- `p + r` of "Compute implicit shift", with `r = ±hypot2(p, 1)` of the sign of `p` -/
def shiftW (hyp : K → K → K) (d0 d1 e0 : K) : K :=
  let p := (d1 - d0) / (2 * e0)
  p + if p < 0 then -hyp p 1 else hyp p 1

/-- the shift is exact, and the shifted leading 2×2 block `[[e/w, e], [e, e*w]]` is singular -/
theorem shift_spec {hyp : K → K → K} (hh : HypOK hyp) (d0 d1 e0 : K) (he : e0 ≠ 0) :
    e0 * shiftW hyp d0 d1 e0 ≠ 0 ∧
    d1 - (d0 - e0 / shiftW hyp d0 d1 e0) = e0 * shiftW hyp d0 d1 e0 ∧
    e0 / shiftW hyp d0 d1 e0 * (e0 * shiftW hyp d0 d1 e0) = e0 * e0 := by
  have hrr : ∀ P : K, (if P < 0 then -hyp P 1 else hyp P 1) * (if P < 0 then -hyp P 1 else hyp P 1) =
      P * P + 1 * 1 := fun P => by
    split <;> [rw [neg_mul_neg]; skip] <;> exact hh.sq P 1
  obtain ⟨hw0, hsh⟩ := shift_identity d0 d1 e0 _ _ (shiftW hyp d0 d1 e0) he rfl (hrr _) rfl
  exact ⟨mul_ne_zero he hw0, hsh, by field_simp⟩

theorem qlSweep01_form (hyp : K → K → K) (t : TQ K) :
  let w := shiftW hyp t.d.x0 t.d.x1 t.e.x0
  let D0 := t.e.x0 / w
  let D1 := t.e.x0 * w
  let h := t.d.x0 - D0
  let D2 := t.d.x2 - h
  let r0 := hyp D1 t.e.x0
  let s0 := t.e.x0 / r0
  let c0 := D1 / r0
  let pp := -s0 * 0 * 1 * t.e.x1 * t.e.x0 / D1
  qlSweep hyp 0 1 t = { t with
    V := (List.range 3).foldl (qlRotV c0 s0 0) t.V,
    d := ⟨c0 * pp, 1 * D1 + s0 * (c0 * (1 * t.e.x0) + s0 * D0), D2⟩,
    e := ⟨s0 * pp, 0 * r0, t.e.x2⟩,
    f := t.f + h } := by
  intros
  rfl

theorem qlSweep01_spec (hyp : K → K → K) (hh : HypOK hyp) (t : TQ K) (he : t.e 0 ≠ 0) :
    SweepSpec 0 1 t (qlSweep hyp 0 1 t) := by
  rw [show qlSweep hyp 0 1 t = _ from qlSweep01_form hyp t]
  simp only [Vec.get0] at he
  obtain ⟨hD1ne, hsh, hD⟩ := shift_spec hh t.d.x0 t.d.x1 t.e.x0 he
  set w := shiftW hyp t.d.x0 t.d.x1 t.e.x0
  set D0 := t.e.x0 / w
  set D1 := t.e.x0 * w
  have g := giv_of hh D1 t.e.x0 (Or.inl hD1ne)
  set r0 := hyp D1 t.e.x0
  set s0 := t.e.x0 / r0
  set c0 := D1 / r0
  -- a single rotation is the double sweep with a trivial first rotation `c1 = 1`, `s1 = 0`
  have hpp := core2p D0 D1 t.e.x0 t.e.x1 1 0 D1 c0 s0 r0 g (by ring) hD hD1ne
  have hc := core2b D0 t.e.x0 (t.d.x2 - (t.d.x0 - D0)) 1 0 D1 c0 s0 r0 g.f1 g.f2 g.cr
  have ho := rotM_orth c0 s0 g.f3 0
  refine ⟨⟨rotM c0 s0 0, ho, rotV_toM c0 s0 t.V 0 (by omega), ?_⟩,
    zero_mul _, ?_, ?_, rfl, rfl⟩
  · refine sim_of_core _ _ _ _ _ (t.f + (t.d.x0 - D0)) ho hc ?_ ?_
    · rw [Tm_zero, add_smul_one3]
      dsimp only
      rw [hpp]
    · rw [Tm_zero, offM_one, sub3, add_smul_one3]
      dsimp only [Vec.get1]
      exact mat3_congr (by ring) (by ring) (by ring) (by ring) (by linear_combination hsh)
        (by ring) (by ring) (by ring) (by ring)
  · intro i h1 h2; omega
  · intro i h; omega

theorem qlSweep12_form (hyp : K → K → K) (t : TQ K) :
  let w := shiftW hyp t.d.x1 t.d.x2 t.e.x1
  let D1 := t.e.x1 / w
  let D2 := t.e.x1 * w
  let h := t.d.x1 - D1
  let r1 := hyp D2 t.e.x1
  let s1 := t.e.x1 / r1
  let c1 := D2 / r1
  let pp := -s1 * 0 * 1 * t.e.x2 * t.e.x1 / D2
  qlSweep hyp 1 2 t = { t with
    V := (List.range 3).foldl (qlRotV c1 s1 1) t.V,
    d := ⟨t.d.x0, c1 * pp, 1 * D2 + s1 * (c1 * (1 * t.e.x1) + s1 * D1)⟩,
    e := ⟨t.e.x0, s1 * pp, 0 * r1⟩,
    f := t.f + h } := by
  intros
  rfl

theorem qlSweep12_spec (hyp : K → K → K) (hh : HypOK hyp) (t : TQ K) (he : t.e 1 ≠ 0)
    (he0 : t.e 0 = 0) :
    SweepSpec 1 2 t (qlSweep hyp 1 2 t) := by
  rw [show qlSweep hyp 1 2 t = _ from qlSweep12_form hyp t]
  simp only [Vec.get0, Vec.get1] at he he0
  obtain ⟨hD2ne, hsh, hD⟩ := shift_spec hh t.d.x1 t.d.x2 t.e.x1 he
  set w := shiftW hyp t.d.x1 t.d.x2 t.e.x1
  set D1 := t.e.x1 / w
  set D2 := t.e.x1 * w
  have g := giv_of hh D2 t.e.x1 (Or.inl hD2ne)
  set r1 := hyp D2 t.e.x1
  set s1 := t.e.x1 / r1
  set c1 := D2 / r1
  have hpp := core2p D1 D2 t.e.x1 t.e.x2 1 0 D2 c1 s1 r1 g (by ring) hD hD2ne
  -- `core2a` for the matrix whose entry `e0` is `0` (no bulge appears) and whose first diagonal
  -- entry has the shift taken off, since `Tm 1` does not shift `d[0]`
  have hc := core2a (t.d.x0 - (t.f + (t.d.x1 - D1))) D1 D2 0 t.e.x1 c1 s1 r1 g.f1 g.f2 g.cr
  have ho := rotM_orth c1 s1 g.f3 1
  refine ⟨⟨rotM c1 s1 1, ho, rotV_toM c1 s1 t.V 1 (by omega), ?_⟩,
    zero_mul _, ?_, ?_, rfl, rfl⟩
  · refine sim_of_core _ _ _ _ _ (t.f + (t.d.x1 - D1)) ho hc ?_ ?_
    · rw [Tm_one, add_smul_one3]
      dsimp only
      rw [hpp]
      exact mat3_congr (by ring) (by linear_combination he0) (by ring) (by linear_combination he0)
        (by ring) (by ring) (by ring) (by ring) (by ring)
    · rw [Tm_one, offM_two, sub_zero, add_smul_one3]
      exact mat3_congr (by ring) (by linear_combination he0) (by ring) (by linear_combination he0)
        (by ring) (by ring) (by ring) (by ring) (by linear_combination hsh)
  · intro i h1 h2; omega
  · intro i h
    have : i = 0 := by omega
    subst this; rfl

theorem qlSweep02_form (hyp : K → K → K) (t : TQ K) :
  let w := shiftW hyp t.d.x0 t.d.x1 t.e.x0
  let D0 := t.e.x0 / w
  let D1 := t.e.x0 * w
  let h := t.d.x0 - D0
  let D2 := t.d.x2 - h
  let r1 := hyp D2 t.e.x1
  let s1 := t.e.x1 / r1
  let c1 := D2 / r1
  let p1 := c1 * D1 - s1 * (1 * t.e.x1)
  let r0 := hyp p1 t.e.x0
  let s0 := t.e.x0 / r0
  let c0 := p1 / r0
  let pp := -s0 * s1 * 1 * t.e.x1 * t.e.x0 / D1
  qlSweep hyp 0 2 t = { t with
    V := (List.range 3).foldl (qlRotV c0 s0 0) ((List.range 3).foldl (qlRotV c1 s1 1) t.V),
    d := ⟨c0 * pp, c1 * p1 + s0 * (c0 * (c1 * t.e.x0) + s0 * D0), 1 * D2 + s1 * (c1 * (1 * t.e.x1) + s1 * D1)⟩,
    e := ⟨s0 * pp, s1 * r0, 0 * r1⟩,
    f := t.f + h } := by
  intros
  -- unfolding first keeps the two nested rotations from being compared term by term
  simp only [qlSweep, downFrom, List.range', List.reverse_cons, List.reverse_nil,
    List.nil_append, List.cons_append, List.foldl, qlRotBody, qlShiftBody, setV, Vec.get]
  rfl

theorem qlSweep02_spec (hyp : K → K → K) (hh : HypOK hyp) (t : TQ K) (he0 : t.e 0 ≠ 0)
    (he1 : t.e 1 ≠ 0) :
    SweepSpec 0 2 t (qlSweep hyp 0 2 t) := by
  rw [show qlSweep hyp 0 2 t = _ from qlSweep02_form hyp t]
  simp only [one_mul]
  simp only [Vec.get0, Vec.get1] at he0 he1
  obtain ⟨hD1ne, hsh, hD⟩ := shift_spec hh t.d.x0 t.d.x1 t.e.x0 he0
  set w := shiftW hyp t.d.x0 t.d.x1 t.e.x0
  set D0 := t.e.x0 / w
  set D1 := t.e.x0 * w
  set D2 := t.d.x2 - (t.d.x0 - D0)
  have g1 := giv_of hh D2 t.e.x1 (Or.inr he1)
  set r1 := hyp D2 t.e.x1
  set s1 := t.e.x1 / r1
  set c1 := D2 / r1
  set p1 := c1 * D1 - s1 * t.e.x1 with hp1
  have g0 := giv_of hh p1 t.e.x0 (Or.inr he0)
  set r0 := hyp p1 t.e.x0
  set s0 := t.e.x0 / r0
  set c0 := p1 / r0
  have hpp := core2p D0 D1 t.e.x0 t.e.x1 c1 s1 p1 c0 s0 r0 g0 hp1 hD hD1ne
  have ho := orth_mul (rotM_orth c1 s1 g1.f3 1) (rotM_orth c0 s0 g0.f3 0)
  have hc := conj_mul (core2a D0 D1 D2 t.e.x0 t.e.x1 c1 s1 r1 g1.f1 g1.f2 g1.cr)
    (core2b D0 t.e.x0 (D2 + s1 * (c1 * t.e.x1 + s1 * D1)) c1 s1 p1 c0 s0 r0 g0.f1 g0.f2 g0.cr)
  refine ⟨⟨rotM c1 s1 1 * rotM c0 s0 0, ho, ?_, ?_⟩, zero_mul _, ?_, ?_,
    rfl, rfl⟩
  · dsimp only
    rw [rotV_toM _ _ _ 0 (by omega), rotV_toM _ _ _ 1 (by omega), Matrix.mul_assoc]
  · refine sim_of_core _ _ _ _ _ (t.f + (t.d.x0 - D0)) ho hc ?_ ?_
    · rw [Tm_zero, add_smul_one3]
      dsimp only
      rw [hpp]
    · rw [Tm_zero, offM_two, sub_zero, add_smul_one3]
      exact mat3_congr (by ring) (by ring) (by ring) (by ring) (by linear_combination hsh)
        (by ring) (by ring) (by ring) (by ring)
  · intro i h1 h2
    have : i = 1 := by omega
    subst this
    exact mul_ne_zero (div_ne_zero he1 g1.r0) g0.r0
  · intro i h; omega

/-- one pass of `while cont`, for every `(l, m)` that can occur; `hne` holds in the code because
the entries inside the block failed the test `fabs(e[i]) <= eps*tst1` -/
theorem qlSweep_spec (hyp : K → K → K) (hh : HypOK hyp) (l m : Nat) (hlm : l < m) (hm : m < 3)
    (t : TQ K) (hne : ∀ i, l ≤ i → i < m → t.e i ≠ 0) (hlow : ∀ i, i < l → t.e i = 0) :
    SweepSpec l m t (qlSweep hyp l m t) := by
  have : (l = 0 ∧ m = 1) ∨ (l = 0 ∧ m = 2) ∨ (l = 1 ∧ m = 2) := by omega
  rcases this with ⟨rfl, rfl⟩ | ⟨rfl, rfl⟩ | ⟨rfl, rfl⟩
  · exact qlSweep01_spec hyp hh t (hne 0 (le_refl _) (by omega))
  · exact qlSweep02_spec hyp hh t (hne 0 (le_refl _) (by omega)) (hne 1 (by omega) (by omega))
  · exact qlSweep12_spec hyp hh t (hne 1 (le_refl _) (by omega)) (hlow 0 (by omega))

end PysphVerif.Eigen3
