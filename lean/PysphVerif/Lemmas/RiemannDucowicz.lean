import PysphVerif.Lemmas.Riemann
/-!
# C15 — `ducowicz`: hand-written normal form and its mirror image

After the preamble (`bl, br, plmin, prmin, umin, umax`) the function tries four
sign patterns of `(u* - umin, u* - umax)`:
A `(+,-)`, B `(-,+)` each guarded by the sign test, C `(+,+)` guarded by the
sign test and by its discriminant being non-negative, D `(-,-)` unguarded.
The mirror image maps `(bl, br, plmin, prmin, umin, umax)` to
`(br, bl, prmin, plmin, -umax, -umin)`, A to A, B to B, C to D and D to C.
-/
set_option linter.unusedSectionVars false
namespace PysphVerif.Riemann
open PysphVerif.Gen.Riemann
open scoped PysphVerif.OrderChain

variable {K : Type} [Field K] [LinearOrder K] [IsStrictOrderedRing K]

/-- the star pressure `ducowicz` computes from a star velocity `u` -/
def ducoP (o : Ops K) (bl br plmin prmin umin umax u : K) : K :=
  pymax (1 / 2 * (plmin + prmin + br * o.abs (u - umin) * (u - umin)
    - bl * o.abs (u - umax) * (u - umax))) 0

/-- candidate star velocity of case A; `ducoUB … ducoUD` likewise, `ducoDC` and `ducoDD` are the
discriminants of C and D -/
def ducoUA (o : Ops K) (bl br plmin prmin umin umax : K) : K :=
  (br * umin * umin - bl * umax * umax + prmin - plmin) /
    (br * umin - bl * umax -
      SIGN o (o.sqrt (pymax 0 (br * bl * (umin - umax) * (umin - umax) - (br - bl) * (prmin - plmin))))
        (umax - umin))

def ducoUB (o : Ops K) (bl br plmin prmin umin umax : K) : K :=
  (br * umin * umin - bl * umax * umax - prmin + plmin) /
    (br * umin - bl * umax -
      SIGN o (o.sqrt (pymax 0 (br * bl * (umin - umax) * (umin - umax) + (br - bl) * (prmin - plmin))))
        (umax - umin))

def ducoDC (bl br plmin prmin umin umax : K) : K :=
  (bl + br) * (plmin - prmin) - br * bl * (umin - umax) * (umin - umax)

def ducoDD (bl br plmin prmin umin umax : K) : K :=
  -((bl + br) * (plmin - prmin)) - br * bl * (umin - umax) * (umin - umax)

def ducoUC (o : Ops K) (bl br plmin prmin umin umax : K) : K :=
  (bl * umax + br * umin +
      o.sqrt (pymax 0 ((bl + br) * (plmin - prmin) - br * bl * (umin - umax) * (umin - umax)))) *
    (1 / (bl + br))

def ducoUD (o : Ops K) (bl br plmin prmin umin umax : K) : K :=
  (bl * umax + br * umin -
      o.sqrt (pymax 0 (-((bl + br) * (plmin - prmin)) - br * bl * (umin - umax) * (umin - umax)))) *
    (1 / (bl + br))

/-! The sign tests that guard the cases, on a candidate `u`.  `ducoGD` is the one the source does
NOT make: case D is taken whenever A, B and C fail. -/

def ducoGA (umin umax u : K) : Prop := 0 ≤ u - umin ∧ u - umax ≤ 0
def ducoGB (umin umax u : K) : Prop := u - umin ≤ 0 ∧ 0 ≤ u - umax
def ducoGC (umin umax u : K) : Prop := 0 ≤ u - umin ∧ 0 ≤ u - umax
def ducoGD (umin umax u : K) : Prop := u - umin ≤ 0 ∧ u - umax ≤ 0

instance (umin umax u : K) : Decidable (ducoGA umin umax u) := instDecidableAnd
instance (umin umax u : K) : Decidable (ducoGB umin umax u) := instDecidableAnd
instance (umin umax u : K) : Decidable (ducoGC umin umax u) := instDecidableAnd
instance (umin umax u : K) : Decidable (ducoGD umin umax u) := instDecidableAnd

def ducoTail (o : Ops K) (bl br plmin prmin umin umax : K) : Res K :=
  if ducoGA umin umax (ducoUA o bl br plmin prmin umin umax) then
    ⟨0, ducoP o bl br plmin prmin umin umax (ducoUA o bl br plmin prmin umin umax),
      ducoUA o bl br plmin prmin umin umax⟩
  else if ducoGB umin umax (ducoUB o bl br plmin prmin umin umax) then
    ⟨0, ducoP o bl br plmin prmin umin umax (ducoUB o bl br plmin prmin umin umax),
      ducoUB o bl br plmin prmin umin umax⟩
  else if 0 ≤ ducoDC bl br plmin prmin umin umax ∧
      ducoGC umin umax (ducoUC o bl br plmin prmin umin umax) then
    ⟨0, ducoP o bl br plmin prmin umin umax (ducoUC o bl br plmin prmin umin umax),
      ducoUC o bl br plmin prmin umin umax⟩
  else
    ⟨0, ducoP o bl br plmin prmin umin umax (ducoUD o bl br plmin prmin umin umax),
      ducoUD o bl br plmin prmin umin umax⟩

theorem ducowicz_eq (o : Ops K) (rhol rhor pl pr ul ur gamma : K) (niter : Int) (tol r0 r1 : K) :
    ducowicz o rhol rhor pl pr ul ur gamma niter tol r0 r1 =
      ducoTail o (rhol * (1 / 2 * (gamma + 1))) (rhor * (1 / 2 * (gamma + 1)))
        (pl - 1 / 4 * rhol * o.sqrt (gamma * pl * rhol) * o.sqrt (gamma * pl * rhol) / (1 / 2 * (gamma + 1)))
        (pr - 1 / 4 * rhor * o.sqrt (gamma * pr * rhor) * o.sqrt (gamma * pr * rhor) / (1 / 2 * (gamma + 1)))
        (ur - 1 / 2 * o.sqrt (gamma * pr * rhor) / (1 / 2 * (gamma + 1)))
        (ul + 1 / 2 * o.sqrt (gamma * pl * rhol) / (1 / 2 * (gamma + 1))) := by
  unfold ducowicz ducoTail ducoUA ducoUB ducoUC ducoUD ducoP ducoGA ducoGB ducoGC ducoDC
  simp only [Nat.cast_ofNat, Nat.cast_one, Nat.cast_zero]

section mirror
variable (o : Ops K) (sqrt : K → K) (pow : K → K → K) (bl br plmin prmin umin umax : K)

theorem ducoP_mirror (u : K) :
    ducoP (fieldOps sqrt pow) br bl prmin plmin (-umax) (-umin) (-u)
      = ducoP (fieldOps sqrt pow) bl br plmin prmin umin umax u := by
  unfold ducoP
  simp only [fieldOps_abs]
  rw [← neg_sub', ← neg_sub', abs_neg, abs_neg]
  congr 1
  ring

theorem ducoUA_mirror :
    ducoUA o br bl prmin plmin (-umax) (-umin) = -ducoUA o bl br plmin prmin umin umax := by
  unfold ducoUA
  have e1 : bl * -umax * -umax - br * -umin * -umin + plmin - prmin
      = -(br * umin * umin - bl * umax * umax + prmin - plmin) := by ring
  have e2 : bl * -umax - br * -umin = br * umin - bl * umax := by ring
  have e3 : bl * br * (-umax - -umin) * (-umax - -umin) - (bl - br) * (plmin - prmin)
      = br * bl * (umin - umax) * (umin - umax) - (br - bl) * (prmin - plmin) := by ring
  rw [e1, e2, e3, neg_sub_neg, neg_div]

theorem ducoUB_eq : ducoUB o bl br plmin prmin umin umax = ducoUA o bl br prmin plmin umin umax := by
  unfold ducoUB ducoUA
  rw [sub_add_eq_add_sub, ← neg_sub plmin, mul_neg, ← sub_eq_add_neg]

theorem ducoUB_mirror :
    ducoUB o br bl prmin plmin (-umax) (-umin) = -ducoUB o bl br plmin prmin umin umax := by
  rw [ducoUB_eq, ducoUB_eq, ducoUA_mirror]

theorem ducoDC_mirror :
    ducoDC br bl prmin plmin (-umax) (-umin) = ducoDD bl br plmin prmin umin umax := by
  unfold ducoDC ducoDD; ring

theorem ducoUC_mirror :
    ducoUC o br bl prmin plmin (-umax) (-umin) = -ducoUD o bl br plmin prmin umin umax := by
  -- under the square root stands the discriminant of the case
  have e1 := ducoDC_mirror bl br plmin prmin umin umax
  unfold ducoDC ducoDD at e1
  have e2 : br + bl = bl + br := add_comm _ _
  unfold ducoUC ducoUD
  rw [e1, e2]
  ring

theorem ducoUD_mirror :
    ducoUD o br bl prmin plmin (-umax) (-umin) = -ducoUC o bl br plmin prmin umin umax := by
  -- the mirror image is an involution
  have h := ducoUC_mirror o br bl prmin plmin (-umax) (-umin)
  rw [neg_neg, neg_neg] at h
  rw [h, neg_neg]

theorem ducoGA_mirror (u : K) : ducoGA (-umax) (-umin) (-u) ↔ ducoGA umin umax u := by
  simp only [ducoGA, neg_sub_neg, sub_nonneg, sub_nonpos, and_comm]

theorem ducoGB_mirror (u : K) : ducoGB (-umax) (-umin) (-u) ↔ ducoGB umin umax u := by
  simp only [ducoGB, neg_sub_neg, sub_nonneg, sub_nonpos, and_comm]

theorem ducoGC_mirror (u : K) : ducoGC (-umax) (-umin) (-u) ↔ ducoGD umin umax u := by
  simp only [ducoGC, ducoGD, neg_sub_neg, sub_nonneg, sub_nonpos, and_comm]

theorem ducoUC_eq_UD (hbl : 0 < bl) (hbr : 0 < br) (hs0 : o.sqrt 0 = 0)
    (hC : 0 ≤ ducoDC bl br plmin prmin umin umax) (hD : 0 ≤ ducoDD bl br plmin prmin umin umax) :
    ducoUC o bl br plmin prmin umin umax = ducoUD o bl br plmin prmin umin umax := by
  have hd : 0 ≤ br * bl * (umin - umax) * (umin - umax) := by
    rw [mul_assoc]; exact mul_nonneg (mul_pos hbr hbl).le (mul_self_nonneg _)
  unfold ducoDC at hC
  unfold ducoDD at hD
  unfold ducoUC ducoUD
  generalize (bl + br) * (plmin - prmin) = x at hC hD ⊢
  generalize br * bl * (umin - umax) * (umin - umax) = d at hd hC hD ⊢
  -- `x - d ≥ 0`, `-x - d ≥ 0`, `d ≥ 0`: all three vanish
  rw [le_antisymm (by linarith) hC, le_antisymm (by linarith) hD]
  simp only [pymax_eq_max, max_self, hs0, add_zero, sub_zero]

/-- `hcov`: the unguarded last branch is only reached when the guard the source does not test
(`ducoDD ≥ 0` and `ducoGD`, the mirror image of the guard of C) holds -/
theorem ducoTail_mirror (hbl : 0 < bl) (hbr : 0 < br) (hs0 : sqrt 0 = 0)
    (hcov : ¬ ducoGA umin umax (ducoUA (fieldOps sqrt pow) bl br plmin prmin umin umax) →
           ¬ ducoGB umin umax (ducoUB (fieldOps sqrt pow) bl br plmin prmin umin umax) →
           ¬ (0 ≤ ducoDC bl br plmin prmin umin umax ∧
              ducoGC umin umax (ducoUC (fieldOps sqrt pow) bl br plmin prmin umin umax)) →
           (0 ≤ ducoDD bl br plmin prmin umin umax ∧
            ducoGD umin umax (ducoUD (fieldOps sqrt pow) bl br plmin prmin umin umax))) :
    Res.Rel id Neg.neg (ducoTail (fieldOps sqrt pow) br bl prmin plmin (-umax) (-umin))
      (ducoTail (fieldOps sqrt pow) bl br plmin prmin umin umax) := by
  refine .of_eq ?_
  unfold ducoTail
  rw [ducoUA_mirror, ducoUB_mirror, ducoUC_mirror, ducoUD_mirror, ducoDC_mirror]
  simp only [ducoGA_mirror, ducoGB_mirror, ducoGC_mirror, ducoP_mirror]
  by_cases hA : ducoGA umin umax (ducoUA (fieldOps sqrt pow) bl br plmin prmin umin umax)
  · simp only [if_pos hA]; rfl
  · by_cases hB : ducoGB umin umax (ducoUB (fieldOps sqrt pow) bl br plmin prmin umin umax)
    · simp only [if_neg hA, if_pos hB]; rfl
    · by_cases hC : (0 ≤ ducoDC bl br plmin prmin umin umax ∧
          ducoGC umin umax (ducoUC (fieldOps sqrt pow) bl br plmin prmin umin umax))
      · by_cases hD : (0 ≤ ducoDD bl br plmin prmin umin umax ∧
            ducoGD umin umax (ducoUD (fieldOps sqrt pow) bl br plmin prmin umin umax))
        · have e := ducoUC_eq_UD (fieldOps sqrt pow) bl br plmin prmin umin umax hbl hbr hs0 hC.1 hD.1
          simp only [if_neg hA, if_neg hB, if_pos hC, if_pos hD]
          rw [e]; rfl
        · simp only [if_neg hA, if_neg hB, if_pos hC, if_neg hD]; rfl
      · have hD := hcov hA hB hC
        simp only [if_neg hA, if_neg hB, if_neg hC, if_pos hD]; rfl

end mirror
/-- equal states after the preamble: `umin = u - h`, `umax = u + h`; case A returns `u` -/
theorem ducoTail_equal (sqrt : K → K) (pow : K → K → K) (β q u h : K) (hβ : 0 < β) (hh : 0 < h)
    (hsq : sqrt ((2 * β * h) * (2 * β * h)) = 2 * β * h) :
    ducoTail (fieldOps sqrt pow) β β q q (u - h) (u + h) = ⟨0, pymax (q + β * h * h) 0, u⟩ := by
  have hd : β * β * (u - h - (u + h)) * (u - h - (u + h)) - (β - β) * (q - q)
      = (2 * β * h) * (2 * β * h) := by ring
  have hpos : (0 : K) ≤ (2 * β * h) * (2 * β * h) := mul_self_nonneg _
  have hUA : ducoUA (fieldOps sqrt pow) β β q q (u - h) (u + h) = u := by
    unfold ducoUA
    rw [hd, pymax_eq_max, max_eq_right hpos, fieldOps_sqrt, hsq]
    have h2 : (0 : K) ≤ u + h - (u - h) := by rw [add_sub_sub_cancel]; exact (add_pos hh hh).le
    have h3 : (0 : K) ≤ 2 * β * h := by positivity
    simp only [SIGN, Nat.cast_zero, if_pos h2, fieldOps_abs, abs_of_nonneg h3]
    have hne : β * (u - h) - β * (u + h) - 2 * β * h ≠ 0 := by
      have : β * (u - h) - β * (u + h) - 2 * β * h = -(4 * β * h) := by ring
      rw [this]; exact neg_ne_zero.mpr (by positivity)
    rw [div_eq_iff hne]; ring
  unfold ducoTail
  have hGA : ducoGA (u - h) (u + h) u :=
    ⟨by rw [sub_sub_cancel]; exact hh.le, by rw [sub_add_cancel_left]; exact (neg_neg_of_pos hh).le⟩
  rw [hUA, if_pos hGA]
  congr 1
  unfold ducoP
  simp only [fieldOps_abs]
  rw [sub_sub_cancel, sub_add_cancel_left, abs_neg, abs_of_pos hh]
  congr 1
  ring

end PysphVerif.Riemann
