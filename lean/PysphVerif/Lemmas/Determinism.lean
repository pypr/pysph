import PysphVerif.Model.Determinism
import PysphVerif.Lemmas.ArrayRows
/-!
C05: under the own-row discipline a row after any run of micro-steps is the reference fold over
the micro-steps that target it (`run_getElem?`), and an interleaving of programs that write disjoint
rows projects onto each row as the programs laid end to end (`filter_interleave`); hence schedule
independence (`runLoop_eq_evalAll`).
-/
namespace PysphVerif.Determinism

variable {ρ κ : Type}

/-- The own-row discipline, semantically: the pair function reads of the *source*
row only the part `rd`, and its write to the *own* row leaves that part unchanged
("reads no property written by the same loop").  That it writes the own row only
is built into `applyOp`. -/
structure Discipline (f : ρ → ρ → ρ) (rd : ρ → κ) : Prop where
  reads_only_rd : ∀ r s s', rd s = rd s' → f r s = f r s'
  keeps_rd : ∀ r s, rd (f r s) = rd r

def rowOf (i : Nat) (ops : List Op) : List Op := ops.filter (fun op => op.dst == i)

theorem rowOf_cons (i : Nat) (op : Op) (ops : List Op) :
    rowOf i (op :: ops) = if op.dst = i then op :: rowOf i ops else rowOf i ops := by
  simp only [rowOf, List.filter_cons, beq_iff_eq]

/-- The micro-step is the reference step `absorb` applied in place to the own row; with the source
out of range it is `modify … id`. -/
theorem applyOp_eq_modify (f : ρ → ρ → ρ) (st : List ρ) (op : Op) :
    applyOp f st op = st.modify op.dst (absorb f st · op.src) := by
  unfold applyOp absorb
  cases st[op.src]? with
  | none => exact (List.modify_id ..).symm
  | some s => rfl

theorem applyOp_getElem? (f : ρ → ρ → ρ) (st : List ρ) (op : Op) (i : Nat) :
    (applyOp f st op)[i]? =
      if op.dst = i then (st[i]?).map (fun r => absorb f st r op.src) else st[i]? := by
  rw [applyOp_eq_modify, List.getElem?_modify]
  split
  · rfl
  · exact Option.map_id' ..

/-- a micro-step changes nothing that later micro-steps read: the row it writes keeps its
readable part, and of a source row only that part is read -/
theorem absorb_applyOp {f : ρ → ρ → ρ} {rd : ρ → κ} (D : Discipline f rd) (st : List ρ) (op : Op)
    (acc : ρ) (j : Nat) : absorb f (applyOp f st op) acc j = absorb f st acc j := by
  unfold absorb
  rw [applyOp_getElem?]
  by_cases hd : op.dst = j
  · rw [if_pos hd]
    cases st[j]? with
    | none => rfl
    | some r =>
      refine D.reads_only_rd acc _ _ ?_
      unfold absorb
      cases st[op.src]? with
      | none => rfl
      | some s => exact D.keeps_rd r s
  · rw [if_neg hd]

/-- **Row-wise characterisation** of ANY sequence of micro-steps: every source is read from the
state before the sequence. -/
theorem run_getElem? {f : ρ → ρ → ρ} {rd : ρ → κ} (D : Discipline f rd)
    (ops : List Op) (st : List ρ) (i : Nat) :
    (run f ops st)[i]? = (st[i]?).map (fun r => evalRow f st r ((rowOf i ops).map Op.src)) := by
  induction ops generalizing st with
  | nil => exact (Option.map_id' ..).symm
  | cons op ops ih =>
    have hcongr : absorb f (applyOp f st op) = absorb f st :=
      funext fun acc => funext fun j => absorb_applyOp D st op acc j
    show (run f ops (applyOp f st op))[i]? = _
    unfold evalRow at ih ⊢
    rw [ih, hcongr, applyOp_getElem?, rowOf_cons]
    by_cases hd : op.dst = i
    · rw [if_pos hd, if_pos hd, Option.map_map]; rfl
    · rw [if_neg hd, if_neg hd]

theorem run_length (f : ρ → ρ → ρ) (ops : List Op) (st : List ρ) :
    (run f ops st).length = st.length :=
  List.foldlRecOn (motive := fun s => s.length = st.length) ops (applyOp f) rfl fun s hs op _ => by
    rw [applyOp_eq_modify, List.length_modify, hs]

theorem rowOf_append (i : Nat) (a b : List Op) : rowOf i (a ++ b) = rowOf i a ++ rowOf i b := by
  simp only [rowOf, List.filter_append]

theorem rowOf_rowOps (nb : Nat → List Nat) (i d : Nat) :
    rowOf i (rowOps nb d) = if d = i then rowOps nb d else [] := by
  unfold rowOf rowOps
  rw [List.filter_map]
  by_cases h : d = i
  · rw [if_pos h]
    exact congrArg _ (List.filter_eq_self.mpr fun a _ => beq_iff_eq.mpr h)
  · rw [if_neg h]
    exact congrArg (List.map _) (List.filter_eq_nil_iff.mpr fun a _ => mt beq_iff_eq.mp h)

theorem rowOf_threadProg (nb : Nat → List Nat) (i : Nat) (dests : List Nat) (hnd : dests.Nodup) :
    rowOf i (threadProg nb dests) = if i ∈ dests then rowOps nb i else [] := by
  induction dests with
  | nil => simp [threadProg, rowOf]
  | cons d ds ih =>
    have hnd' := List.nodup_cons.mp hnd
    have ih' := ih hnd'.2
    unfold threadProg at ih' ⊢
    simp only [List.flatMap_cons, rowOf_append, rowOf_rowOps, ih']
    by_cases h : d = i
    · subst h
      have : d ∉ ds := hnd'.1
      simp [this]
    · have h' : ¬ i = d := fun e => h e.symm
      simp [h, h']

theorem popThread_some {progs : List (List Op)} {t : Nat} {op : Op} {progs' : List (List Op)}
    (h : popThread progs t = some (op, progs')) :
    ∃ pre rest post, progs = pre ++ (op :: rest) :: post ∧ progs' = pre ++ rest :: post := by
  fun_induction popThread progs t generalizing op progs' with
  | case1 => cases h
  | case2 => cases h
  | case3 o rest ps => cases h; exact ⟨[], rest, ps, rfl, rfl⟩
  | case4 p ps t hp ih => cases h
  | case5 p ps t o ps' hp ih =>
    cases h
    obtain ⟨pre, rest, post, rfl, rfl⟩ := ih hp
    exact ⟨p :: pre, rest, post, rfl, rfl⟩

/-- **Projection of an interleaving.**  If of any two programs at most one has micro-steps
selected by `q`, then whatever the schedule the selected micro-steps occur in the global order
as they occur in the programs laid end to end. -/
theorem filter_interleave (q : Op → Bool) (progs : List (List Op)) (sched : List Nat)
    (h : progs.Pairwise fun p p' => (∀ a ∈ p, q a = false) ∨ ∀ b ∈ p', q b = false) :
    (interleave progs sched).filter q = progs.flatten.filter q := by
  fun_induction interleave progs sched with
  | case1 => rfl
  | case2 progs t sched hp ih => exact ih h
  | case3 progs t sched op progs' hp ih =>
    obtain ⟨pre, rest, post, rfl, rfl⟩ := popThread_some hp
    simp only [List.pairwise_append, List.pairwise_cons, List.mem_cons, forall_eq_or_imp] at h
    obtain ⟨h1, ⟨h2, h3⟩, h4⟩ := h
    -- programs only shrink, so the hypothesis passes to what is left of them
    have ih' := ih <| by
      simp only [List.pairwise_append, List.pairwise_cons, List.mem_cons, forall_eq_or_imp]
      exact ⟨h1, ⟨fun x hx => (h2 x hx).imp_left And.right, h3⟩,
        fun a ha => ⟨(h4 a ha).1.imp_right And.right, (h4 a ha).2⟩⟩
    rw [List.filter_cons, ih']
    simp only [List.flatten_append, List.flatten_cons, List.filter_append, List.filter_cons]
    cases hq : q op with
    | false => rfl
    | true =>
      -- the step is selected, so nothing in the programs before its own is (`h4`)
      have : pre.flatten.filter q = [] := List.filter_eq_nil_iff.mpr fun a ha => by
        obtain ⟨p, hp, hap⟩ := List.mem_flatten.mp ha
        rcases (h4 p hp).1 with g | g
        · rw [g a hap]; exact Bool.false_ne_true
        · exact absurd (hq ▸ g.1) (by decide)
      rw [this]; rfl

/-- Row by row (`run_getElem?`): at most one of two programs writes the row. -/
theorem run_interleave {f : ρ → ρ → ρ} {rd : ρ → κ} (D : Discipline f rd) (progs : List (List Op))
    (sched : List Nat) (st : List ρ)
    (h : progs.Pairwise fun p p' => ∀ a ∈ p, ∀ b ∈ p', a.dst ≠ b.dst) :
    run f (interleave progs sched) st = run f progs.flatten st := by
  apply List.ext_getElem?
  intro i
  rw [run_getElem? D, run_getElem? D, rowOf, rowOf, filter_interleave]
  refine h.imp fun {p p'} hpp' => ?_
  by_cases hi : ∃ a ∈ p, a.dst = i
  · obtain ⟨a, ha, rfl⟩ := hi
    exact Or.inr fun b hb => beq_false_of_ne (hpp' a ha b hb).symm
  · exact Or.inl fun a ha => beq_false_of_ne fun e => hi ⟨a, ha, e⟩

theorem keyLe_trans (key : Nat → Nat) (a b c : Nat) :
    keyLe key a b = true → keyLe key b c = true → keyLe key a c = true := by
  simp only [keyLe, decide_eq_true_eq]; omega

theorem keyLe_total (key : Nat → Nat) (a b : Nat) : (keyLe key a b || keyLe key b a) = true := by
  simp only [keyLe, Bool.or_eq_true, decide_eq_true_eq]; omega

theorem sortNbrs_perm (key : Nat → Nat) (l : List Nat) : (sortNbrs key l).Perm l :=
  List.mergeSort_perm l (keyLe key)

theorem sortNbrs_sorted (key : Nat → Nat) (l : List Nat) :
    (sortNbrs key l).Pairwise (fun a b => keyLe key a b = true) :=
  List.pairwise_mergeSort (keyLe_trans key) (keyLe_total key) l

/-- the result of `_sort_neighbors` does not depend on the order the search produced (nor on the
sort being stable) -/
theorem eq_sortNbrs (key : Nat → Nat) {l₁ l : List Nat} (hp : l₁.Perm l)
    (s₁ : l₁.Pairwise (fun a b => keyLe key a b = true))
    (hinj : ∀ a ∈ l, ∀ b ∈ l, key a = key b → a = b) : l₁ = sortNbrs key l := by
  have p := sortNbrs_perm key l
  refine (hp.trans p.symm).eq_of_pairwise (fun a b ha hb hab hba => ?_) s₁ (sortNbrs_sorted key l)
  apply hinj a (hp.mem_iff.mp ha) b (p.mem_iff.mp hb)
  simp only [keyLe, decide_eq_true_eq] at hab hba
  exact Nat.le_antisymm hab hba

theorem sortNbrs_eq_of_perm (key : Nat → Nat) (l₁ l₂ : List Nat) (hp : l₁.Perm l₂)
    (hinj : ∀ a ∈ l₁, ∀ b ∈ l₁, key a = key b → a = b) : sortNbrs key l₁ = sortNbrs key l₂ :=
  (eq_sortNbrs key ((sortNbrs_perm key l₂).trans hp.symm) (sortNbrs_sorted key l₂) hinj).symm

theorem gather_getElem? (idx : List Nat) (st : List ρ) (hin : ∀ j ∈ idx, j < st.length) (k : Nat) :
    (gather idx st)[k]? = (idx[k]?).bind (fun j => st[j]?) :=
  ArrayRows.gather_getElem? idx st hin k

theorem mem_threadProg {nb : Nat → List Nat} {d : List Nat} {op : Op}
    (h : op ∈ threadProg nb d) : op.dst ∈ d := by
  obtain ⟨a, ha, hop⟩ := List.mem_flatMap.mp h
  obtain ⟨j, _, rfl⟩ := List.mem_map.mp hop
  exact ha

theorem evalAll_getElem? (f : ρ → ρ → ρ) (nb : Nat → List Nat) (dests : List Nat) (st : List ρ)
    (i : Nat) : (evalAll f nb dests st)[i]? = (st[i]?).map (evalAt f nb dests st i) :=
  List.getElem?_mapIdx ..

theorem evalAll_length (f : ρ → ρ → ρ) (nb : Nat → List Nat) (dests : List Nat) (st : List ρ) :
    (evalAll f nb dests st).length = st.length := List.length_mapIdx ..

theorem run_threadProg {f : ρ → ρ → ρ} {rd : ρ → κ} (D : Discipline f rd) (nb : Nat → List Nat)
    (dests : List Nat) (st : List ρ) (hnd : dests.Nodup) :
    run f (threadProg nb dests) st = evalAll f nb dests st := by
  apply List.ext_getElem?
  intro i
  rw [run_getElem? D, evalAll_getElem?, rowOf_threadProg nb i _ hnd]
  congr 1
  funext r
  unfold evalAt
  by_cases hin : i ∈ dests
  · simp only [hin, if_true, rowOps, List.map_map, Function.comp_def, List.map_id']
  · simp only [hin, if_false, List.map_nil, evalRow, List.foldl_nil]

/-- **Schedule independence.**  Threads were handed disjoint destinations, so the loop is the
threads' programs one after the other (`run_interleave`), which is the program of one thread handed
all of them (`run_threadProg`). -/
theorem runLoop_eq_evalAll {f : ρ → ρ → ρ} {rd : ρ → κ} (D : Discipline f rd)
    (nb : Nat → List Nat) (parts : List (List Nat)) (sched : List Nat) (st : List ρ)
    (hpart : parts.flatten.Nodup) :
    runLoop f nb parts sched st = evalAll f nb parts.flatten st := by
  have hflat : (parts.map (threadProg nb)).flatten = threadProg nb parts.flatten := by
    simp only [threadProg, List.flatMap_def, List.map_flatten, List.flatten_flatten, List.map_map]
    rfl
  rw [runLoop, run_interleave D, hflat, run_threadProg D nb _ st hpart]
  exact List.pairwise_map.mpr ((List.pairwise_flatten.mp hpart).2.imp
    fun hdd' a ha b hb e => hdd' _ (mem_threadProg ha) _ (e ▸ mem_threadProg hb) rfl)

theorem evalAll_congr (f : ρ → ρ → ρ) {nb₁ nb₂ : Nat → List Nat} {d₁ d₂ : List Nat} (st : List ρ)
    (hd : ∀ i, i ∈ d₁ ↔ i ∈ d₂)
    (hnb : ∀ i ∈ d₁, ∀ r, evalRow f st r (nb₁ i) = evalRow f st r (nb₂ i)) :
    evalAll f nb₁ d₁ st = evalAll f nb₂ d₂ st := by
  unfold evalAll
  congr 1
  funext i r
  unfold evalAt
  by_cases h : i ∈ d₁
  · rw [if_pos h, if_pos ((hd i).mp h), hnb i h]
  · rw [if_neg h, if_neg (mt (hd i).mpr h)]

/-- `hcomm`: sums in an exact field -/
theorem evalRow_perm {f : ρ → ρ → ρ} (hcomm : ∀ r a b, f (f r a) b = f (f r b) a) (st : List ρ)
    (r : ρ) {l₁ l₂ : List Nat} (hp : l₁.Perm l₂) : evalRow f st r l₁ = evalRow f st r l₂ := by
  unfold evalRow
  refine hp.foldl_eq' (fun x _ y _ z => ?_) r
  -- absorbing two sources commutes, whether or not they are in range
  unfold absorb
  cases st[x]? <;> cases st[y]? <;> simp [hcomm]

/-- a neighbour index outside `idx` is skipped on both sides: the re-ordered state has no such
row, and `filterMap` drops it -/
theorem evalRow_gather (f : ρ → ρ → ρ) (idx : List Nat) (st : List ρ)
    (hin : ∀ j ∈ idx, j < st.length) (r : ρ) (l : List Nat) :
    evalRow f (gather idx st) r l = evalRow f st r (l.filterMap (fun a => idx[a]?)) := by
  unfold evalRow
  rw [List.foldl_filterMap]
  congr 1
  funext acc a
  unfold absorb
  rw [gather_getElem? idx st hin a]
  cases idx[a]? <;> rfl

/-- `C05.perm_equivariance` without the range hypothesis on the new neighbour lists -/
theorem evalAll_gather {f : ρ → ρ → ρ} (hcomm : ∀ r a b, f (f r a) b = f (f r b) a)
    (idx : List Nat) (st : List ρ) (hin : ∀ j ∈ idx, j < st.length)
    (nb nb' : Nat → List Nat) (dests dests' : List Nat)
    (hnb : ∀ k j, idx[k]? = some j → ((nb' k).filterMap (fun a => idx[a]?)).Perm (nb j))
    (hd : ∀ k j, idx[k]? = some j → (k ∈ dests' ↔ j ∈ dests)) :
    evalAll f nb' dests' (gather idx st) = gather idx (evalAll f nb dests st) := by
  apply List.ext_getElem?
  intro k
  rw [gather_getElem? idx _ (fun j hj => (evalAll_length ..).symm ▸ hin j hj) k, evalAll_getElem?,
    gather_getElem? idx st hin k]
  cases hk : idx[k]? with
  | none => rfl
  | some j =>
    rw [Option.bind_some, Option.bind_some, evalAll_getElem?]
    cases st[j]? with
    | none => rfl
    | some r =>
      -- row `k` of the re-ordered state folds over the old indices of its neighbours
      rw [Option.map_some, Option.map_some, evalAt, evalAt, evalRow_gather f idx st hin]
      by_cases h : j ∈ dests
      · rw [if_pos h, if_pos ((hd k j hk).mpr h), evalRow_perm hcomm st _ (hnb k j hk)]
      · rw [if_neg h, if_neg (mt (hd k j hk).mp h)]

end PysphVerif.Determinism
