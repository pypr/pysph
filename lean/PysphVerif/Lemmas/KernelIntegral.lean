import Mathlib.MeasureTheory.Integral.IntervalIntegral.FundThmCalculus
import PysphVerif.Lemmas.Kernel
/-!
C08 — normalisation in radial form.

For a polynomial kernel table `K` (no `exp` envelope) the radial integral of the
function the table denotes is the exact rational `massSum` the check computes:

  `∫ q in 0..radius, q^(d-1) · wR K q  =  Σ_pieces (A_p(hi) − A_p(lo))`,

`A_p` the formal antiderivative of `q^(d-1)·w_p` (checked by differentiating it
back).  With `normOk` this gives `S_d · fac · ∫ = 1`.
-/
namespace PysphVerif.Kernel
open PysphVerif.Poly Set MeasureTheory intervalIntegral

theorem piece_integral {d : ℕ} {p : Piece} (h : pieceAntiOk d p = true) :
    ∫ x in (p.lo : ℝ)..(p.hi : ℝ), x ^ (d - 1) * evR p.w x = ((pieceMass d p : ℚ) : ℝ) := by
  have hderiv : ∀ x ∈ uIcc (p.lo : ℝ) p.hi,
      HasDerivAt (evR (radialAnti d p)) (x ^ (d - 1) * evR p.w x) x := by
    intro x _
    have h1 := hasDerivAt_evR (radialAnti d p) x
    rw [evR_eq_of_peq h x, radial, evR_mulXpow] at h1
    exact h1
  have hc : Continuous (fun x : ℝ => x ^ (d - 1) * evR p.w x) :=
    (continuous_pow _).mul (continuous_evR _)
  rw [integral_eq_sub_of_hasDerivAt hderiv (hc.intervalIntegrable _ _)]
  simp only [pieceMass, evR_ratCast]
  push_cast; ring

theorem chain_le_lastHi : ∀ (ps : List Piece) (L : ℚ), chain L ps = true → L ≤ lastHi L ps := by
  intro ps
  induction ps with
  | nil => intro L _; exact le_rfl
  | cons p ps ih =>
    intro L h
    obtain ⟨hlo, hlt, hc⟩ := chain_cons h
    have := ih p.hi hc
    simp only [lastHi]
    rw [← hlo]
    exact le_trans hlt.le this

/-- The interval is split at `p.hi`; the piece-wise function agrees with the polynomial of `p` on the
open interval before it and with the rest of the family on the open interval after it, and the end
points do not matter to an integral (`congr_uIoo`), so which piece a breakpoint selects plays no role. -/
theorem radial_integral (d : ℕ) (t : Piece) : ∀ (ps : List Piece) (L : ℚ), chain L ps = true →
    ps.all (pieceAntiOk d) = true →
    IntervalIntegrable (fun x : ℝ => x ^ (d - 1) * FG (gfun false Piece.w) ps t x) volume
      (L : ℝ) (lastHi L ps : ℝ) ∧
    ∫ x in (L : ℝ)..(lastHi L ps : ℝ), x ^ (d - 1) * FG (gfun false Piece.w) ps t x =
      ((massSum d ps : ℚ) : ℝ) := by
  intro ps
  induction ps with
  | nil =>
    intro L _ _
    simp [lastHi, massSum]
  | cons p ps ih =>
    intro L h ha
    obtain ⟨hlo, hlt, hc⟩ := chain_cons h
    subst hlo
    simp only [List.all_cons, Bool.and_eq_true] at ha
    obtain ⟨ihI, ihE⟩ := ih p.hi hc ha.2
    have hL : (p.lo : ℝ) ≤ p.hi := by exact_mod_cast hlt.le
    have hH : (p.hi : ℝ) ≤ (lastHi p.hi ps : ℝ) := by exact_mod_cast chain_le_lastHi ps p.hi hc
    have e1 : (uIoo (p.lo : ℝ) p.hi).EqOn (fun x : ℝ => x ^ (d - 1) * evR p.w x)
        (fun x : ℝ => x ^ (d - 1) * FG (gfun false Piece.w) (p :: ps) t x) := by
      intro x hx
      rw [uIoo_of_le hL] at hx
      show _ = _ * FG _ _ _ _
      rw [FG_cons_in _ ps t (Or.inl hx.2), gfun_false]
    have e2 : (uIoo (p.hi : ℝ) (lastHi p.hi ps : ℝ)).EqOn
        (fun x : ℝ => x ^ (d - 1) * FG (gfun false Piece.w) ps t x)
        (fun x : ℝ => x ^ (d - 1) * FG (gfun false Piece.w) (p :: ps) t x) := by
      intro x hx
      rw [uIoo_of_le hH] at hx
      show _ = _ * FG _ _ _ _
      rw [FG_cons_out _ ps t (not_InP_of_gt hx.1)]
    have cG : Continuous (fun x : ℝ => x ^ (d - 1) * evR p.w x) :=
      (continuous_pow _).mul (continuous_evR _)
    have i1 := (cG.intervalIntegrable (μ := volume) (p.lo : ℝ) p.hi).congr_uIoo e1
    have i2 := ihI.congr_uIoo e2
    have hl : lastHi p.lo (p :: ps) = lastHi p.hi ps := rfl
    rw [hl]
    refine ⟨i1.trans i2, ?_⟩
    rw [← integral_add_adjacent_intervals i1 i2, ← integral_congr_uIoo e1,
      ← integral_congr_uIoo e2, ihE, piece_integral ha.1]
    simp only [massSum]
    push_cast; ring

/-- area of the unit sphere in `d` dimensions -/
noncomputable def sphereR (d : ℕ) : ℝ := (sphereQ d : ℝ) * Real.pi ^ (spherePi d)

theorem sphereR_one : sphereR 1 = 2 := by simp [sphereR, sphereQ, spherePi]
theorem sphereR_two : sphereR 2 = 2 * Real.pi := by simp [sphereR, sphereQ, spherePi]
theorem sphereR_three : sphereR 3 = 4 * Real.pi := by simp [sphereR, sphereQ, spherePi]

theorem wR_radial_integral {K : KTable} (hc : chainOk K = true) (hn : normOk K = true) :
    ∫ x in (0 : ℝ)..(K.radius : ℝ), x ^ (K.dim - 1) * wR K x =
      ((massSum K.dim K.pieces : ℚ) : ℝ) := by
  obtain ⟨hch, hl⟩ := lastHi_radius hc
  simp only [normOk, Bool.and_eq_true, Bool.not_eq_true'] at hn
  have hg : K.gauss = false := hn.1.1.1.1.1
  have := (radial_integral K.dim K.tail K.pieces 0 hch hn.1.1.2).2
  rw [hl, ← hg, Rat.cast_zero] at this
  exact this

theorem radial_normalised {K : KTable} (hc : chainOk K = true) (hn : normOk K = true) :
    sphereR K.dim * facR K * ∫ x in (0 : ℝ)..(K.radius : ℝ), x ^ (K.dim - 1) * wR K x = 1 := by
  rw [wR_radial_integral hc hn]
  simp only [normOk, Bool.and_eq_true, beq_iff_eq] at hn
  have hq : K.facQ * sphereQ K.dim * massSum K.dim K.pieces = 1 := hn.1.2
  have hp : K.piHalf + 2 * spherePi K.dim = 0 := hn.2
  have hqR : (K.facQ : ℝ) * (sphereQ K.dim : ℝ) * ((massSum K.dim K.pieces : ℚ) : ℝ) = 1 := by
    rw [← Rat.cast_mul, ← Rat.cast_mul, hq, Rat.cast_one]
  have hs : Real.sqrt Real.pi ≠ 0 := (Real.sqrt_pos.2 Real.pi_pos).ne'
  have hpi : Real.pi ^ (spherePi K.dim) = Real.sqrt Real.pi ^ (2 * spherePi K.dim) := by
    rw [zpow_mul, zpow_two, Real.mul_self_sqrt Real.pi_pos.le]
  have hz : Real.sqrt Real.pi ^ (2 * spherePi K.dim) * Real.sqrt Real.pi ^ K.piHalf = 1 := by
    rw [← zpow_add₀ hs, add_comm, hp, zpow_zero]
  unfold sphereR facR
  rw [hpi]
  calc (sphereQ K.dim : ℝ) * Real.sqrt Real.pi ^ (2 * spherePi K.dim) *
        ((K.facQ : ℝ) * Real.sqrt Real.pi ^ K.piHalf) * ((massSum K.dim K.pieces : ℚ) : ℝ)
      = ((K.facQ : ℝ) * (sphereQ K.dim : ℝ) * ((massSum K.dim K.pieces : ℚ) : ℝ)) *
        (Real.sqrt Real.pi ^ (2 * spherePi K.dim) * Real.sqrt Real.pi ^ K.piHalf) := by ring
    _ = 1 := by rw [hqR, hz]; ring

/-- change of variable `q = r/h` -/
theorem W_radial_integral (K : KTable) (hw : K.hpowW = K.dim) (hd : 1 ≤ K.dim) {h : ℝ}
    (hh : 0 < h) :
    ∫ r in (0 : ℝ)..((K.radius : ℝ) * h), r ^ (K.dim - 1) * W K r h =
      facR K * ∫ x in (0 : ℝ)..(K.radius : ℝ), x ^ (K.dim - 1) * wR K x := by
  have hne : h⁻¹ ≠ 0 := inv_ne_zero hh.ne'
  have e : ∀ r : ℝ, r ^ (K.dim - 1) * W K r h =
      (facR K * h⁻¹) * ((fun x : ℝ => x ^ (K.dim - 1) * wR K x) (r * h⁻¹)) := by
    intro r
    simp only [W, hw]
    obtain ⟨n, hn⟩ : ∃ n, K.dim = n + 1 := ⟨K.dim - 1, by omega⟩
    simp only [hn, Nat.add_sub_cancel, mul_pow, pow_succ]
    ring
  simp_rw [e]
  rw [intervalIntegral.integral_const_mul]
  have hsub := integral_comp_mul_right (a := 0) (b := (K.radius : ℝ) * h)
    (fun x : ℝ => x ^ (K.dim - 1) * wR K x) hne
  beta_reduce at hsub
  rw [hsub]
  simp only [zero_mul, inv_inv, smul_eq_mul]
  rw [mul_assoc (K.radius : ℝ), mul_inv_cancel₀ hh.ne', mul_one, ← mul_assoc,
    inv_mul_cancel_right₀ hh.ne']

end PysphVerif.Kernel
