import PysphVerif.Lemmas.Nnps
/-!
Tree family (Octree / CompressedOctree query): invariant of a built tree and
soundness of the pruning test.
-/
set_option linter.unusedSectionVars false
namespace PysphVerif.Nnps

open scoped PysphVerif.OrderChain

section
variable {α : Type} [Field α] [LinearOrder α] [IsStrictOrderedRing α]

def inCube (c : Pt α) (len : α) (p : Pt α) : Prop :=
  c.x ≤ p.x ∧ p.x ≤ c.x + len ∧ c.y ≤ p.y ∧ p.y ≤ c.y + len ∧ c.z ≤ p.z ∧ p.z ≤ c.z + len

/-- what a node promises about the particles stored below it; `c.h` is the node's `hmax` -/
def NodeOk (src : List (Pt α)) (c : Pt α) (len : α) (pids : List Nat) : Prop :=
  ∀ j ∈ pids, ∃ p, src[j]? = some p ∧ inCube c len p ∧ p.h ≤ c.h

mutual
/-- the tree invariant; the harness checks its executable form `Tree.invB` on the real tree on
every run (`invB_sound`) -/
def TreeInv (src : List (Pt α)) : Tree α → Prop
  | Tree.leaf c len pids => NodeOk src c len pids
  | Tree.node c len ch => NodeOk src c len (Tree.pidsList ch) ∧ TreeInvList src ch
def TreeInvList (src : List (Pt α)) : List (Tree α) → Prop
  | [] => True
  | t :: ts => TreeInv src t ∧ TreeInvList src ts
end

theorem maxA_eq_max (a b : α) : maxA a b = max a b := (max_def_lt a b).symm

theorem absA_eq_abs (a : α) : absA a = |a| := by
  unfold absA
  by_cases h : a < 0
  · rw [if_pos h, zero_sub, abs_of_neg h]
  · rw [if_neg h, abs_of_nonneg (not_lt.mp h)]

theorem not_pruned_of_nbr (rs : α) (q c p : Pt α) (len : α) (hrs : 0 ≤ rs)
    (hq : 0 ≤ q.h) (hp : 0 ≤ p.h) (hcube : inCube c len p) (hh : p.h ≤ c.h)
    (hn : isNbr rs q p = true) : pruned rs q c len = false := by
  obtain ⟨r, hr, hx, hy, hz⟩ := isNbr_axis_lt rs q p hrs hq hp hn
  have hrm : r ≤ maxA (rs * q.h) (rs * c.h) := by
    rw [maxA_eq_max]
    rcases hr with rfl | rfl
    · exact le_max_left _ _
    · exact le_trans (mul_le_mul_of_nonneg_left hh hrs) (le_max_right _ _)
  obtain ⟨c1, c2, c3, c4, c5, c6⟩ := hcube
  have ax : ∀ (cx px qx : α), cx ≤ px → px ≤ cx + len → |px - qx| < r →
      absA (cx + len / 2 - qx) < effRadius rs q c len := by
    intro cx px qx h1 h2 h3
    rw [absA_eq_abs]
    unfold effRadius
    rw [abs_lt] at h3 ⊢
    constructor <;> linarith only [h1, h2, h3.1, h3.2, hrm]
  unfold pruned
  simp only [decide_eq_true (ax c.x p.x q.x c1 c2 hx), decide_eq_true (ax c.y p.y q.y c3 c4 hy),
    decide_eq_true (ax c.z p.z q.z c5 c6 hz)]
  rfl

mutual
/-- the query repeats no index if the tree stores none twice -/
theorem cands_sublist (rs : α) (q : Pt α) : ∀ t : Tree α, (Tree.cands rs q t).Sublist (Tree.pids t)
  | Tree.leaf c len pids => by
    simp only [Tree.cands, Tree.pids]
    split
    · exact List.nil_sublist _
    · exact List.Sublist.refl _
  | Tree.node c len ch => by
    simp only [Tree.cands, Tree.pids]
    split
    · exact List.nil_sublist _
    · exact candsList_sublist rs q ch
theorem candsList_sublist (rs : α) (q : Pt α) :
    ∀ ts : List (Tree α), (Tree.candsList rs q ts).Sublist (Tree.pidsList ts)
  | [] => by simp [Tree.candsList, Tree.pidsList]
  | t :: ts => by
    simp only [Tree.candsList, Tree.pidsList]
    exact List.Sublist.append (cands_sublist rs q t) (candsList_sublist rs q ts)
end

theorem not_pruned_of_nodeOk (rs : α) (src : List (Pt α)) (q : Pt α) (hrs : 0 ≤ rs) (hq : 0 ≤ q.h)
    (hpos : ∀ p ∈ src, 0 ≤ p.h) {c : Pt α} {len : α} {pids : List Nat}
    (hok : NodeOk src c len pids) {j : Nat} (hj : j ∈ pids) (ha : accepts rs src q j = true) :
    pruned rs q c len = false := by
  obtain ⟨p, hp, hcube, hh⟩ := hok j hj
  have hn : isNbr rs q p = true := by simpa [accepts, hp] using ha
  exact not_pruned_of_nbr rs q c p len hrs hq (hpos p (List.mem_of_getElem? hp)) hcube hh hn

mutual
theorem cands_cover (rs : α) (src : List (Pt α)) (q : Pt α) (hrs : 0 ≤ rs) (hq : 0 ≤ q.h)
    (hpos : ∀ p ∈ src, 0 ≤ p.h) :
    ∀ t : Tree α, TreeInv src t → ∀ j ∈ Tree.pids t, accepts rs src q j = true →
      j ∈ Tree.cands rs q t
  | Tree.leaf c len pids => by
    intro hinv j hj ha
    simp only [TreeInv] at hinv
    simp only [Tree.pids] at hj
    simp only [Tree.cands, not_pruned_of_nodeOk rs src q hrs hq hpos hinv hj ha]
    exact hj
  | Tree.node c len ch => by
    intro hinv j hj ha
    simp only [TreeInv] at hinv
    simp only [Tree.pids] at hj
    simp only [Tree.cands, not_pruned_of_nodeOk rs src q hrs hq hpos hinv.1 hj ha]
    exact candsList_cover rs src q hrs hq hpos ch hinv.2 j hj ha
theorem candsList_cover (rs : α) (src : List (Pt α)) (q : Pt α) (hrs : 0 ≤ rs) (hq : 0 ≤ q.h)
    (hpos : ∀ p ∈ src, 0 ≤ p.h) :
    ∀ ts : List (Tree α), TreeInvList src ts → ∀ j ∈ Tree.pidsList ts,
      accepts rs src q j = true → j ∈ Tree.candsList rs q ts
  | [] => by
    intro _ j hj _
    simp [Tree.pidsList] at hj
  | t :: ts => by
    intro hinv j hj ha
    simp only [TreeInvList] at hinv
    simp only [Tree.pidsList, List.mem_append] at hj
    simp only [Tree.candsList, List.mem_append]
    rcases hj with hj | hj
    · exact Or.inl (cands_cover rs src q hrs hq hpos t hinv.1 j hj ha)
    · exact Or.inr (candsList_cover rs src q hrs hq hpos ts hinv.2 j hj ha)
end

theorem inCubeB_iff (c : Pt α) (len : α) (p : Pt α) : inCubeB c len p = true ↔ inCube c len p := by
  simp only [inCubeB, inCube, Bool.and_eq_true, Bool.not_eq_true', decide_eq_false_iff_not, not_lt,
    and_assoc]

theorem nodeOkB_sound (src : List (Pt α)) (c : Pt α) (len : α) (pids : List Nat)
    (h : nodeOkB src c len pids = true) : NodeOk src c len pids := by
  intro j hj
  simp only [nodeOkB, List.all_eq_true] at h
  have hjj := h j hj
  cases hs : src[j]? with
  | none => rw [hs] at hjj; cases hjj
  | some p =>
    rw [hs] at hjj
    simp only [Bool.and_eq_true, Bool.not_eq_true', decide_eq_false_iff_not, not_lt] at hjj
    exact ⟨p, rfl, (inCubeB_iff c len p).mp hjj.1, hjj.2⟩

mutual
theorem invB_sound (src : List (Pt α)) : ∀ t : Tree α, Tree.invB src t = true → TreeInv src t
  | Tree.leaf c len pids => by
    intro h
    simp only [Tree.invB] at h
    simp only [TreeInv]
    exact nodeOkB_sound src c len pids h
  | Tree.node c len ch => by
    intro h
    simp only [Tree.invB, Bool.and_eq_true] at h
    simp only [TreeInv]
    exact ⟨nodeOkB_sound src c len _ h.1, invListB_sound src ch h.2⟩
theorem invListB_sound (src : List (Pt α)) :
    ∀ ts : List (Tree α), Tree.invListB src ts = true → TreeInvList src ts
  | [] => by intro _; simp only [TreeInvList]
  | t :: ts => by
    intro h
    simp only [Tree.invListB, Bool.and_eq_true] at h
    simp only [TreeInvList]
    exact ⟨invB_sound src t h.1, invListB_sound src ts h.2⟩
end

end
end PysphVerif.Nnps
