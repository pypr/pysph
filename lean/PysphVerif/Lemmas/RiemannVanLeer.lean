import PysphVerif.Lemmas.Riemann
/-!
# C15 — `van_leer`: one pass of the Newton iteration, in normal form

One pass computes the wave impedances `vlW` of the two sides and the floored Newton update `vlNext`;
the convergence test is at once the stored flag and the `break`, and decides whether the pass is
counted.  Each relation between two runs rests on one fact about the Newton update `vlNewP`: the
mirror image exchanges the impedances (`vlSwap`), a Galilean shift changes nothing, scaling by
`l > 0` multiplies pressures and impedances (`vlScale`).
-/
set_option linter.unusedSectionVars false
namespace PysphVerif.Riemann
open PysphVerif.Gen.Riemann
open scoped PysphVerif.OrderChain

variable {K : Type} [Field K] [LinearOrder K] [IsStrictOrderedRing K]

/-- the Newton update of `van_leer` before the `smallp` floor -/
def vlNewP (Vl Vr g2 pl pr ul ur p wl wr : K) : K :=
  p + ((ur + (p - pr) / wr) - (ul - (p - pl) / wl)) *
      (((-(4 * Vl * wl * wl)) * wl / (4 * Vl * wl * wl - g2 * (p - pl))) *
       ((4 * Vr * wr * wr) * wr / (4 * Vr * wr * wr - g2 * (p - pr)))) /
      (((4 * Vr * wr * wr) * wr / (4 * Vr * wr * wr - g2 * (p - pr))) -
       ((-(4 * Vl * wl * wl)) * wl / (4 * Vl * wl * wl - g2 * (p - pl))))

def vlZ (V w g2 dp : K) : K := (4 * V * w * w) * w / (4 * V * w * w - g2 * dp)

/-- the source computes `zl = -Z_l`, `zr = Z_r` -/
theorem vlNewP_eq (Vl Vr g2 pl pr ul ur p wl wr : K) :
    vlNewP Vl Vr g2 pl pr ul ur p wl wr =
      p + ((ur + (p - pr) / wr) - (ul - (p - pl) / wl)) *
        ((-vlZ Vl wl g2 (p - pl)) * vlZ Vr wr g2 (p - pr)) /
        (vlZ Vr wr g2 (p - pr) - (-vlZ Vl wl g2 (p - pl))) := by
  unfold vlNewP vlZ
  rw [neg_mul, neg_div]

theorem vlNewP_mirror (Vl Vr g2 pl pr ul ur p wl wr : K) :
    vlNewP Vr Vl g2 pr pl (-ur) (-ul) p wr wl = vlNewP Vl Vr g2 pl pr ul ur p wl wr := by
  rw [vlNewP_eq, vlNewP_eq]
  generalize vlZ Vl wl g2 (p - pl) = Zl
  generalize vlZ Vr wr g2 (p - pr) = Zr
  ring

theorem vlNewP_shift (Vl Vr g2 pl pr ul ur p wl wr c : K) :
    vlNewP Vl Vr g2 pl pr (ul + c) (ur + c) p wl wr = vlNewP Vl Vr g2 pl pr ul ur p wl wr := by
  rw [vlNewP_eq, vlNewP_eq, show ur + c + (p - pr) / wr - (ul + c - (p - pl) / wl)
    = ur + (p - pr) / wr - (ul - (p - pl) / wl) by ring]

theorem vlNewP_equal (Vl Vr g2 p u wl wr : K) : vlNewP Vl Vr g2 p p u u p wl wr = p := by
  unfold vlNewP
  simp only [sub_self, zero_div, add_zero, sub_zero, zero_mul]

theorem vlZ_scale {l : K} (hl : 0 < l) (V w g2 dp : K) :
    vlZ (l⁻¹ * V) (l * w) g2 (l * dp) = l * vlZ V w g2 dp := by
  unfold vlZ
  have hi : l⁻¹ * l = 1 := inv_mul_cancel₀ hl.ne'
  have e0 : 4 * (l⁻¹ * V) * (l * w) * (l * w) = l * (4 * V * w * w) := by
    linear_combination (4 * V * w * w * l) * hi
  rw [e0, show l * (4 * V * w * w) * (l * w) = l * (l * (4 * V * w * w * w)) by ring,
    show l * (4 * V * w * w) - g2 * (l * dp) = l * (4 * V * w * w - g2 * dp) by ring,
    mul_div_mul_left _ _ hl.ne', mul_div_assoc]

theorem vlNewP_scale {l : K} (hl : 0 < l) (Vl Vr g2 pl pr ul ur p wl wr : K) :
    vlNewP (l⁻¹ * Vl) (l⁻¹ * Vr) g2 (l * pl) (l * pr) ul ur (l * p) (l * wl) (l * wr)
      = l * vlNewP Vl Vr g2 pl pr ul ur p wl wr := by
  rw [vlNewP_eq, vlNewP_eq, ← mul_sub, ← mul_sub, vlZ_scale hl, vlZ_scale hl,
    mul_div_mul_left _ _ hl.ne', mul_div_mul_left _ _ hl.ne']
  generalize vlZ Vl wl g2 (p - pl) = Zl
  generalize vlZ Vr wr g2 (p - pr) = Zr
  generalize ur + (p - pr) / wr - (ul - (p - pl) / wl) = du
  have e1 : du * (-(l * Zl) * (l * Zr)) = l * (l * (du * (-Zl * Zr))) := by ring
  have e2 : l * Zr - -(l * Zl) = l * (Zr - -Zl) := by ring
  rw [e1, e2, mul_div_mul_left _ _ hl.ne', mul_div_assoc, mul_add]

/-- wave impedance of one side at the current `p*` -/
def vlW (o : Ops K) (c g1 p pk : K) : K := c * o.sqrt (1 + g1 * (p - pk) / pk)

def vlNext (o : Ops K) (Vl Vr cl cr g1 g2 pl pr sp ul ur p : K) : K :=
  max sp (vlNewP Vl Vr g2 pl pr ul ur p (vlW o cl g1 p pl) (vlW o cr g1 p pr))

def vlSwap (s : van_leer_loopSt K) : van_leer_loopSt K :=
  ⟨s.converged, s.iteration, s.pstar, s.wr, s.wl⟩

def vlScale (l : K) (s : van_leer_loopSt K) : van_leer_loopSt K :=
  ⟨s.converged, s.iteration, l * s.pstar, l * s.wl, l * s.wr⟩

theorem vlExit_eq (cv : Prop) [Decidable cv] (it : Int) (p' wl wr : K) :
    (if decide cv = true then (true, (⟨decide cv, it, p', wl, wr⟩ : van_leer_loopSt K))
      else (false, ⟨decide cv, it + 1, p', wl, wr⟩))
      = (decide cv, ⟨decide cv, if cv then it else it + 1, p', wl, wr⟩) := by
  by_cases h : cv <;> simp [h]

theorem van_leer_body_eq (o : Ops K) (Vl Vr cl cr g1 g2 : K) (niter : Int)
    (pl pr sp tol ul ur : K) (s : van_leer_loopSt K) :
    van_leer_loop_body o Vl Vr cl cr g1 g2 niter pl pr sp tol ul ur s =
      (let p' := vlNext o Vl Vr cl cr g1 g2 pl pr sp ul ur s.pstar
       let cv := o.abs (p' - s.pstar) / p' < tol
       (decide cv, ⟨decide cv, if cv then s.iteration else s.iteration + 1, p',
         vlW o cl g1 s.pstar pl, vlW o cr g1 s.pstar pr⟩)) := by
  simp only [van_leer_loop_body, Nat.cast_ofNat, Nat.cast_one, pymax_eq_max]
  exact vlExit_eq _ _ _ _ _

theorem vlW_scale (o : Ops K) {l : K} (hl : 0 < l) (c g1 p pk : K) :
    vlW o (l * c) g1 (l * p) (l * pk) = l * vlW o c g1 p pk := by
  unfold vlW
  rw [← mul_sub, mul_left_comm g1, mul_div_mul_left _ _ hl.ne', mul_assoc]

def vlFinish (ul ur pl pr : K) (S : van_leer_loopSt K) : Res K :=
  if S.converged = true then
    ⟨0, S.pstar, 1 / 2 * ((ul - (S.pstar - pl) / S.wl) + (ur + (S.pstar - pr) / S.wr))⟩
  else
    ⟨1, S.pstar, 1 / 2 * ((ul - (S.pstar - pl) / S.wl) + (ur + (S.pstar - pr) / S.wr))⟩

theorem vlFinish_rel {φ ψ : K → K} {ul ur pl pr ul' ur' pl' pr' : K} {S S' : van_leer_loopSt K}
    (hc : S'.converged = S.converged) (hp : S'.pstar = φ S.pstar)
    (hu : 1 / 2 * ((ul' - (S'.pstar - pl') / S'.wl) + (ur' + (S'.pstar - pr') / S'.wr))
      = ψ (1 / 2 * ((ul - (S.pstar - pl) / S.wl) + (ur + (S.pstar - pr) / S.wr)))) :
    Res.Rel φ ψ (vlFinish ul' ur' pl' pr' S') (vlFinish ul ur pl pr S) := by
  unfold vlFinish
  rw [hc, hu, hp]
  -- the return code is the only thing that depends on the flag
  split
  · exact .of_eq rfl
  · exact .fail (by decide) ..

end PysphVerif.Riemann
