import Mathlib.Order.Lattice
import Mathlib.Order.MinMax
/-!
Folds that select.  A loop that at each item either keeps its accumulator or
replaces it by the item's candidate `key b`, whichever `R`-dominates the other,
ends at the initial value or at the candidate of an item scanned, and that value
dominates the initial value and every candidate (`foldl_select`).  `R` is `≤` for
a running minimum, `≥` for a running maximum, a comparison of one component for
a loop that also remembers where the extremum was found; `min` is `max` in `αᵒᵈ`.
-/
namespace PysphVerif

theorem foldl_select {α β : Type} {step : α → β → α} {key : β → α} {R : α → α → Prop}
    (hrefl : ∀ a, R a a) (htrans : ∀ {a b c}, R a b → R b c → R a c)
    (hstep : ∀ a b, (step a b = a ∨ step a b = key b) ∧ R (step a b) a ∧ R (step a b) (key b))
    (l : List β) (a : α) :
    (l.foldl step a = a ∨ ∃ b ∈ l, l.foldl step a = key b) ∧
      R (l.foldl step a) a ∧ ∀ b ∈ l, R (l.foldl step a) (key b) := by
  induction l generalizing a with
  | nil => exact ⟨Or.inl rfl, hrefl a, nofun⟩
  | cons b l ih =>
    obtain ⟨hsel, ha, hb⟩ := hstep a b
    obtain ⟨hm, h0, hd⟩ := ih (step a b)
    rw [List.foldl_cons]
    refine ⟨?_, htrans h0 ha, List.forall_mem_cons.mpr ⟨htrans h0 hb, hd⟩⟩
    rcases hm with e | ⟨x, hx, e⟩
    · exact hsel.imp e.trans fun h => ⟨b, List.mem_cons_self, e.trans h⟩
    · exact Or.inr ⟨x, List.mem_cons_of_mem _ hx, e⟩

variable {α : Type} [LinearOrder α]

/-- Python's `max(m, key b)`: the new value only if strictly larger -/
theorem foldl_max_key_spec {β : Type} {f : α → β → α} {key : β → α}
    (hf : ∀ a b, f a b = if a < key b then key b else a) (l : List β) (a : α) :
    (l.foldl f a = a ∨ ∃ b ∈ l, l.foldl f a = key b) ∧
      a ≤ l.foldl f a ∧ ∀ b ∈ l, key b ≤ l.foldl f a :=
  foldl_select (R := (· ≥ ·)) le_refl (fun h1 h2 => le_trans h2 h1) (fun a b => by
    rw [hf]; split
    · exact ⟨Or.inr rfl, le_of_lt ‹_›, le_rfl⟩
    · exact ⟨Or.inl rfl, le_rfl, not_lt.mp ‹_›⟩) l a

theorem foldl_max_spec {f : α → α → α} (hf : ∀ a b, f a b = if a < b then b else a)
    (l : List α) (a : α) : l.foldl f a ∈ a :: l ∧ ∀ x ∈ a :: l, x ≤ l.foldl f a := by
  obtain ⟨hm, h0, hd⟩ := foldl_max_key_spec (key := id) hf l a
  exact ⟨List.mem_cons.mpr (hm.imp id fun ⟨_, hb, e⟩ => e ▸ hb), List.forall_mem_cons.mpr ⟨h0, hd⟩⟩

/-! A step that need not select but never decreases its accumulator still gives the two lower
bounds (`hmax` tables, `_cell_hmax`, `max_key`). -/
section grow
variable {α β : Type} [Preorder α] (step : α → β → α)

theorem foldl_ge_init (hstep : ∀ m b, m ≤ step m b) (l : List β) (m : α) : m ≤ l.foldl step m :=
  List.foldlRecOn (motive := (m ≤ ·)) l step (le_refl m) fun x hx b _ => le_trans hx (hstep x b)

theorem foldl_ge_of_mem (hstep : ∀ m b, m ≤ step m b) (l : List β) (b : β) (hb : b ∈ l) (x : α)
    (hx : ∀ m, x ≤ step m b) (m : α) : x ≤ l.foldl step m := by
  obtain ⟨s, t, rfl⟩ := List.append_of_mem hb
  rw [List.foldl_append, List.foldl_cons]
  exact le_trans (hx _) (foldl_ge_init step hstep t _)

end grow

end PysphVerif
