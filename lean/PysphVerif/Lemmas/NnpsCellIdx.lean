import PysphVerif.Lemmas.NnpsGrid
import PysphVerif.Lemmas.NnpsSort
/-!
C01 helper lemmas for `CellIndexingNNPS`: packed 32-bit keys under the
no-overflow guard, the run detection of `fill_array` over the sorted keys, and
the lookup of one stencil box.
-/
namespace PysphVerif.Nnps

/-- the cell part of a key, `key >> I` -/
def ciCode (J K : Nat) (c : Nat × Nat × Nat) : Nat := c.1 + 2 ^ J * (c.2.1 + 2 ^ K * c.2.2)

theorem ciFits_iff (I J K n : Nat) (c : Nat × Nat × Nat) :
    ciFits I J K n c = true ↔ n < 2 ^ I ∧ c.1 < 2 ^ J ∧ c.2.1 < 2 ^ K ∧
      n + 2 ^ I * c.1 + 2 ^ (I + J) * c.2.1 + 2 ^ (I + J + K) * c.2.2 < 2 ^ 32 := by
  simp only [ciFits, Bool.and_eq_true, decide_eq_true_eq, and_assoc]

theorem ciKey_of_fits (I J K n : Nat) (c : Nat × Nat × Nat) (h : ciFits I J K n c = true) :
    ciKey I J K n c = n + 2 ^ I * ciCode J K c := by
  rw [ciFits_iff] at h
  unfold ciKey ciCode
  rw [Nat.mod_eq_of_lt h.2.2.2, pow_add, pow_add, pow_add]
  ring

theorem ciCell_of_code (I J K key : Nat) :
    ciCell I J K key =
      ((key / 2 ^ I) % 2 ^ J, (key / 2 ^ I / 2 ^ J) % 2 ^ K, key / 2 ^ I / 2 ^ J / 2 ^ K) := by
  simp only [ciCell, Nat.shiftRight_eq_div_pow, pow_add, Nat.div_div_eq_div_mul]

theorem ciCode_decode (J K : Nat) (c : Nat × Nat × Nat) (h1 : c.1 < 2 ^ J) (h2 : c.2.1 < 2 ^ K) :
    ((ciCode J K c) % 2 ^ J, (ciCode J K c / 2 ^ J) % 2 ^ K, ciCode J K c / 2 ^ J / 2 ^ K) = c := by
  obtain ⟨c1, c2, c3⟩ := c
  simp only [ciCode] at *
  rw [add_mul_mod_of_lt _ _ _ h1, add_mul_div_of_lt _ _ _ h1, add_mul_mod_of_lt _ _ _ h2,
    add_mul_div_of_lt _ _ _ h2]

/-- `C01.pack_unpack`: `_get_id`, `_get_x/_y/_z` recover what `_get_key` packed -/
theorem ci_unpack (I J K n : Nat) (c : Nat × Nat × Nat) (h : ciFits I J K n c = true) :
    ciId I (ciKey I J K n c) = n ∧ ciCell I J K (ciKey I J K n c) = c ∧
      ciKey I J K n c / 2 ^ I = ciCode J K c := by
  have hk := ciKey_of_fits I J K n c h
  rw [ciFits_iff] at h
  have hd : (n + 2 ^ I * ciCode J K c) / 2 ^ I = ciCode J K c := add_mul_div_of_lt _ _ _ h.1
  refine ⟨?_, ?_, ?_⟩
  · rw [hk, ciId, add_mul_mod_of_lt _ _ _ h.1]
  · rw [ciCell_of_code, hk, hd]
    exact ciCode_decode J K c h.2.1 h.2.2.1
  · rw [hk, hd]

theorem ci_pack_inj (I J K n n' : Nat) (c c' : Nat × Nat × Nat) (h : ciFits I J K n c = true)
    (h' : ciFits I J K n' c' = true) (e : ciKey I J K n c = ciKey I J K n' c') : n = n' ∧ c = c' := by
  obtain ⟨a1, a2, _⟩ := ci_unpack I J K n c h
  obtain ⟨b1, b2, _⟩ := ci_unpack I J K n' c' h'
  rw [e] at a1 a2
  exact ⟨a1.symm.trans b1, a2.symm.trans b2⟩

/-- index 0: the map key of a cell -/
theorem ciFits_zero (I J K n : Nat) (c : Nat × Nat × Nat) (h : ciFits I J K n c = true) :
    ciFits I J K 0 c = true := by
  rw [ciFits_iff] at h ⊢
  refine ⟨Nat.two_pow_pos I, h.2.1, h.2.2.1, ?_⟩
  omega

section runs
variable (f : Nat → Nat × Nat × Nat) (g : Nat → Nat) (p : Nat × Nat × Nat → Bool)
  (w : Nat × Nat × Nat)

/-! The run table of `fill_array`, by what a lookup in it delivers.  The loop's counters are
lengths of lists here: `pre` the keys of the closed runs, `opn` those of the open run, `ks` the keys
to come. -/

/-- the keys a lookup finds through the run table `T`: the first run `(cell, first, length)` whose
cell passes the test `p` stands for the slice `(all.drop first).take length` -/
def runLookup (all : List Nat) (T : List ((Nat × Nat × Nat) × Nat × Nat)) : List Nat :=
  ((T.find? (fun r => p r.1)).map fun r => (all.drop r.2.1).take r.2.2).getD []

/-- a closed run at the head of the table: its slice is `opn`, which the filter keeps or drops as a
whole -/
theorem runLookup_cons (pre opn rest : List Nat) (m0 : Nat)
    (T : List ((Nat × Nat × Nat) × Nat × Nat)) (hopn : ∀ x ∈ opn, f x = f m0)
    (hpm : p (f m0) = true ↔ f m0 = w) (hrest : f m0 = w → rest.filter (fun k => f k = w) = [])
    (hT : ¬ f m0 = w → runLookup p (pre ++ (opn ++ rest)) T = rest.filter (fun k => f k = w)) :
    runLookup p (pre ++ (opn ++ rest)) ((f m0, pre.length, opn.length) :: T) =
      (opn ++ rest).filter (fun k => f k = w) := by
  rw [List.filter_append]
  unfold runLookup at hT ⊢
  by_cases hc : f m0 = w
  · simp only [List.find?_cons, hpm.mpr hc, Option.map_some, Option.getD_some, List.drop_left,
      List.take_left, hrest hc, List.append_nil]
    exact (List.filter_eq_self.mpr fun x hx => by simp [hopn x hx, hc]).symm
  · have hpf : p (f m0) = false := by simpa using fun h => hc (hpm.mp h)
    simp only [List.find?_cons, hpf, hT hc]
    exact (List.append_left_eq_self.mpr
      (List.filter_eq_nil_iff.mpr fun x hx => by simpa [hopn x hx] using hc)).symm

theorem runLookup_runsAux (ks : List Nat) :
    ∀ (pre opn : List Nat) (m0 : Nat), m0 ∈ opn → (∀ x ∈ opn, f x = f m0) →
      (opn ++ ks).Pairwise (fun a b => g a ≤ g b) →
      (∀ a ∈ opn ++ ks, ∀ b ∈ opn ++ ks, (f a = f b ↔ g a = g b)) →
      (∀ a ∈ opn ++ ks, (p (f a) = true ↔ f a = w)) →
      runLookup p (pre ++ (opn ++ ks)) (ciRunsAux f (f m0) pre.length opn.length ks) =
        (opn ++ ks).filter (fun k => f k = w) := by
  induction ks with
  | nil =>
    intro pre opn m0 hm hopn _ _ hp
    exact runLookup_cons f p w pre opn [] m0 [] hopn (hp m0 (List.mem_append_left _ hm))
      (fun _ => rfl) (fun _ => rfl)
  | cons k ks ih =>
    intro pre opn m0 hm hopn hs hfg hp
    rw [ciRunsAux]
    by_cases hk : f k = f m0
    · -- `k` joins the open run
      have e : (opn ++ [k]) ++ ks = opn ++ k :: ks := List.append_assoc ..
      have := ih pre (opn ++ [k]) m0 (List.mem_append_left _ hm)
        (fun x hx => (List.mem_append.mp hx).elim (hopn x) fun h => List.mem_singleton.mp h ▸ hk)
        (e ▸ hs) (e ▸ hfg) (e ▸ hp)
      rw [List.length_append, e] at this
      rwa [if_pos hk]
    · -- the open run is closed, and its cell does not come again: the keys are sorted by `g`, and
      -- `f` agrees exactly when `g` does
      have hnone : ∀ x ∈ k :: ks, ¬ f x = f m0 := fun x hx hfx => by
        obtain ⟨_, hs2, hs3⟩ := List.pairwise_append.mp hs
        have hm' := List.mem_append_left (k :: ks) hm
        have e1 := (hfg x (List.mem_append_right opn hx) m0 hm').mp hfx
        have l1 := hs3 m0 hm k List.mem_cons_self
        have l2 : g k ≤ g x :=
          (List.mem_cons.mp hx).elim (fun e => e ▸ le_refl _) ((List.pairwise_cons.mp hs2).1 x)
        exact hk ((hfg k (List.mem_append_right opn List.mem_cons_self) m0 hm').mpr (by omega))
      have e : (pre ++ opn) ++ ([k] ++ ks) = pre ++ (opn ++ k :: ks) := List.append_assoc ..
      have := ih (pre ++ opn) [k] k (List.mem_singleton_self k)
        (fun x hx => by rw [List.mem_singleton.mp hx]) (List.pairwise_append.mp hs).2.1
        (fun a ha b hb => hfg a (List.mem_append_right _ ha) b (List.mem_append_right _ hb))
        (fun a ha => hp a (List.mem_append_right _ ha))
      rw [List.length_append, e] at this
      rw [if_neg hk]
      exact runLookup_cons f p w pre opn (k :: ks) m0 _ hopn (hp m0 (List.mem_append_left _ hm))
        (fun hc => List.filter_eq_nil_iff.mpr fun x hx => by simpa [← hc] using hnone x hx)
        (fun _ => this)

/-- what `current_indices.find` leads to for a cell `w` — by a test `p` that on the cells of the
keys means "is `w`" — are exactly the keys of `w`, the keys being sorted by `g` and having the same
cell exactly when they have the same `g` -/
theorem runLookup_runs (L : List Nat) (hs : L.Pairwise (fun a b => g a ≤ g b))
    (hfg : ∀ a ∈ L, ∀ b ∈ L, (f a = f b ↔ g a = g b)) (hp : ∀ a ∈ L, (p (f a) = true ↔ f a = w)) :
    runLookup p L (ciRuns f L) = L.filter (fun k => f k = w) := by
  cases L with
  | nil => rfl
  | cons k ks =>
    exact runLookup_runsAux f g p w ks [] [k] k (List.mem_singleton_self k)
      (fun x hx => by rw [List.mem_singleton.mp hx]) hs hfg hp

end runs

theorem ci_lookup_eq (I J K n : Nat) (cellAt : Nat → Cell)
    (hfit : ∀ j, j < n → ciFits I J K j (cellAt j).toNat3 = true)
    (c : Cell) (hcf : ciFits I J K 0 c.toNat3 = true) :
    (ciLookup I J K (ciKeys I J K n cellAt) c).Perm
      ((List.range n).filter (fun i => (cellAt i).toNat3 = c.toNat3)) := by
  let raw := (List.range n).map (fun i => ciKey I J K i (cellAt i).toNat3)
  have hperm : (ciKeys I J K n cellAt).Perm raw := (sortAsc_spec _).1
  have hsorted : (ciKeys I J K n cellAt).Pairwise (fun a b => a ≤ b) := (sortAsc_spec _).2
  generalize hkeys : ciKeys I J K n cellAt = keys at hperm hsorted ⊢
  -- every key is the key of a particle: the cell it decodes to fits with index 0, and the cell
  -- part of the key is the code of that cell
  have hkey : ∀ k ∈ keys, ciFits I J K 0 (ciCell I J K k) = true ∧
      k / 2 ^ I = ciCode J K (ciCell I J K k) := by
    intro k hk
    obtain ⟨i, hi, rfl⟩ := List.mem_map.mp (hperm.mem_iff.mp hk)
    have hf := hfit i (List.mem_range.mp hi)
    obtain ⟨_, u2, u3⟩ := ci_unpack I J K i _ hf
    rw [u2, u3]
    exact ⟨ciFits_zero I J K i _ hf, rfl⟩
  -- so the keys are sorted by their cell part, which agrees exactly when the decoded cells do, and
  -- the map key of a decoded cell is that of `c` only for `c` itself
  have hlook : ciLookup I J K keys c =
      (keys.filter (fun k => ciCell I J K k = c.toNat3)).map (ciId I) := by
    rw [← runLookup_runs (ciCell I J K) (fun k => k / 2 ^ I)
      (fun t => decide (ciKey I J K 0 t = ciKey I J K 0 c.toNat3)) c.toNat3 keys
      (hsorted.imp fun h => Nat.div_le_div_right h)
      (fun a ha b hb => ⟨fun h => by rw [(hkey a ha).2, (hkey b hb).2, h],
        fun h => by rw [ciCell_of_code, ciCell_of_code, h]⟩)
      fun a ha => by
        rw [decide_eq_true_iff]
        exact ⟨fun h => (ci_pack_inj I J K 0 0 _ _ (hkey a ha).1 hcf h).2, fun h => by rw [h]⟩]
    unfold ciLookup ciFind runLookup
    cases List.find? _ (ciRuns (ciCell I J K) keys) <;> rfl
  rw [hlook]
  refine ((hperm.filter _).map _).trans (.of_eq ?_)
  -- key `i` unpacks to the cell of particle `i` (the filter) and to `i` (the map)
  simp only [raw, List.filter_map, List.map_map]
  rw [List.filter_congr (q := fun i => decide ((cellAt i).toNat3 = c.toNat3)) fun i hi => by
    simp only [Function.comp, (ci_unpack I J K i _ (hfit i (List.mem_range.mp hi))).2.1]]
  refine (List.map_congr_left fun i hi => ?_).trans (List.map_id _)
  exact (ci_unpack I J K i _ (hfit i (List.mem_range.mp (List.mem_filter.mp hi).1))).1

/-- cells with non-negative coordinates are told apart by their `toNat3` -/
theorem ci_lookup_spec (I J K n : Nat) (cellAt : Nat → Cell)
    (hnn : ∀ j, j < n → nonnegCell (cellAt j) = true)
    (hfit : ∀ j, j < n → ciFits I J K j (cellAt j).toNat3 = true)
    (c : Cell) (hc : nonnegCell c = true) (hcf : ciFits I J K 0 c.toNat3 = true) :
    LookupSpec n cellAt (ciLookup I J K (ciKeys I J K n cellAt)) c :=
  spec_of_perm_filter (ci_lookup_eq I J K n cellAt hfit c hcf) fun j hj => by
    rw [decide_eq_true_iff]
    exact ⟨toNat3_inj _ _ (hnn j hj) hc, congrArg Cell.toNat3⟩

end PysphVerif.Nnps
