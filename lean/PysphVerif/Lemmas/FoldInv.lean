/-!
Folds and what they keep, free of any model: a bound every step respects, one slot of a table
under a fold of writers, an invariant that may speak of the part of the list already processed (in
a monad too, for a loop that returns at every step) or of the loop counter.  Core Lean only.
-/
namespace PysphVerif

theorem foldl_le_of_forall {α β : Type} [LE α] (step : α → β → α) (l : List β) (bound : α)
    (hstep : ∀ m, ∀ b ∈ l, m ≤ bound → step m b ≤ bound) (m : α) (hm : m ≤ bound) :
    l.foldl step m ≤ bound :=
  List.foldlRecOn (motive := (· ≤ bound)) l step hm fun m hm b hb => hstep m b hb hm

theorem foldl_update_slot {σ ι : Type} (addr : ι → Nat) (upd : σ → ι → σ) (c : Nat) (ms : List ι)
    (l : Nat → σ) :
    (ms.foldl (fun l m c => if c = addr m then upd (l c) m else l c) l) c =
      (ms.filter (fun m => addr m = c)).foldl upd (l c) := by
  induction ms generalizing l with
  | nil => rfl
  | cons m ms ih =>
    rw [List.foldl_cons, ih]
    by_cases hc : addr m = c
    · rw [List.filter_cons_of_pos (by simpa using hc), List.foldl_cons, if_pos hc.symm]
    · rw [List.filter_cons_of_neg (by simpa using hc), if_neg (Ne.symm hc)]

/-- for the `done ++ x :: rest` of the two lemmas below, in a loop over distinct items -/
theorem not_mem_done {α : Type} {done : List α} {x : α} {rest : List α}
    (h : (done ++ x :: rest).Nodup) : x ∉ done :=
  fun hx => (List.nodup_append.1 h).2.2 x hx x List.mem_cons_self rfl

theorem foldlM_prefix_inv {m : Type → Type} [Monad m] [LawfulMonad m] {σ ι : Type}
    (step : σ → ι → m σ) (Inv : σ → List ι → Prop) (l : List ι) (s : σ) (h0 : Inv s [])
    (hstep : ∀ s done x rest, l = done ++ x :: rest → Inv s done →
      ∃ s', step s x = pure s' ∧ Inv s' (done ++ [x])) :
    ∃ s', l.foldlM step s = pure s' ∧ Inv s' l := by
  suffices h : ∀ rest done s, l = done ++ rest → Inv s done →
      ∃ s', rest.foldlM step s = pure s' ∧ Inv s' l from h l [] s rfl h0
  intro rest
  induction rest with
  | nil => intro done s e h; exact ⟨s, List.foldlM_nil, by rw [e, List.append_nil]; exact h⟩
  | cons x rest ih =>
    intro done s e h
    obtain ⟨s1, h1, hi⟩ := hstep s done x rest e h
    obtain ⟨s2, h2, hi2⟩ := ih (done ++ [x]) s1 (by rw [e, List.append_assoc]; rfl) hi
    exact ⟨s2, by rw [List.foldlM_cons, h1, pure_bind, h2], hi2⟩

theorem foldl_prefix_inv {σ ι : Type} (step : σ → ι → σ) (Inv : σ → List ι → Prop) (l : List ι)
    (s : σ) (h0 : Inv s [])
    (hstep : ∀ s done x rest, l = done ++ x :: rest → Inv s done → Inv (step s x) (done ++ [x])) :
    Inv (l.foldl step s) l := by
  obtain ⟨s', h, hi⟩ := foldlM_prefix_inv (m := Id) (fun s x => pure (step s x)) Inv l s h0
    fun s done x rest e h => ⟨_, rfl, hstep s done x rest e h⟩
  rw [List.foldlM_pure] at h
  exact (show l.foldl step s = s' from h) ▸ hi

theorem foldl_range_inv {σ : Type} (step : σ → Nat → σ) (Inv : σ → Nat → Prop) (n : Nat) (s : σ)
    (h0 : Inv s 0) (hstep : ∀ s k, k < n → Inv s k → Inv (step s k) (k + 1)) :
    Inv ((List.range n).foldl step s) n := by
  induction n with
  | zero => exact h0
  | succ n ih =>
    rw [List.range_succ, List.foldl_append]
    exact hstep _ n (Nat.lt_succ_self n) (ih fun s k hk => hstep s k (Nat.lt_succ_of_lt hk))

/-- one slot of a table filled by a fold of writers (the rows of `nbr_boxes`, `key_to_nbr_idx`): a
good slot stays good, and an untouched one is good in the end as soon as one writer addressed it -/
theorem foldl_slot {σ ω : Type} (step : σ → ω → σ) (addr : ω → Prop) (untouched good : σ → Prop) :
    ∀ (ws : List ω) (s : σ),
      (∀ s, ∀ w ∈ ws, ¬ addr w →
        (untouched s → untouched (step s w)) ∧ (good s → good (step s w))) →
      (∀ s, ∀ w ∈ ws, addr w → untouched s ∨ good s → good (step s w)) →
      (good s → good (ws.foldl step s)) ∧
        (untouched s → (∃ w ∈ ws, addr w) → good (ws.foldl step s)) := by
  intro ws
  induction ws with
  | nil => intro s _ _; exact ⟨id, fun _ ⟨_, hw, _⟩ => by cases hw⟩
  | cons w ws ih =>
    intro s hskip hhit
    have ih' := ih (step s w) (fun s w' hw' => hskip s w' (List.mem_cons_of_mem _ hw'))
      (fun s w' hw' => hhit s w' (List.mem_cons_of_mem _ hw'))
    by_cases hw : addr w
    · exact ⟨fun hg => ih'.1 (hhit s w List.mem_cons_self hw (Or.inr hg)),
        fun hu _ => ih'.1 (hhit s w List.mem_cons_self hw (Or.inl hu))⟩
    · obtain ⟨k1, k2⟩ := hskip s w List.mem_cons_self hw
      refine ⟨fun hg => ih'.1 (k2 hg), fun hu ⟨w', hw', ha⟩ => ih'.2 (k1 hu) ?_⟩
      rcases List.mem_cons.mp hw' with rfl | h
      · exact absurd ha hw
      · exact ⟨w', h, ha⟩

/-- for the chains of a hash table, the index lists of a dict -/
theorem lookup_foldl {σ ι γ : Type} (step : σ → ι → σ) (look : σ → List γ) (p : ι → Bool)
    (v : ι → γ) (hstep : ∀ s it, look (step s it) = if p it then look s ++ [v it] else look s)
    (items : List ι) (s : σ) : look (items.foldl step s) = look s ++ (items.filter p).map v := by
  induction items generalizing s with
  | nil => simp
  | cons it rest ih =>
    rw [List.foldl_cons, ih, hstep]
    by_cases h : p it = true <;> simp [h]

end PysphVerif
