import PysphVerif.Model.Codegen
import PysphVerif.Lemmas.CodegenSort
/-!
C02 — wiring of array pointers, known types and per-thread scratch vectors
(model: `Model/Codegen.lean`, section 4): membership characterisations of the lists the wiring is
built from.  `CodegenSort` is imported for `mem_isort` (`sorted(set(...))` keeps the members).
-/
namespace PysphVerif.Codegen

theorem mem_sortDedup (l : List Name) (n : Name) : n ∈ sortDedup l ↔ n ∈ l := by
  unfold sortDedup
  rw [mem_isort, List.mem_eraseDups]

theorem mem_destList (eqs : List Eqn) (d : Name) :
    d ∈ destList eqs ↔ ∃ e ∈ eqs, e.dest = d := by
  simp only [destList, List.mem_eraseDups, List.mem_map]

theorem mem_sourceList (eqs : List Eqn) (D s : Name) :
    s ∈ sourceList eqs D ↔ ∃ e ∈ eqs, e.dest = D ∧ s ∈ e.sources := by
  simp only [sourceList, List.mem_eraseDups, List.mem_flatMap, List.mem_filter, beq_iff_eq,
    and_assoc]

theorem mem_eqsOfSource (eqs : List Eqn) (D s : Name) (e : Eqn) :
    e ∈ eqsOfSource eqs D s ↔ e ∈ eqs ∧ e.dest = D ∧ s ∈ e.sources := by
  simp only [eqsOfSource, List.mem_flatMap, List.mem_filter, List.mem_map, beq_iff_eq]
  constructor
  · rintro ⟨e', ⟨he', hd⟩, x, ⟨hx, rfl⟩, rfl⟩
    exact ⟨he', hd, hx⟩
  · rintro ⟨he, hd, hs⟩
    exact ⟨e, ⟨he, hd⟩, s, ⟨hs, rfl⟩, rfl⟩

theorem mem_allEqsOf (eqs : List Eqn) (D : Name) (e : Eqn) :
    e ∈ allEqsOf eqs D ↔ e ∈ eqs ∧ e.dest = D := by
  simp only [allEqsOf, List.mem_eraseDups, List.mem_filter, beq_iff_eq]

theorem mem_noSrcEqsOf (eqs : List Eqn) (D : Name) (e : Eqn) :
    e ∈ noSrcEqsOf eqs D ↔ (e ∈ eqs ∧ e.dest = D) ∧ e.sources = [] := by
  simp only [noSrcEqsOf, List.mem_filter, beq_iff_eq, Eqn.noSource, List.isEmpty_iff]

theorem mem_groupNames (t : Table Name) (g : List Eqn) (x : Name) :
    x ∈ groupNames t g ↔
      (∃ e ∈ g, x ∈ e.allArgs) ∨ (∃ p ∈ groupPrecomp t g, x ∈ t.syms p) := by
  simp only [groupNames, List.mem_append, List.mem_flatMap]

theorem mem_srcSetup (t : Table Name) (g : List Eqn) (a : Assign) :
    a ∈ srcSetup t g ↔
      ∃ n, (n ∈ groupNames t g ∧ isSrcArr n = true) ∧ (⟨n, .src, strip n⟩ : Assign) = a := by
  simp only [srcSetup, List.mem_map, mem_sortDedup, groupSrcNames, List.mem_filter]

theorem mem_destSetup (t : Table Name) (ns : List Eqn) (gs : List (List Eqn)) (a : Assign) :
    a ∈ destSetup t ns gs ↔
      ∃ n, ((n ∈ groupNames t ns ∧ isDstArr n = true) ∨
          ∃ g ∈ gs, n ∈ groupNames t g ∧ isDstArr n = true) ∧
        (⟨n, .dst, strip n⟩ : Assign) = a := by
  simp only [destSetup, List.mem_map, mem_sortDedup, groupDstNames, List.mem_append,
    List.mem_filter, List.mem_flatMap]

theorem mem_wiring (t : Table Name) (eqs : List Eqn) (db : DestBlock) :
    db ∈ wiring t eqs ↔ ∃ D ∈ destList eqs, mkDestBlock t eqs D = db := by
  simp only [wiring, List.mem_map]

theorem mem_mkDestBlock_srcs (t : Table Name) (eqs : List Eqn) (D : Name) (sb : SrcBlock) :
    sb ∈ (mkDestBlock t eqs D).srcs ↔ ∃ s ∈ sourceList eqs D, mkSrcBlock t eqs D s = sb := by
  simp only [mkDestBlock, List.mem_map]

/-! The fields of the blocks, as rewrite rules: unifying `(mkDestBlock t eqs D).assigns` with
`destSetup …` by unfolding evaluates the sort inside `destSetup`. -/

theorem mkDestBlock_assigns (t : Table Name) (eqs : List Eqn) (D : Name) :
    (mkDestBlock t eqs D).assigns =
      destSetup t (noSrcEqsOf eqs D) ((sourceList eqs D).map (eqsOfSource eqs D)) := by
  rw [mkDestBlock]

theorem mkSrcBlock_assigns (t : Table Name) (eqs : List Eqn) (D s : Name) :
    (mkSrcBlock t eqs D s).assigns = srcSetup t (eqsOfSource eqs D s) := by
  rw [mkSrcBlock]

theorem mkSrcBlock_eqs (t : Table Name) (eqs : List Eqn) (D s : Name) :
    (mkSrcBlock t eqs D s).eqs = eqsOfSource eqs D s := by
  rw [mkSrcBlock]

theorem mkDestBlock_mem (t : Table Name) (eqs : List Eqn) (e : Eqn) (he : e ∈ eqs) :
    mkDestBlock t eqs e.dest ∈ wiring t eqs :=
  (mem_wiring t eqs _).mpr ⟨e.dest, (mem_destList eqs _).mpr ⟨e, he, rfl⟩, rfl⟩

theorem mem_destSetup_of_source (t : Table Name) (eqs : List Eqn) (D s x : Name)
    (hs : s ∈ sourceList eqs D) (hx : x ∈ groupNames t (eqsOfSource eqs D s))
    (hd : isDstArr x = true) :
    (⟨x, .dst, strip x⟩ : Assign) ∈ (mkDestBlock t eqs D).assigns := by
  rw [mkDestBlock_assigns, mem_destSetup]
  exact ⟨x, Or.inr ⟨_, List.mem_map.mpr ⟨s, hs, rfl⟩, hx, hd⟩, rfl⟩

theorem s_ne_d (a b : String) : "s_" ++ a ≠ "d_" ++ b := by
  intro h
  have := congrArg String.toList h
  simp [String.toList_append] at this

theorem lookupLast_eq (kt : List (Name × Name)) (k v : Name)
    (hex : ∃ e ∈ kt, e.1 = k) (hval : ∀ e ∈ kt, e.1 = k → e.2 = v) :
    lookupLast kt k = some v := by
  unfold lookupLast
  cases hf : kt.reverse.find? (fun e => e.1 == k) with
  | none =>
    rw [List.find?_eq_none] at hf
    obtain ⟨e, he, hk⟩ := hex
    exact absurd (by simpa using hk) (hf e (List.mem_reverse.mpr he))
  | some e =>
    have h1 := List.find?_some hf
    have h2 := List.mem_reverse.mp (List.mem_of_find?_eq_some hf)
    simp only [beq_iff_eq] at h1
    simp only [Option.map_some, Option.some.injEq]
    exact hval e h2 h1

theorem mem_allArrayNames (pas : List PArr) (c : Name × Name × List Name) :
    c ∈ allArrayNames pas ↔
      ∃ q ∈ pas.flatMap (·.props), c = (q.2.1, q.2.2,
        (((pas.flatMap (·.props)).filter (fun r => r.2.1 == q.2.1)).map (·.1)).eraseDups) := by
  simp only [allArrayNames, List.mem_map, List.mem_eraseDups]
  constructor
  · rintro ⟨c', ⟨q, hq, rfl⟩, rfl⟩
    exact ⟨q, hq, rfl⟩
  · rintro ⟨q, hq, rfl⟩
    exact ⟨(q.2.1, q.2.2), ⟨q, hq, rfl⟩, rfl⟩

theorem mem_knownTypes (an : List (Name × Name × List Name)) (e : Name × Name) :
    e ∈ knownTypes an ↔ ∃ c ∈ an, ∃ arr ∈ c.2.2,
      e = ("s_" ++ arr, c.2.1 ++ "*") ∨ e = ("d_" ++ arr, c.2.1 ++ "*") := by
  simp only [knownTypes, List.mem_flatMap, List.mem_cons, List.not_mem_nil, or_false]

theorem le_aligned8 (n : Nat) : n ≤ aligned8 n := by
  unfold aligned8
  omega

theorem scratch_lt_next (A i j k : Nat) (hij : i < j) (hk : k < A) : i * A + k < j * A := by
  have h : (i + 1) * A ≤ j * A := Nat.mul_le_mul_right A hij
  rw [Nat.add_mul, Nat.one_mul] at h
  omega

end PysphVerif.Codegen
