import PysphVerif.Lemmas.NnpsZOrder
/-!
C01 helper lemmas for ExtendedZOrderNNPS in symmetric mode: the per-cell-id `hmax` table bounds
the smoothing lengths of the cell's particles (`zHmax_ge`), `_cell_hmax` bounds those of every
array's particles in the cell (`cellHmax_ge`), the pruned row stands for the distinct boxes that
pass the test (`zSym_flatMap`, `mem_symBoxes`).
-/
namespace PysphVerif.Nnps

open scoped PysphVerif.OrderChain

section hmax
variable {α : Type} [LinearOrder α]

theorem zHmaxWalk_eq (a : ZArr) (hAt : Nat → α) (ps : List Nat) (prev : Option Nat) (m : Nat → α) :
    zHmaxWalk a hAt prev ps m = (runMarks a.key prev ps).foldl (fun m mk c =>
      if c = a.cids mk.2 then (if mk.1 then hAt mk.2 else fmaxA (m c) (hAt mk.2)) else m c) m := by
  induction ps generalizing prev m with
  | nil => rfl
  | cons p ps ih =>
    unfold zHmaxWalk runMarks
    by_cases hpr : prev = some (a.key p) <;> simp [hpr, ih]

theorem zHmax_ge [OfNat α 0] (zs : List ZArr) (cur : Nat) (hz : ZInv zs cur) (a : ZArr) (ha : a ∈ zs)
    (hAt : Nat → α) (p : Nat) (hp : p ∈ a.pids) : hAt p ≤ zHmax a hAt (a.cids p) := by
  have hmem : p ∈ a.pids.filter (fun q => a.key q = a.key p) := List.mem_filter.mpr ⟨hp, by simp⟩
  unfold zHmax
  rw [zHmaxWalk_eq, foldl_update_slot (fun m : Bool × Nat => a.cids m.2)
    (fun x m => if m.1 then hAt m.2 else fmaxA x (hAt m.2)), runMarks_filter_cid zs cur hz a ha p hp]
  cases hr : a.pids.filter (fun q => a.key q = a.key p) with
  | nil => rw [hr] at hmem; cases hmem
  | cons p0 r =>
    rw [hr] at hmem
    show hAt p ≤ (r.map (Prod.mk false)).foldl _ (hAt p0)
    rw [List.foldl_map]
    rcases List.mem_cons.mp hmem with rfl | hpr
    · exact foldl_ge_init _ (fun x q => fmaxA_ge_left x (hAt q)) r _
    · exact foldl_ge_of_mem _ (fun x q => fmaxA_ge_left x (hAt q)) r p hpr _
        (fun x => fmaxA_ge_right x (hAt p)) _

theorem cellHmaxArr_ge_init (maxKey : Nat) (a : ZArr) (hAt : Nat → α) (k : Nat) (m : α) :
    m ≤ cellHmaxArr maxKey a hAt k m := by
  unfold cellHmaxArr
  split
  · exact le_refl _
  · exact foldl_ge_init _ (fun m p => fmaxA_ge_left m (hAt p)) _ m

theorem cellHmaxArr_ge_mem (maxKey : Nat) (a : ZArr) (hke : a.keys = a.pids.map a.key)
    (hs : a.pids.Pairwise (fun p q => a.key p ≤ a.key q))
    (hbelow : ∀ p ∈ a.pids, a.key p < maxKey) (hAt : Nat → α) (m : α) (p : Nat)
    (hp : p ∈ a.pids) : hAt p ≤ cellHmaxArr maxKey a hAt (a.key p) m := by
  unfold cellHmaxArr
  rw [a.getIdx_eq maxKey hke hbelow]
  exact foldl_fmax_firstIdx_ge a.key _ a.pids hs hAt m p hp rfl

theorem cellHmax_ge [OfNat α 0] (maxKey : Nat) (zh : List (ZArr × (Nat → α))) (b : ZArr) (hb : Nat → α)
    (hmem : (b, hb) ∈ zh) (hke : b.keys = b.pids.map b.key)
    (hs : b.pids.Pairwise (fun p q => b.key p ≤ b.key q))
    (hbelow : ∀ p ∈ b.pids, b.key p < maxKey) (q : Nat) (hq : q ∈ b.pids) :
    hb q ≤ cellHmax maxKey zh (b.key q) :=
  foldl_ge_of_mem (fun (m : α) (ah : ZArr × (Nat → α)) => cellHmaxArr maxKey ah.1 ah.2 (b.key q) m)
    (fun m ah => cellHmaxArr_ge_init maxKey ah.1 ah.2 (b.key q) m) zh (b, hb) hmem _
    (fun m => cellHmaxArr_ge_mem maxKey b hke hs hbelow hb m q hq) 0

end hmax

section boxes
variable {α : Type} [Mul α] [Div α] [LT α] [DecidableLT α]

/-- the box test of `_neighbor_boxes_sym` for mask entry `m` around cell `c` -/
def symPass (cl : α → Int) (maxKey : Nat) (rs hsub : α) (a : ZArr) (hmaxA : Nat → α) (c : Cell)
    (h : α) (m : Cell) : Bool :=
  match a.getIdx maxKey (zKey (Cell.add c m)) with
  | none => true
  | some f =>
    decide ((m.1.natAbs : Int) ≤ cl (rs * fmaxA (hmaxA (a.cids (a.pids.getD f 0))) h / hsub)) &&
    decide ((m.2.1.natAbs : Int) ≤ cl (rs * fmaxA (hmaxA (a.cids (a.pids.getD f 0))) h / hsub)) &&
    decide ((m.2.2.natAbs : Int) ≤ cl (rs * fmaxA (hmaxA (a.cids (a.pids.getD f 0))) h / hsub))

theorem zNbrIdxSym_nonneg (cl : α → Int) (maxKey : Nat) (mask : List Cell) (rs hsub : α) (a : ZArr)
    (hmaxA : Nat → α) (c : Cell) (h : α) :
    ∀ x ∈ zNbrIdxSym cl maxKey mask rs hsub a hmaxA c h, 0 ≤ x := by
  intro x hx
  unfold zNbrIdxSym at hx
  obtain ⟨m, _, hm⟩ := List.mem_filterMap.mp hx
  split at hm
  · cases hm
  · simp only at hm
    split at hm
    · exact Option.some.inj hm ▸ Int.natCast_nonneg _
    · cases hm

/-- the boxes the pruned row stands for -/
def symBoxes (cl : α → Int) (maxKey : Nat) (mask : List Cell) (rs hsub : α) (a : ZArr)
    (hmaxA : Nat → α) (c : Cell) (h : α) : List Cell :=
  ((mask.filter fun m => nonnegCell (Cell.add c m)).filter
    (symPass cl maxKey rs hsub a hmaxA c h)).map (Cell.add c)

theorem zSym_flatMap (cl : α → Int) (maxKey : Nat) (mask : List Cell) (rs hsub : α) (a : ZArr)
    (hmaxA : Nat → α) (c : Cell) (h : α) :
    (zNbrIdxSym cl maxKey mask rs hsub a hmaxA c h).flatMap (zRun a (zLengths a)) =
      (symBoxes cl maxKey mask rs hsub a hmaxA c h).flatMap (zLookup maxKey a) := by
  unfold zNbrIdxSym symBoxes
  rw [List.flatMap_map, flatMap_filter, flatMap_filterMap_eq]
  apply List.flatMap_congr
  intro m _
  unfold symPass zLookup
  cases a.getIdx maxKey (zKey (Cell.add c m)) with
  | none => rfl
  | some f =>
    simp only []
    split <;> rfl

theorem symBoxes_subset (cl : α → Int) (maxKey : Nat) (mask : List Cell) (rs hsub : α) (a : ZArr)
    (hmaxA : Nat → α) (c : Cell) (h : α) :
    ∀ b ∈ symBoxes cl maxKey mask rs hsub a hmaxA c h, b ∈ zBoxes mask c := by
  intro b hb
  obtain ⟨m, hm, rfl⟩ := List.mem_map.mp hb
  obtain ⟨hm1, hm2⟩ := List.mem_filter.mp (List.mem_filter.mp hm).1
  exact List.mem_filter.mpr ⟨List.mem_map_of_mem hm1, hm2⟩

theorem mem_symBoxes (cl : α → Int) (maxKey : Nat) (mask : List Cell) (rs hsub : α) (a : ZArr)
    (hke : a.keys = a.pids.map a.key) (hok : (a.toIn).Ok maxKey)
    (hmaxA : Nat → α) (c : Cell) (h : α) (j : Nat) (hj : j < a.n)
    (hm : ((a.cellAt j).1 - c.1, (a.cellAt j).2.1 - c.2.1, (a.cellAt j).2.2 - c.2.2) ∈ mask)
    (hpass : Cell.Within (cl (rs * fmaxA (hmaxA (a.cids j)) h / hsub)) (a.cellAt j) c) :
    a.cellAt j ∈ symBoxes cl maxKey mask rs hsub a hmaxA c h := by
  refine (mem_map_add_iff _ c _).mpr (List.mem_filter.mpr ⟨List.mem_filter.mpr ⟨hm, ?_⟩, ?_⟩)
  · rw [Cell.add_sub]; exact cellFits21_nonneg _ (hok.fits j hj)
  · unfold symPass
    rw [Cell.add_sub, a.getIdx_eq maxKey hke (fun p hp => (ok_pids hok hp).2)]
    cases hf : firstIdx (a.pids.map a.key) (zKey (a.cellAt j)) with
    | none => rfl
    | some f =>
      -- the particle read at the entry has `j`'s key, hence `j`'s cell id
      have hc : a.cids (a.pids.getD f 0) = a.cids j := by
        unfold ZArr.cids
        rw [(getD_firstIdx a.key _ _ hf 0).2]; rfl
      simp only [hc, Bool.and_eq_true, decide_eq_true_eq]
      exact ⟨⟨hpass.1, hpass.2.1⟩, hpass.2.2⟩

end boxes

section
variable {α : Type} [Field α] [LinearOrder α] [IsStrictOrderedRing α] [FloorRing α]

/-- ExtendedZOrderNNPS, `asymmetric=False`.  The per-box test never drops the box of a neighbour:
`hmax[cid]` bounds the `h` of the box's source particles, `_cell_hmax` that of the destination
particle, so the test's half-width `⌈rs·max(·,·)/s⌉` covers either cut-off
(`nbr_cells_within_ceil`). -/
theorem zOrderSym_exact {s : α} {H : Nat} {o : Pt α} {maxKey : Nat}
    {srt : (Nat → Nat) → Nat → List Nat} {arrs : List (List (Pt α))} {sI d i : Nat}
    {src dst : List (Pt α)} {q : Pt α} (rs : α) (Q : ZQuery s H o maxKey srt arrs sI d i src dst q)
    (hs0 : 0 < s) (hrs : 0 ≤ rs) (hh : ∀ a ∈ arrs, ∀ p ∈ a, 0 ≤ p.h)
    (hcover : ∀ p ∈ src, isNbr rs q p = true →
      ((cell3 Int.floor s o p).1 - (cell3 Int.floor s o q).1).natAbs ≤ H ∧
      ((cell3 Int.floor s o p).2.1 - (cell3 Int.floor s o q).2.1).natAbs ≤ H ∧
      ((cell3 Int.floor s o p).2.2 - (cell3 Int.floor s o q).2.2).natAbs ≤ H) :
    ExactNbrs rs src q (extZOrderSymCands Int.ceil maxKey H rs s
      (arrs.map (zInOfPts Int.floor s o srt)) (arrs.map (fun a => hAtOf a)) sI d i) := by
  obtain ⟨a, b, ctx, han, hacell, hcq⟩ := ZCtx.ofPts Q
  obtain ⟨_, hs, hd, hq, hfit, _⟩ := Q
  have hsm : src ∈ arrs := List.mem_of_getElem? hs
  have hdm : dst ∈ arrs := List.mem_of_getElem? hd
  have hqm : q ∈ dst := List.mem_of_getElem? hq
  have ha : a ∈ (zBuild (arrs.map (zInOfPts Int.floor s o srt))).1 := List.mem_of_getElem? ctx.has
  have hhs : (arrs.map (fun a => hAtOf a))[sI]? = some (hAtOf src) := by
    rw [List.getElem?_map, hs]; rfl
  have hhd : (arrs.map (fun a => hAtOf a))[d]? = some (hAtOf dst) := by
    rw [List.getElem?_map, hd]; rfl
  unfold extZOrderSymCands
  simp only [ctx.has, ctx.hbd, hhs]
  generalize hhq : fmaxA (zHmax a (hAtOf src) (b.cids i))
    (cellHmax maxKey ((zBuild (arrs.map (zInOfPts Int.floor s o srt))).1.zip
      (arrs.map (fun a => hAtOf a))) (zKey (b.cellAt i))) = hq'
  refine zRow_exact rs src q maxKey _ _ _ sI d i a b ctx han _
    (by unfold zNbrSym; exact zNbrIdxSym_nonneg _ _ _ _ _ _ _ _ _)
    (symBoxes Int.ceil maxKey (maskZ H) rs s a (zHmax a (hAtOf src)) (b.cellAt i) hq')
    ((((maskZ_nodup H).filter _).filter _).map (Cell.add_injective _))
    (fun c hc => zBoxes_fit H H (le_refl _) _ (by rw [hcq]; exact hfit dst hdm q hqm) c
      (symBoxes_subset _ _ _ _ _ _ _ _ _ c hc))
    (by unfold zNbrSym; rw [hhq, zSym_flatMap]) fun j hj hn => ?_
  · have hmem : src[j] ∈ src := List.getElem_mem hj
    have hcj : a.cellAt j = cell3 Int.floor s o src[j] := by
      rw [hacell]; exact cellAtOf_of_lt _ _ _ _ hj
    have hjn : j < a.n := by rw [han]; exact hj
    have hhm : src[j].h ≤ zHmax a (hAtOf src) (a.cids j) := by
      have := zHmax_ge _ _ ctx.inv a ha (hAtOf src) j ((ctx.oka.mem_pids j).mpr hjn)
      rwa [hAtOf_of_lt src hj] at this
    have hqh : q.h ≤ hq' := by
      rw [← hhq]
      refine le_trans ?_ (fmaxA_ge_right _ _)
      have hzip : (b, hAtOf dst) ∈ (zBuild (arrs.map (zInOfPts Int.floor s o srt))).1.zip
          (arrs.map (fun a => hAtOf a)) :=
        List.mem_of_getElem? (i := d) (List.getElem?_zip_eq_some.mpr ⟨ctx.hbd, hhd⟩)
      have hbm : b ∈ _ := List.mem_of_getElem? ctx.hbd
      have := cellHmax_ge maxKey _ b (hAtOf dst) hzip (ctx.inv.keysEq b hbm) (ctx.inv.sorted b hbm)
        (fun p hp => (ok_pids ctx.okb hp).2) i ((ctx.okb.mem_pids i).mpr ctx.hi)
      rw [show b.key i = zKey (b.cellAt i) from rfl] at this
      simpa [hAtOf, hq] using this
    obtain ⟨m1, m2, m3⟩ := hcover _ hmem hn
    have hk := nbr_cells_within_ceil rs s _ o q src[j] hs0 hrs (hh dst hdm q hqm)
      (hh src hsm _ hmem) (mul_le_mul_of_nonneg_left (le_trans hqh (fmaxA_ge_right _ _)) hrs)
      (mul_le_mul_of_nonneg_left (le_trans hhm (fmaxA_ge_left _ _)) hrs) hn
    rw [← hcj, ← hcq] at m1 m2 m3 hk
    exact mem_symBoxes Int.ceil maxKey (maskZ H) rs s a (ctx.inv.keysEq a ha) ctx.oka _ _ _ j hjn
      ((mem_maskZ H _).mpr ⟨m1, m2, m3⟩) hk

end

end PysphVerif.Nnps
