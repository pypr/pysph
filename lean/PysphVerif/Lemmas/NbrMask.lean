import PysphVerif.Lemmas.Nnps
import Mathlib.Data.Rat.Floor
/-!
C09 — the geometry under "the neighbour relation is symmetric" for the
cell-mask searches whose mask width is an option-dependent expression
(`StratifiedHashNNPS`: cells of size `hmax_level / H`, mask half-width
`ceil(h_max * H / hmax_level)`; `stratified_hash_nnps.pyx`,
`find_nearest_neighbors`).

A pair that meets the (symmetric) criterion `xij2 < hi2 or xij2 < hj2` is in
the list of BOTH partners only if each partner's mask reaches the other's cell
on the grid of the other's level.  The one-axis fact is `Nnps.floor_adj_le`, the
inequality behind the stencils of C01.
-/
namespace PysphVerif.NbrMask

variable {K : Type} [Field K] [LinearOrder K] [IsStrictOrderedRing K] [FloorRing K]

/-- `find_cell_id_raw` along one axis: `floor(x / cell_size)` (`x` relative to `xmin`) -/
def cellId (x c : K) : ℤ := ⌊x / c⌋

theorem cell_mask_covers (c r x y : K) (hc : 0 < c) (hxy : |x - y| < r) :
    |cellId x c - cellId y c| ≤ ⌈r / c⌉ := by
  rw [← Int.natCast_natAbs]
  exact Nnps.floor_adj_le x y r c _ hc (Int.le_ceil _) hxy

/-- mask half-width of `StratifiedHashNNPS.find_nearest_neighbors` on a level:
`h_max = fmax(radius_scale*h, hmax_level); H = ceil(h_max*self.H / hmax_level)` -/
def stratMaskWidth (rq hl : K) (Hopt : ℕ) : ℤ := ⌈max rq hl * (Hopt : K) / hl⌉

/-- the width without the option (what `ceil(h_max / hmax_level)` would be), which loses a pair in
one direction (`strat_hash_mask_needs_H` in `Props/C09.lean`) -/
def stratMaskWidthNoH (rq hl : K) : ℤ := ⌈max rq hl / hl⌉

/-- `rq = radius_scale*h_q`, `rj = radius_scale*h_j`, `hl` the `hmax_level` of the level of `j`
(cells of size `hl / H`); `hcrit` is the neighbour criterion along this axis. -/
theorem strat_mask_covers (xq xj rq rj hl : K) (Hopt : ℕ) (hH : 0 < Hopt) (hhl : 0 < hl)
    (hrj : rj ≤ hl) (hcrit : |xq - xj| < max rq rj) :
    |cellId xj (hl / Hopt) - cellId xq (hl / Hopt)| ≤ stratMaskWidth rq hl Hopt := by
  have hHK : (0 : K) < (Hopt : K) := by exact_mod_cast hH
  have hc : 0 < hl / (Hopt : K) := div_pos hhl hHK
  have hR : |xj - xq| < max rq hl := by
    rw [abs_sub_comm]
    exact lt_of_lt_of_le hcrit (max_le_max (le_refl _) hrj)
  have := cell_mask_covers (hl / (Hopt : K)) (max rq hl) xj xq hc hR
  rwa [div_div_eq_mul_div] at this

end PysphVerif.NbrMask
