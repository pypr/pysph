import PysphVerif.Lemmas.DumpLoadH5
import PysphVerif.Lemmas.DumpLoadNpz
import PysphVerif.Lemmas.DumpLoadV1
import Mathlib.Data.List.Forall2
/-!
C11, files holding several arrays with distinct names: `d[k] = v` on a fresh
key appends, so `all_array_data`, `get_particles_info` and the dictionary
`load` returns are plain lists in iteration order; the entry written for one
array of a many-array file is the entry the one-array reader specs
(`loadH5_spec`, `loadNpz_spec`, `loadV1_spec`) talk about.
-/
set_option linter.unusedSectionVars false
namespace PysphVerif.DumpLoad

variable {V : Type} [PVal V] [DecidableEq V]

theorem mapM_some {α β γ : Type} (k : α → γ) (f : γ → Option β) (g : α → β) (l : List α)
    (h : ∀ a ∈ l, f (k a) = some (g a)) : (l.map k).mapM f = some (l.map g) := by
  induction l with
  | nil => rfl
  | cons a as ih =>
    simp [List.mapM_cons, h a (by simp), ih (fun x hx => h x (by simp [hx]))]

/-! `List.Forall₂ R l d` is how "the dictionary `d` lists, in iteration order, a value related to
each item of `l`" is said; what the property theorems read off it. -/

section
variable {α β : Type} {l : List α} {bs : List β}

theorem map_of_forall2 {γ : Type} {R : α → β → Prop} {f : α → γ} {g : β → γ}
    (hR : ∀ a b, R a b → g b = f a) (h : List.Forall₂ R l bs) : bs.map g = l.map f := by
  induction h with
  | nil => rfl
  | cons hx _ ih => simp [hR _ _ hx, ih]

theorem exists_mem_of_forall2 {R : α → β → Prop} (h : List.Forall₂ R l bs) :
    ∀ a ∈ l, ∃ b ∈ bs, R a b := by
  induction h with
  | nil => nofun
  | cons hx _ ih =>
    exact List.forall_mem_cons.2 ⟨⟨_, List.mem_cons_self, hx⟩,
      fun a ha => (ih a ha).imp fun _ h => ⟨List.mem_cons_of_mem _ h.1, h.2⟩⟩

theorem forall2_singleton {R : α → β → Prop} {a : α} (h : List.Forall₂ R [a] bs) :
    ∃ b, bs = [b] ∧ R a b := by
  cases h with
  | cons h ht => cases ht; exact ⟨_, rfl, h⟩

end

/-- a loop `for a in l: d[key(a)] = f(a)` from the empty dictionary over distinct keys -/
theorem foldlM_dictSet {m : Type → Type} [Monad m] [LawfulMonad m] {α β : Type} (key : α → String)
    (f : α → m β) (P : α → β → Prop) (l : List α) (hf : ∀ a ∈ l, ∃ v, f a = pure v ∧ P a v)
    (hnd : (l.map key).Nodup) :
    ∃ d, l.foldlM (fun acc a => dictSet acc (key a) <$> f a) [] = pure d ∧
      List.Forall₂ (fun a e => e.1 = key a ∧ P a e.2) l d := by
  refine foldlM_prefix_inv _
    (fun d seen => List.Forall₂ (fun a (e : String × β) => e.1 = key a ∧ P a e.2) seen d)
    l [] .nil fun d seen a rest e hd => ?_
  subst e
  obtain ⟨v, hv, hP⟩ := hf a (by simp)
  have hk : key a ∉ d.map (·.1) := by
    rw [map_of_forall2 (fun _ _ h => h.1) hd]
    exact not_mem_done (by simpa using hnd)
  exact ⟨d ++ [(key a, v)], by rw [hv, map_pure, dictSet_fresh _ _ _ hk],
    List.rel_append hd (.cons ⟨rfl, hP⟩ .nil)⟩

theorem foldlM_dictSet_eq {m : Type → Type} [Monad m] [LawfulMonad m] {α β : Type}
    (key : α → String) (f : α → m β) (val : α → β) (l : List α) (hf : ∀ a ∈ l, f a = pure (val a))
    (hnd : (l.map key).Nodup) :
    l.foldlM (fun acc a => dictSet acc (key a) <$> f a) [] =
      pure (l.map fun a => (key a, val a)) := by
  obtain ⟨d, h, hd⟩ := foldlM_dictSet key f (fun a v => v = val a) l (fun a ha => ⟨_, hf a ha, rfl⟩) hnd
  have hd' : d.map id = l.map fun a => (key a, val a) :=
    map_of_forall2 (fun _ _ h => Prod.ext h.1 h.2) hd
  rw [h, ← List.map_id d, hd']

section
variable {S : Type} (o : Opts) (arrays : List (PArr V)) (hwf : ∀ pa ∈ arrays, WF pa)
  (hnd : (arrays.map (·.name)).Nodup) (sd : List (String × S))
include hwf hnd

theorem allArrayData_many :
    allArrayData o arrays = some (arrays.map (fun pa => (pa.name, arrsOf o pa))) :=
  foldlM_dictSet_eq (m := Option) (fun pa : PArr V => pa.name)
    (fun pa => getPropertyArrays pa o.detailed o.onlyReal) (arrsOf o) arrays
    (fun pa hpa => (gpa_spec pa (hwf pa hpa) o).1) hnd

omit hwf in
theorem particlesInfo_many :
    particlesInfo arrays = arrays.map (fun pa => (pa.name, arrayInfo pa)) := by
  have h := foldlM_dictSet_eq (m := Id) (fun pa : PArr V => pa.name) (fun pa => pure (arrayInfo pa))
    arrayInfo arrays (fun _ _ => rfl) hnd
  simp only [map_pure, List.foldlM_pure] at h
  exact h

omit hwf in
theorem aad_get (pa : PArr V) (hpa : pa ∈ arrays) :
    dictGet? (arrays.map (fun pa => (pa.name, arrsOf o pa))) pa.name = some (arrsOf o pa) := by
  apply dictGet?_of_mem _ _ (pa.name, arrsOf o pa) (List.mem_map.2 ⟨pa, hpa, rfl⟩)
  simpa [List.map_map, Function.comp_def] using hnd

theorem dumpNpz_many :
    dumpNpz o arrays sd =
      some (File.npz2 sd (arrays.map (fun pa => (pa.name, npzArrOf pa (arrsOf o pa))))) := by
  simp only [dumpNpz, allArrayData_many o arrays hwf hnd, particlesInfo_many arrays hnd,
    Option.map_some, List.map_map]
  congr 2
  apply List.map_congr_left
  intro pa hpa
  simp only [Function.comp, npzEntry, npzArrOf, aad_get o arrays hnd pa hpa]

theorem dumpHdf5_many :
    dumpHdf5 o arrays sd =
      some (File.hdf5 sd (arrays.map (fun pa => (pa.name, h5ArrOf pa (arrsOf o pa))))) := by
  simp only [dumpHdf5, allArrayData_many o arrays hwf hnd, particlesInfo_many arrays hnd,
    Option.bind_some]
  rw [mapM_some _ _ (fun pa => (pa.name, h5ArrOf pa (arrsOf o pa)))]
  · rfl
  · intro pa hpa
    simp only [h5Entry, aad_get o arrays hnd pa hpa, Option.map_some]
    rfl

theorem dumpV1_many :
    dumpV1 o arrays sd = some (File.npz1 sd (arrays.map (fun pa => (pa.name, arrsOf o pa)))) := by
  have h : (arrays.foldlM (v1Step o) [] : Option _) = allArrayData o arrays := rfl
  simp only [dumpV1, h, allArrayData_many o arrays hwf hnd, Option.map_some]

end

theorem collect_many {α β : Type} (ld : String → β → Except String (PArr V))
    (key : α → String) (ent : α → β) (P : α → PArr V → Prop) (l : List α)
    (h : ∀ a ∈ l, ∃ q, ld (key a) (ent a) = .ok q ∧ P a q) (hnd : (l.map key).Nodup) :
    ∃ qs, (l.map fun a => (key a, ent a)).foldlM (collectStep ld) [] = .ok qs ∧
      List.Forall₂ (fun a e => e.1 = key a ∧ P a e.2) l qs := by
  rw [List.foldlM_map]
  exact foldlM_dictSet key (fun a => ld (key a) (ent a)) P l h hnd

section
variable {S : Type} (arrays : List (PArr V)) (hwf : ∀ pa ∈ arrays, WF pa)
  (hnd : (arrays.map (·.name)).Nodup) (o : Opts) (sd : List (String × S))
include hwf hnd

theorem loadNpz_many :
    ∃ qs, load (File.npz2 sd (arrays.map (fun pa => (pa.name, npzArrOf pa (arrsOf o pa))))) =
        .ok (sd, qs) ∧
      List.Forall₂ (fun pa e => e.1 = pa.name ∧ RoundTrip o pa e.2 ∧ e.2.consts = pa.consts ∧
        (∀ t ∈ e.2.props, t.name = "tag" → e.2.nReal = countLocal t.data)) arrays qs := by
  obtain ⟨qs, hl, hqs⟩ := collect_many loadNpzArr (fun pa : PArr V => pa.name) (fun pa => npzArrOf pa (arrsOf o pa))
    _ arrays (fun pa hpa => loadNpz_spec pa (hwf pa hpa) o) hnd
  exact ⟨qs, by simp only [load, hl, Except.map], hqs⟩

/-- the hdf5 reader walks the group in name order -/
theorem loadH5_many :
    ∃ qs, load (File.hdf5 sd (arrays.map (fun pa => (pa.name, h5ArrOf pa (arrsOf o pa))))) =
        .ok (sortByName sd, qs) ∧
      List.Forall₂ (fun e r => r.1 = e.1 ∧ RoundTrip o e.2 r.2)
        (sortByName (arrays.map (fun pa => (pa.name, pa)))) qs := by
  have hperm := sortByName_perm (arrays.map (fun pa => (pa.name, pa)))
  obtain ⟨qs, hl, hqs⟩ := collect_many loadH5Arr (fun e : String × PArr V => e.1)
    (fun e => h5ArrOf e.2 (arrsOf o e.2)) (fun e q => RoundTrip o e.2 q)
    (sortByName (arrays.map (fun pa => (pa.name, pa))))
    (fun e he => by
      obtain ⟨pa, hpa, rfl⟩ := List.mem_map.1 (hperm.mem_iff.1 he)
      exact loadH5_spec pa (hwf pa hpa) o)
    (by rw [(hperm.map _).nodup_iff]
        simpa [List.map_map, Function.comp_def] using hnd)
  refine ⟨qs, ?_, hqs⟩
  have hfile : arrays.map (fun pa => (pa.name, h5ArrOf pa (arrsOf o pa))) =
      (arrays.map (fun pa => (pa.name, pa))).map
        (fun x => (x.1, (fun x : String × PArr V => h5ArrOf x.2 (arrsOf o x.2)) x)) := by
    simp [List.map_map, Function.comp_def]
  simp only [load, hfile, sortByName_map, hl, Except.map]

end

theorem loadV1_many {S : Type} (arrays : List (PArr V)) (hwf : ∀ pa ∈ arrays, WF pa)
    (hnd : (arrays.map (·.name)).Nodup) (o : Opts) (sd : List (String × S))
    (hs1 : ∀ pa ∈ arrays, ∀ p ∈ pa.props, p.name ∈ storedNames pa o.detailed → p.stride = 1) :
    ∃ qs, load (File.npz1 sd (arrays.map (fun pa => (pa.name, arrsOf o pa)))) = .ok (sd, qs) ∧
      List.Forall₂ (fun pa e => e.1 = pa.name ∧ V1Loaded o pa e.2) arrays qs := by
  obtain ⟨qs, hl, hqs⟩ := collect_many loadV1Arr (fun pa : PArr V => pa.name) (arrsOf o) _ arrays
    (fun pa hpa => loadV1_spec pa (hwf pa hpa) o (hs1 pa hpa)) hnd
  exact ⟨qs, by simp only [load, hl, Except.map], hqs⟩

theorem load_dump_solverData {S : Type} (fmt : Fmt) (o : Opts) (arrays : List (PArr V))
    (sd : List (String × S)) (f : File V S) (hd : dump fmt o arrays sd = some f)
    (sd' : List (String × S)) (as : List (String × PArr V)) (hl : load f = .ok (sd', as)) :
    sd' = match fmt with
      | .npz => sd
      | .hdf5 => sortByName sd := by
  -- `load` pairs what the loop over the arrays returns with the solver data it read
  have key : ∀ (sd₀ : List (String × S)) (x : Except String (List (String × PArr V))),
      x.map (sd₀, ·) = .ok (sd', as) → sd' = sd₀ := by
    intro sd₀ x h
    cases x with
    | error _ => cases h
    | ok _ => cases h; rfl
  cases fmt with
  | npz =>
    obtain ⟨aad, _, rfl⟩ := Option.map_eq_some_iff.1 hd
    exact key _ _ hl
  | hdf5 =>
    obtain ⟨aad, _, hd⟩ := Option.bind_eq_some_iff.1 hd
    obtain ⟨es, _, rfl⟩ := Option.map_eq_some_iff.1 hd
    exact key _ _ hl

end PysphVerif.DumpLoad
