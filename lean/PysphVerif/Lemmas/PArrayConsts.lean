import PysphVerif.Lemmas.PArrayFolds
/-!
Constants are only touched by the operations that are meant to touch them.
-/
namespace PysphVerif.PArray

theorem align_consts (pa : PA) : pa.align.consts = pa.consts := by
  rw [align_eq]
  split <;> rfl

theorem alignIf_consts (pa : PA) (b : Bool) : (pa.alignIf b).consts = pa.consts := by
  unfold PA.alignIf
  split
  · exact align_consts pa
  · rfl

theorem addParticles_consts {pa pa' : PA} (al : Bool) (given : List (String × List Int))
    (hr : pa.addParticles al given = some pa') : pa'.consts = pa.consts := by
  rcases addParticles_some hr with ⟨_, rfl⟩ | ⟨_, _, _, rfl⟩
  · rfl
  · exact alignIf_consts _ _

theorem extractInto_consts {pa dest pa' : PA} (idx : List Nat) (al : Bool)
    (props : Option (List String)) (hr : pa.extractInto idx dest al props = some pa') :
    pa'.consts = dest.consts := by
  rcases extractInto_some hr with ⟨_, rfl⟩ | ⟨_, _, rfl⟩
  · rfl
  · exact (alignIf_consts _ _).trans (extend_consts dest idx.length)

theorem removeParticles_consts {pa pa' : PA} (idx : List Nat) (al : Bool)
    (hr : pa.removeParticles idx al = some pa') : pa'.consts = pa.consts :=
  (removeParticles_cases pa idx al pa' hr).2 ▸ alignIf_consts _ _

theorem setTag_consts (pa : PA) (t : Int) (idx : List Nat) : (pa.setTag t idx).consts = pa.consts := by
  unfold PA.setTag
  split
  · rw [setCol_consts]
  · rfl

theorem removeProperty_consts (pa : PA) (nm : String) : (pa.removeProperty nm).consts = pa.consts := by
  unfold PA.removeProperty
  by_cases hp : pa.hasProp nm = true <;> simp [hp]

theorem appendStep_consts {src a a' : PA} (oldN : Nat) (sc : Col)
    (hr : appendStep src oldN (some a) sc = some a') : a'.consts = a.consts := by
  obtain ⟨a1, c, s, h1, _, _, rfl⟩ := appendStep_some hr
  rw [setCol_consts]
  rcases h1 with rfl | ⟨_, hadd⟩
  · rfl
  · exact (addProperty_fields hadd).2.1

theorem appendParray_consts {pa src pa' : PA} (al : Bool)
    (hr : pa.appendParray src al false = some pa') : pa'.consts = pa.consts := by
  rcases appendParray_some hr with ⟨_, rfl⟩ | ⟨a, hfold, rfl⟩
  · rfl
  · exact (alignIf_consts _ _).trans (foldl_opt_inv (appendStep src pa.n)
      (fun _ a => a.consts = pa.consts) (fun _ => rfl) src.props
      (fun pre b suf a a' _ hq hs' => (appendStep_consts pa.n b hs').trans hq)
      _ (extend_consts pa src.n) a hfold)

theorem ensureStep_consts {src a a' : PA} (nm : String)
    (hr : ensureStep src (some a) nm = some a') : a'.consts = a.consts := by
  rcases ensureStep_some hr with rfl | ⟨_, _, _, hadd⟩
  · rfl
  · exact (addProperty_fields hadd).2.1

theorem ensureProperties_consts {pa src pa' : PA} (props : Option (List String))
    (hr : pa.ensureProperties src props = some pa') : pa'.consts = pa.consts := by
  rw [ensureProperties_eq] at hr
  exact foldl_opt_inv (ensureStep src) (fun _ a => a.consts = pa.consts) (fun _ => rfl) _
    (fun pre b suf a a' _ hq hs' => (ensureStep_consts b hs').trans hq) pa rfl pa' hr

/-- the operations that are meant to write constants: `add_constant`, `set` on a
name that is not a property, `append_parray(update_constants=True)` -/
def touchesConsts (st : State) : Op → Bool
  | .addConstant _ _ _ => true
  | .setProp s name _ =>
    match st[s]? with
    | some pa => !pa.hasProp name
    | none => false
  | .append _ _ _ up => up
  | _ => false

end PysphVerif.PArray
