import PysphVerif.Lemmas.Riemann
/-!
# C15 — `exact`: hand-written normal form of the Newton iteration

`exact` after its constants and the two sound speeds is `exFrom`: vacuum test, starting guess
`exStart`, loop, `exFinish`.  Three relations between runs:

* mirror image: the loop state with the two `f` pairs exchanged (`exSwap`);
* Galilean shift: only `ur - ul` enters the loop, the two loops are the same;
* scaling of pressures and densities by `l > 0`: `p, pold` are multiplied by `l`, the derivatives
  divided by `l` (`exScale`).  The only fact about `sqrt` used is `SqrtScales` at `m = l⁻¹`; `pow` is
  only ever applied to pressure ratios and to `1 + g7 Δu / c`, which do not change.

All three hold for an arbitrary operations record `o`: `o.abs` only sees the relative change of `p` in the
convergence test, which none of them alters.
-/
set_option linter.unusedSectionVars false
namespace PysphVerif.Riemann
open PysphVerif.Gen.Riemann
open scoped PysphVerif.OrderChain

variable {K : Type} [Field K] [LinearOrder K] [IsStrictOrderedRing K]

/-- value of the pressure function of one side (`prefun_exact`, `result[0]`) -/
def pfF (o : Ops K) (p dk pk ck g1 g4 g5 g6 : K) : K :=
  if p ≤ pk then g4 * ck * (o.pow (p / pk) g1 - 1)
  else (p - pk) * o.sqrt (g5 / dk / (g6 * pk + p))

/-- derivative of the pressure function of one side (`prefun_exact`, `result[1]`) -/
def pfD (o : Ops K) (p dk pk ck g2 g5 g6 : K) : K :=
  if p ≤ pk then 1 / (dk * ck) * o.pow (p / pk) (-g2)
  else (1 - 1 / 2 * (p - pk) / (g6 * pk + p)) * o.sqrt (g5 / dk / (g6 * pk + p))

theorem prefun_exact_eq (o : Ops K) (p dk pk ck g1 g2 g4 g5 g6 r0 r1 : K) :
    prefun_exact o p dk pk ck g1 g2 g4 g5 g6 r0 r1
      = ⟨codeNone, pfF o p dk pk ck g1 g4 g5 g6, pfD o p dk pk ck g2 g5 g6⟩ := by
  simp only [prefun_exact, Nat.cast_ofNat, Nat.cast_one]
  rfl

def exNewP (fl0 fl1 fr0 fr1 pold ud : K) : K := pold - (fl0 + fr0 + ud) / (fl1 + fr1)

/-- `i` is the counter the pass started with; `break` keeps the counter `i__k` -/
theorem exact_body_eq (o : Ops K) (cl cr g1 g2 g4 g5 g6 : K) (niter : Int)
    (pl pr rhol rhor tol ud : K) (s : exact_loopSt K) :
    exact_loop_body o cl cr g1 g2 g4 g5 g6 niter pl pr rhol rhor tol ud s =
      (let fl0 := pfF o s.pold rhol pl cl g1 g4 g5 g6
       let fl1 := pfD o s.pold rhol pl cl g2 g5 g6
       let fr0 := pfF o s.pold rhor pr cr g1 g4 g5 g6
       let fr1 := pfD o s.pold rhor pr cr g2 g5 g6
       let p := exNewP fl0 fl1 fr0 fr1 s.pold ud
       if 2 * o.abs ((p - s.pold) / (p + s.pold)) ≤ tol then
         (true, ⟨fl0, fl1, fr0, fr1, s.i__k, s.i__k, p, s.pold⟩)
       else (false, ⟨fl0, fl1, fr0, fr1, s.i__k, s.i__k + 1, p, p⟩)) := by
  simp only [exact_loop_body, prefun_exact_eq, Nat.cast_ofNat]
  rfl

/-- two-rarefaction estimate of the contact velocity -/
def exUm (pq cl cr g4 ul ur : K) : K :=
  (pq * ul / cl + ur / cr + g4 * (pq - 1)) / (pq / cl + 1 / cr)

/-- two-rarefaction starting pressure -/
def exTR (o : Ops K) (cl cr g1 g3 g4 g7 pl pr ul ur : K) : K :=
  1 / 2 * (pl * o.pow (1 + g7 * (ul - exUm (o.pow (pl / pr) g1) cl cr g4 ul ur) / cl) g3 +
           pr * o.pow (1 + g7 * (exUm (o.pow (pl / pr) g1) cl cr g4 ul ur - ur) / cr) g3)

/-- two-shock starting pressure -/
def exTS (o : Ops K) (g5 g6 rhol rhor pl pr ul ur ppv : K) : K :=
  (o.sqrt (g5 / rhol / (g6 * pl + ppv)) * pl + o.sqrt (g5 / rhor / (g6 * pr + ppv)) * pr - (ur - ul)) /
    (o.sqrt (g5 / rhol / (g6 * pl + ppv)) + o.sqrt (g5 / rhor / (g6 * pr + ppv)))

/-- primitive-variable pressure estimate, floored at 0 -/
def exPpv (cl cr rhol rhor pl pr ul ur : K) : K :=
  max 0 (1 / 2 * (pl + pr) + 1 / 2 * (ul - ur) * (1 / 4 * (rhol + rhor) * (cl + cr)))

def exStart (o : Ops K) (cl cr g1 g3 g4 g5 g6 g7 rhol rhor pl pr ul ur : K) : K :=
  if max pl pr / min pl pr ≤ 2 ∧ min pl pr ≤ exPpv cl cr rhol rhor pl pr ul ur ∧
      exPpv cl cr rhol rhor pl pr ul ur ≤ max pl pr then
    exPpv cl cr rhol rhor pl pr ul ur
  else if exPpv cl cr rhol rhor pl pr ul ur < min pl pr then
    exTR o cl cr g1 g3 g4 g7 pl pr ul ur
  else exTS o g5 g6 rhol rhor pl pr ul ur (exPpv cl cr rhol rhor pl pr ul ur)

def exFinish (ul ur : K) (niter : Int) (r0 r1 : K) (S : exact_loopSt K) : Res K :=
  if S.i = niter - 1 then ⟨1, r0, r1⟩
  else ⟨0, S.p, 1 / 2 * (ul + ur + S.fr_0 - S.fl_0)⟩

def exFrom (o : Ops K) (cl cr g1 g2 g3 g4 g5 g6 g7 rhol rhor pl pr ul ur : K) (niter : Int)
    (tol r0 r1 : K) : Res K :=
  if g4 * (cl + cr) ≤ ur - ul then ⟨1, r0, r1⟩
  else
    exFinish ul ur niter r0 r1
      (exact_loop o cl cr g1 g2 g4 g5 g6 niter pl pr rhol rhor tol (ur - ul) niter.toNat
        ⟨0, 0, 0, 0, 0, 0, 0, exStart o cl cr g1 g3 g4 g5 g6 g7 rhol rhor pl pr ul ur⟩)

/-- `g1 … g7` of `exFrom` are the constants `gamma1 … gamma7` of the source -/
theorem exact_eq (o : Ops K) (rhol rhor pl pr ul ur gamma : K) (niter : Int) (tol r0 r1 : K) :
    exact o rhol rhor pl pr ul ur gamma niter tol r0 r1 =
      exFrom o (o.sqrt (gamma * pl / rhol)) (o.sqrt (gamma * pr / rhor))
        ((gamma - 1) * (1 / (2 * gamma))) ((gamma + 1) * (1 / (2 * gamma)))
        (2 * gamma * (1 / (gamma - 1))) (2 * (1 / (gamma - 1))) (2 * (1 / (gamma + 1)))
        (1 / (gamma + 1) / (1 / (gamma - 1))) (1 / 2 * (gamma - 1))
        rhol rhor pl pr ul ur niter tol r0 r1 := by
  unfold exact exFrom exFinish exStart exPpv exTR exTS exUm
  simp only [Nat.cast_ofNat, Nat.cast_one, Nat.cast_zero, pymax_eq_max, pymin_eq_min]

theorem exFinish_rel {φ ψ : K → K} {ul ur ul' ur' : K} {S S' : exact_loopSt K} (niter : Int) (r0 r1 : K)
    (hi : S'.i = S.i) (hp : S'.p = φ S.p)
    (hu : 1 / 2 * (ul' + ur' + S'.fr_0 - S'.fl_0) = ψ (1 / 2 * (ul + ur + S.fr_0 - S.fl_0))) :
    Res.Rel φ ψ (exFinish ul' ur' niter r0 r1 S') (exFinish ul ur niter r0 r1 S) := by
  unfold exFinish
  rw [hi]
  split
  · exact .fail (by decide) ..
  · exact .of_eq (by rw [hp, hu])

def exSwap (s : exact_loopSt K) : exact_loopSt K :=
  ⟨s.fr_0, s.fr_1, s.fl_0, s.fl_1, s.i, s.i__k, s.p, s.pold⟩

theorem exNewP_swap (fl0 fl1 fr0 fr1 pold ud : K) :
    exNewP fr0 fr1 fl0 fl1 pold ud = exNewP fl0 fl1 fr0 fr1 pold ud := by
  unfold exNewP; rw [add_comm fr0 fl0, add_comm fr1 fl1]

theorem exUm_mirror (pq cl cr g4 ul ur : K) (hpq : pq ≠ 0) :
    exUm pq⁻¹ cr cl g4 (-ur) (-ul) = -exUm pq cl cr g4 ul ur := by
  unfold exUm
  have hi : pq * pq⁻¹ = 1 := mul_inv_cancel₀ hpq
  have e1 : pq * (pq⁻¹ * -ur / cr + -ul / cl + g4 * (pq⁻¹ - 1))
      = -(pq * ul / cl + ur / cr + g4 * (pq - 1)) := by
    linear_combination (-ur / cr + g4) * hi
  have e2 : pq * (pq⁻¹ / cr + 1 / cl) = pq / cl + 1 / cr := by
    linear_combination (1 / cr) * hi
  rw [← mul_div_mul_left _ _ hpq, e1, e2, neg_div]

theorem exTR_mirror (o : Ops K) (cl cr g1 g3 g4 g7 pl pr ul ur : K)
    (hinv : o.pow (pr / pl) g1 = (o.pow (pl / pr) g1)⁻¹) (hne : o.pow (pl / pr) g1 ≠ 0) :
    exTR o cr cl g1 g3 g4 g7 pr pl (-ur) (-ul) = exTR o cl cr g1 g3 g4 g7 pl pr ul ur := by
  unfold exTR
  rw [hinv, exUm_mirror _ _ _ _ _ _ hne]
  generalize exUm (o.pow (pl / pr) g1) cl cr g4 ul ur = um
  rw [neg_sub_neg, neg_sub_neg, add_comm]

theorem exTS_mirror (o : Ops K) (g5 g6 rhol rhor pl pr ul ur ppv : K) :
    exTS o g5 g6 rhor rhol pr pl (-ur) (-ul) ppv = exTS o g5 g6 rhol rhor pl pr ul ur ppv := by
  unfold exTS
  rw [neg_sub_neg, add_comm (o.sqrt (g5 / rhor / (g6 * pr + ppv)) * pr),
    add_comm (o.sqrt (g5 / rhor / (g6 * pr + ppv)))]

theorem exPpv_mirror (cl cr rhol rhor pl pr ul ur : K) :
    exPpv cr cl rhor rhol pr pl (-ur) (-ul) = exPpv cl cr rhol rhor pl pr ul ur := by
  unfold exPpv
  congr 1
  ring

theorem exFrom_mirror (o : Ops K) (cl cr g1 g2 g3 g4 g5 g6 g7 rhol rhor pl pr ul ur : K) (niter : Int)
    (tol r0 r1 : K) (hinv : o.pow (pr / pl) g1 = (o.pow (pl / pr) g1)⁻¹) (hne : o.pow (pl / pr) g1 ≠ 0) :
    Res.Rel id Neg.neg (exFrom o cr cl g1 g2 g3 g4 g5 g6 g7 rhor rhol pr pl (-ur) (-ul) niter tol r0 r1)
      (exFrom o cl cr g1 g2 g3 g4 g5 g6 g7 rhol rhor pl pr ul ur niter tol r0 r1) := by
  have hS : exStart o cr cl g1 g3 g4 g5 g6 g7 rhor rhol pr pl (-ur) (-ul)
      = exStart o cl cr g1 g3 g4 g5 g6 g7 rhol rhor pl pr ul ur := by
    unfold exStart
    rw [exPpv_mirror, exTS_mirror, exTR_mirror o _ _ _ _ _ _ _ _ _ _ hinv hne, max_comm pr pl, min_comm pr pl]
  unfold exFrom
  rw [hS, neg_sub_neg, add_comm cr cl]
  split
  · exact .fail (by decide) ..
  · rw [exact_loop_eq, exact_loop_eq]
    refine .loop exSwap (fun _ => Iff.rfl) (fun s => ?_) (fun S => ?_) _ rfl
    · -- one pass: the Newton update is symmetric in the two sides (the pattern fixes which way
      -- `exNewP_swap` is used)
      rw [exact_body_eq, exact_body_eq]
      simp only [exSwap, exNewP_swap (pfF _ _ rhol _ _ _ _ _ _)]
      split <;> rfl
    · exact exFinish_rel niter r0 r1 rfl rfl (by simp only [exSwap]; ring)

theorem exUm_shift (pq cl cr g4 ul ur c : K) (hD : pq / cl + 1 / cr ≠ 0) :
    exUm pq cl cr g4 (ul + c) (ur + c) = exUm pq cl cr g4 ul ur + c := by
  unfold exUm
  rw [div_add' _ _ _ hD]
  congr 1
  ring

theorem exTR_shift (o : Ops K) (cl cr g1 g3 g4 g7 pl pr ul ur c : K)
    (hD : o.pow (pl / pr) g1 / cl + 1 / cr ≠ 0) :
    exTR o cl cr g1 g3 g4 g7 pl pr (ul + c) (ur + c) = exTR o cl cr g1 g3 g4 g7 pl pr ul ur := by
  unfold exTR
  rw [exUm_shift _ _ _ _ _ _ _ hD]
  generalize exUm (o.pow (pl / pr) g1) cl cr g4 ul ur = um
  rw [add_sub_add_right_eq_sub, add_sub_add_right_eq_sub]

theorem exFrom_shift (o : Ops K) (cl cr g1 g2 g3 g4 g5 g6 g7 rhol rhor pl pr ul ur c : K)
    (niter : Int) (tol r0 r1 : K) (hD : o.pow (pl / pr) g1 / cl + 1 / cr ≠ 0) :
    Res.Rel id (· + c)
      (exFrom o cl cr g1 g2 g3 g4 g5 g6 g7 rhol rhor pl pr (ul + c) (ur + c) niter tol r0 r1)
      (exFrom o cl cr g1 g2 g3 g4 g5 g6 g7 rhol rhor pl pr ul ur niter tol r0 r1) := by
  have e : ur + c - (ul + c) = ur - ul := add_sub_add_right_eq_sub ..
  have hS : exStart o cl cr g1 g3 g4 g5 g6 g7 rhol rhor pl pr (ul + c) (ur + c)
      = exStart o cl cr g1 g3 g4 g5 g6 g7 rhol rhor pl pr ul ur := by
    have e1 : exPpv cl cr rhol rhor pl pr (ul + c) (ur + c) = exPpv cl cr rhol rhor pl pr ul ur := by
      unfold exPpv; congr 1; ring
    have e2 (ppv : K) : exTS o g5 g6 rhol rhor pl pr (ul + c) (ur + c) ppv
        = exTS o g5 g6 rhol rhor pl pr ul ur ppv := by
      unfold exTS; rw [e]
    unfold exStart
    rw [e1, e2, exTR_shift o _ _ _ _ _ _ _ _ _ _ _ hD]
  unfold exFrom
  rw [e, hS]
  split
  · exact .fail (by decide) ..
  · exact exFinish_rel niter r0 r1 rfl rfl (by ring)

section exact
variable (o : Ops K) (hs : SqrtScales o.sqrt) {l : K} (hl : 0 < l)
include hs hl

theorem sqrt_shock_scale (g5 d g6 pk p : K) :
    o.sqrt (g5 / (l * d) / (g6 * (l * pk) + l * p)) = l⁻¹ * o.sqrt (g5 / d / (g6 * pk + p)) := by
  have e : g5 / (l * d) / (g6 * (l * pk) + l * p) = l⁻¹ * l⁻¹ * (g5 / d / (g6 * pk + p)) := by
    have : g6 * (l * pk) + l * p = l * (g6 * pk + p) := by ring
    rw [this]
    generalize g6 * pk + p = X
    ring
  rw [e]
  exact hs _ _ (inv_pos.mpr hl)

theorem pfF_scale (p dk pk ck g1 g4 g5 g6 : K) :
    pfF o (l * p) (l * dk) (l * pk) ck g1 g4 g5 g6 = pfF o p dk pk ck g1 g4 g5 g6 := by
  unfold pfF
  simp only [mul_le_mul_iff_right₀ hl, mul_div_mul_left _ _ hl.ne']
  -- shock branch: `(l p - l pk) (l⁻¹ q) = (p - pk) q`
  rw [sqrt_shock_scale o hs hl, ← mul_sub, mul_mul_mul_comm, mul_inv_cancel₀ hl.ne', one_mul]

theorem pfD_scale (p dk pk ck g2 g5 g6 : K) :
    pfD o (l * p) (l * dk) (l * pk) ck g2 g5 g6 = l⁻¹ * pfD o p dk pk ck g2 g5 g6 := by
  unfold pfD
  simp only [mul_le_mul_iff_right₀ hl, mul_div_mul_left _ _ hl.ne']
  -- shock branch: `l` cancels in `(l p - l pk) / (g6 (l pk) + l p)`
  rw [sqrt_shock_scale o hs hl, ← mul_sub, show g6 * (l * pk) + l * p = l * (g6 * pk + p) by ring,
    mul_left_comm (1 / 2) l, mul_div_mul_left _ _ hl.ne']
  split
  · ring
  · ring

omit hs hl in
theorem exNewP_scale (fl0 fl1 fr0 fr1 pold ud : K) :
    exNewP fl0 (l⁻¹ * fl1) fr0 (l⁻¹ * fr1) (l * pold) ud = l * exNewP fl0 fl1 fr0 fr1 pold ud := by
  unfold exNewP
  rw [← mul_add, div_inv_mul, mul_sub]

def exScale (l : K) (s : exact_loopSt K) : exact_loopSt K :=
  ⟨s.fl_0, l⁻¹ * s.fl_1, s.fr_0, l⁻¹ * s.fr_1, s.i, s.i__k, l * s.p, l * s.pold⟩

omit hs in
theorem exPpv_scale (cl cr rhol rhor pl pr ul ur : K) :
    exPpv cl cr (l * rhol) (l * rhor) (l * pl) (l * pr) ul ur = l * exPpv cl cr rhol rhor pl pr ul ur := by
  unfold exPpv
  rw [mul_max_of_nonneg _ _ hl.le, mul_zero]
  congr 1
  ring

omit hs in
theorem exTR_scale (cl cr g1 g3 g4 g7 pl pr ul ur : K) :
    exTR o cl cr g1 g3 g4 g7 (l * pl) (l * pr) ul ur = l * exTR o cl cr g1 g3 g4 g7 pl pr ul ur := by
  unfold exTR
  rw [mul_div_mul_left _ _ hl.ne']
  ring

theorem exTS_scale (g5 g6 rhol rhor pl pr ul ur ppv : K) :
    exTS o g5 g6 (l * rhol) (l * rhor) (l * pl) (l * pr) ul ur (l * ppv)
      = l * exTS o g5 g6 rhol rhor pl pr ul ur ppv := by
  unfold exTS
  rw [sqrt_shock_scale o hs hl, sqrt_shock_scale o hs hl]
  generalize o.sqrt (g5 / rhol / (g6 * pl + ppv)) = a
  generalize o.sqrt (g5 / rhor / (g6 * pr + ppv)) = b
  have hi : l⁻¹ * l = 1 := inv_mul_cancel₀ hl.ne'
  have e1 : l⁻¹ * a * (l * pl) + l⁻¹ * b * (l * pr) - (ur - ul) = a * pl + b * pr - (ur - ul) := by
    linear_combination (a * pl + b * pr) * hi
  rw [e1, ← mul_add, div_inv_mul]

/-- the sound speeds do not change under the scaling -/
theorem exFrom_scale (cl cr g1 g2 g3 g4 g5 g6 g7 rhol rhor pl pr ul ur : K) (niter : Int)
    (tol r0 r1 : K) :
    Res.Rel (l * ·) id
      (exFrom o cl cr g1 g2 g3 g4 g5 g6 g7 (l * rhol) (l * rhor) (l * pl) (l * pr) ul ur niter tol r0 r1)
      (exFrom o cl cr g1 g2 g3 g4 g5 g6 g7 rhol rhor pl pr ul ur niter tol r0 r1) := by
  -- the three candidates of the starting guess are multiplied by `l`, and so are the bounds they are compared with
  have hS : exStart o cl cr g1 g3 g4 g5 g6 g7 (l * rhol) (l * rhor) (l * pl) (l * pr) ul ur
      = l * exStart o cl cr g1 g3 g4 g5 g6 g7 rhol rhor pl pr ul ur := by
    unfold exStart
    simp only [exPpv_scale hl, ← mul_max_of_nonneg _ _ hl.le, ← mul_min_of_nonneg _ _ hl.le, exTR_scale o hl,
      exTS_scale o hs hl, mul_div_mul_left _ _ hl.ne', mul_le_mul_iff_right₀ hl, mul_lt_mul_iff_right₀ hl]
    split
    · rfl
    · split <;> rfl
  unfold exFrom
  rw [hS]
  split
  · exact .fail (by decide) ..
  · rw [exact_loop_eq, exact_loop_eq]
    refine .loop (exScale l) (fun _ => Iff.rfl) (fun s => ?_) (fun S => ?_) _ ?_
    · -- one pass: values of the pressure function stay, derivatives are divided by `l`, and the
      -- convergence test is a relative change
      have hcv (a b : K) : (l * a - l * b) / (l * a + l * b) = (a - b) / (a + b) := by
        rw [← mul_sub, ← mul_add, mul_div_mul_left _ _ hl.ne']
      rw [exact_body_eq, exact_body_eq]
      simp only [exScale, pfF_scale o hs hl, pfD_scale o hs hl, exNewP_scale, hcv]
      split <;> rfl
    · exact exFinish_rel niter r0 r1 rfl rfl rfl
    · simp only [exScale, mul_zero]

end exact

theorem pfF_equal (o : Ops K) (p dk ck g1 g4 g5 g6 : K) (hp : p ≠ 0) (h1 : o.pow 1 g1 = 1) :
    pfF o p dk p ck g1 g4 g5 g6 = 0 := by
  unfold pfF
  rw [if_pos (le_refl p), div_self hp, h1, sub_self, mul_zero]

theorem exStart_equal (o : Ops K) (c g1 g3 g4 g5 g6 g7 rho p u : K) (hp : 0 < p) :
    exStart o c c g1 g3 g4 g5 g6 g7 rho rho p p u u = p := by
  have hppv : exPpv c c rho rho p p u u = p := by
    unfold exPpv
    rw [show 1 / 2 * (p + p) + 1 / 2 * (u - u) * (1 / 4 * (rho + rho) * (c + c)) = p by ring,
      max_eq_right hp.le]
  unfold exStart
  simp only [hppv, max_self, min_self]
  rw [if_pos ⟨by rw [div_self hp.ne']; norm_num, le_refl p, le_refl p⟩]

/-- `niter ≥ 2` because `exact` reports failure when the pass that converged is the last one allowed -/
theorem exFrom_equal (sqrt : K → K) (pow : K → K → K) (c g1 g2 g3 g4 g5 g6 g7 rho p u : K)
    (niter : Int) (tol r0 r1 : K) (hc : 0 < c) (hg4 : 0 < g4) (hp : 0 < p) (h1 : pow 1 g1 = 1)
    (htol : 0 ≤ tol) (hn : 2 ≤ niter) :
    exFrom (fieldOps sqrt pow) c c g1 g2 g3 g4 g5 g6 g7 rho rho p p u u niter tol r0 r1 = ⟨0, p, u⟩ := by
  unfold exFrom
  have hv : ¬ (g4 * (c + c) ≤ u - u) := by
    rw [sub_self, not_le]; positivity
  have hk : 0 < niter.toNat := by omega
  have hcond : exact_loop_cond niter (⟨0, 0, 0, 0, 0, 0, 0, p⟩ : exact_loopSt K) :=
    show (0 : Int) < niter by omega
  -- the pressure function vanishes at `p`, so the Newton update is `p` and the relative change `0`
  have hb : exact_loop_body (fieldOps sqrt pow) c c g1 g2 g4 g5 g6 niter p p rho rho tol (u - u)
      ⟨0, 0, 0, 0, 0, 0, 0, p⟩ = (true, ⟨0, pfD (fieldOps sqrt pow) p rho p c g2 g5 g6, 0,
        pfD (fieldOps sqrt pow) p rho p c g2 g5 g6, 0, 0, p, p⟩) := by
    rw [exact_body_eq]
    simp only [pfF_equal (fieldOps sqrt pow) p rho c g1 g4 g5 g6 hp.ne' h1, exNewP, add_zero, sub_self, zero_div,
      sub_zero, fieldOps_abs, abs_zero, mul_zero, htol, if_true]
  rw [if_neg hv, exStart_equal _ _ _ _ _ _ _ _ _ _ _ hp, exact_loop_eq, fuelLoop_break hk hcond, hb]
  · rw [exFinish, if_neg (show ¬ ((0 : Int) = niter - 1) by omega)]
    exact congrArg (Res.mk _ _) (by ring)
  · rw [hb]

end PysphVerif.Riemann
