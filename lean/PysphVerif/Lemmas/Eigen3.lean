import Mathlib.Algebra.Order.Field.Basic
import Mathlib.Data.Matrix.Mul
import Mathlib.Data.Matrix.Diagonal
import Mathlib.LinearAlgebra.Matrix.Notation
import Mathlib.LinearAlgebra.Matrix.SemiringInverse
import Mathlib.Tactic.Ring
import Mathlib.Tactic.FieldSimp
import Mathlib.Tactic.Linarith
import Mathlib.Tactic.LinearCombination
import Mathlib.Tactic.FinCases
import Mathlib.Logic.Equiv.Basic
import PysphVerif.Lemmas.FoldSelect
import PysphVerif.Lemmas.FoldSum
import PysphVerif.Model.Eigen3
/-!
The eigen-decomposition half of C13 (`Model/Eigen3.lean`), bottom module: the model's records as
Mathlib's `Matrix (Fin 3) (Fin 3)` and `Fin 3 → K`, the predicates the statements are written in
(`Orthonormal`, `IsEigDecomp`, `SqrtOK`), orthogonal similarities composed and read backwards
(`orth_mul`, `conj_mul`, `conj_inv`: what `tred2` and `tql2`, side by side above this module, have
in common), and what lies around the two: the fast paths (the zero matrix in `eigen_decomposition`,
the diagonal one in `get_eigenvalvec`), the scaling pre-pass of `eigen_decomposition`, the sort
that ends `tql2` (`sortEig_spec`).
-/
set_option linter.unusedSectionVars false
namespace PysphVerif.Eigen3
open Matrix

variable {K : Type} [Field K] [LinearOrder K] [IsStrictOrderedRing K]

def Mat.toM {α : Type} (V : Mat α) : Matrix (Fin 3) (Fin 3) α := Matrix.of fun i j => V i.val j.val
def Vec.toF {α : Type} (d : Vec α) : Fin 3 → α := fun i => d i.val

def Orthonormal (V : Mat K) : Prop := V.toMᵀ * V.toM = 1
def IsEigDecomp (A V : Mat K) (d : Vec K) : Prop :=
  A.toM * V.toM = V.toM * Matrix.diagonal d.toF
def Mat.Symm (A : Mat K) : Prop := A 0 1 = A 1 0 ∧ A 0 2 = A 2 0 ∧ A 1 2 = A 2 1

/-- the properties of `sqrt` the theorems use (satisfied by `Real.sqrt`) -/
structure SqrtOK (sqrt : K → K) : Prop where
  nonneg : ∀ x, 0 ≤ sqrt x
  sq : ∀ x, 0 ≤ x → sqrt x * sqrt x = x

theorem Mat.ext9 {α : Type} {V W : Mat α} (h00 : V.a00 = W.a00) (h01 : V.a01 = W.a01)
    (h02 : V.a02 = W.a02) (h10 : V.a10 = W.a10) (h11 : V.a11 = W.a11) (h12 : V.a12 = W.a12)
    (h20 : V.a20 = W.a20) (h21 : V.a21 = W.a21) (h22 : V.a22 = W.a22) : V = W := by
  cases V; cases W; simp_all

theorem Vec.ext3 {α : Type} {d e : Vec α} (h0 : d.x0 = e.x0) (h1 : d.x1 = e.x1)
    (h2 : d.x2 = e.x2) : d = e := by
  cases d; cases e; simp_all

@[simp] theorem Mat.get00 {α : Type} (V : Mat α) : V 0 0 = V.a00 := rfl
@[simp] theorem Mat.get01 {α : Type} (V : Mat α) : V 0 1 = V.a01 := rfl
@[simp] theorem Mat.get02 {α : Type} (V : Mat α) : V 0 2 = V.a02 := rfl
@[simp] theorem Mat.get10 {α : Type} (V : Mat α) : V 1 0 = V.a10 := rfl
@[simp] theorem Mat.get11 {α : Type} (V : Mat α) : V 1 1 = V.a11 := rfl
@[simp] theorem Mat.get12 {α : Type} (V : Mat α) : V 1 2 = V.a12 := rfl
@[simp] theorem Mat.get20 {α : Type} (V : Mat α) : V 2 0 = V.a20 := rfl
@[simp] theorem Mat.get21 {α : Type} (V : Mat α) : V 2 1 = V.a21 := rfl
@[simp] theorem Mat.get22 {α : Type} (V : Mat α) : V 2 2 = V.a22 := rfl
@[simp] theorem Vec.get0 {α : Type} (d : Vec α) : d 0 = d.x0 := rfl
@[simp] theorem Vec.get1 {α : Type} (d : Vec α) : d 1 = d.x1 := rfl
@[simp] theorem Vec.get2 {α : Type} (d : Vec α) : d 2 = d.x2 := rfl

theorem Vec.get_setV {α : Type} (d : Vec α) {l i : Nat} (hi : i < 3) (v : α) :
    (setV d l v) i = if i = l then v else d i := by
  have hi' : i = 0 ∨ i = 1 ∨ i = 2 := by omega
  rcases l with _ | _ | _ | l <;> rcases hi' with rfl | rfl | rfl <;> rfl

@[simp] theorem Mat.toM_apply {α : Type} (V : Mat α) (i j : Fin 3) : V.toM i j = V i.val j.val := rfl

theorem mat3_ext {M N : Matrix (Fin 3) (Fin 3) K}
    (h : ∀ i j : Fin 3, M i j = N i j) : M = N :=
  Matrix.ext h

/-! ### written-out 3×3 matrices

Identities between concrete 3×3 matrices are proved by writing both sides out
(`Matrix.mul_fin_three`, `transpose_fin_three`, `Mat.toM_eq`, …) and comparing the nine
entries with `mat3_congr`: no case split over `Fin 3`, one ring identity per entry. -/

theorem mat3_congr {α : Type} {a b c d e f g h i a' b' c' d' e' f' g' h' i' : α}
    (h1 : a = a') (h2 : b = b') (h3 : c = c') (h4 : d = d') (h5 : e = e') (h6 : f = f')
    (h7 : g = g') (h8 : h = h') (h9 : i = i') :
    !![a, b, c; d, e, f; g, h, i] = !![a', b', c'; d', e', f'; g', h', i'] := by
  rw [h1, h2, h3, h4, h5, h6, h7, h8, h9]

theorem transpose_fin_three {α : Type} (a b c d e f g h i : α) :
    (!![a, b, c; d, e, f; g, h, i])ᵀ = !![a, d, g; b, e, h; c, f, i] :=
  eta_fin_three _

theorem Mat.toM_eq {α : Type} (V : Mat α) :
    V.toM = !![V.a00, V.a01, V.a02; V.a10, V.a11, V.a12; V.a20, V.a21, V.a22] :=
  eta_fin_three _

theorem forall_fin3 {P : Fin 3 → Prop} (h0 : P 0) (h1 : P 1) (h2 : P 2) (j : Fin 3) : P j := by
  fin_cases j <;> assumption

theorem orth_mul {G H : Matrix (Fin 3) (Fin 3) K} (hG : Gᵀ * G = 1) (hH : Hᵀ * H = 1) :
    (G * H)ᵀ * (G * H) = 1 := by
  rw [Matrix.transpose_mul, Matrix.mul_assoc, ← Matrix.mul_assoc Gᵀ, hG, Matrix.one_mul, hH]

theorem conj_mul {G H T B C : Matrix (Fin 3) (Fin 3) K} (ha : Gᵀ * T * G = B)
    (hb : Hᵀ * B * H = C) : (G * H)ᵀ * T * (G * H) = C := by
  rw [← hb, ← ha, Matrix.transpose_mul]
  simp only [Matrix.mul_assoc]

theorem conj_inv {G S S' : Matrix (Fin 3) (Fin 3) K} (hG : Gᵀ * G = 1) (h : Gᵀ * S * G = S') :
    G * S' * Gᵀ = S := by
  have hG' := mul_eq_one_comm.mp hG
  rw [← h, ← Matrix.mul_assoc, ← Matrix.mul_assoc, hG', Matrix.one_mul, Matrix.mul_assoc, hG',
    Matrix.mul_one]

theorem idMat_toM : (idMat : Mat K).toM = 1 := by
  rw [Mat.toM_eq, one_fin_three]; rfl

theorem orthonormal_idMat : Orthonormal (idMat : Mat K) := by
  unfold Orthonormal; rw [idMat_toM]; simp

theorem isEigDecomp_diag (A : Mat K) (h01 : A 0 1 = 0) (h02 : A 0 2 = 0) (h12 : A 1 2 = 0)
    (h10 : A 1 0 = 0) (h20 : A 2 0 = 0) (h21 : A 2 1 = 0) :
    IsEigDecomp A idMat (Vec.ofFn fun i => A i i) := by
  unfold IsEigDecomp
  rw [idMat_toM, Matrix.mul_one, Matrix.one_mul, Mat.toM_eq, diagonal_fin_three]
  exact mat3_congr rfl h01 h02 h10 rfl h12 h20 h21 rfl

/-- the scale `s` of `eigen_decomposition` -/
def absSum (A : Mat K) : K := (Mat.toList A).foldl (absSumBody fun x => |x|) 0

theorem absSum_eq (A : Mat K) : absSum A =
    |A.a00| + |A.a01| + |A.a02| + |A.a10| + |A.a11| + |A.a12| + |A.a20| + |A.a21| + |A.a22| := by
  simp [absSum, Mat.toList, absSumBody]

theorem absSum_eq_sum (A : Mat K) : absSum A = (A.toList.map fun x => |x|).sum :=
  (foldl_additive id _ _ (fun _ _ => rfl) _ _).trans (zero_add _)

theorem absSum_nonneg (A : Mat K) : 0 ≤ absSum A := by
  rw [absSum_eq_sum]
  exact List.sum_nonneg (List.forall_mem_map.mpr fun x _ => abs_nonneg x)

theorem absSum_eq_zero_iff (A : Mat K) : absSum A = 0 ↔
    A = ⟨0, 0, 0, 0, 0, 0, 0, 0, 0⟩ := by
  constructor
  · intro h
    rw [absSum_eq_sum] at h
    have h : ∀ a ∈ A.toList, a = 0 := fun a ha => abs_eq_zero.mp
      (List.all_zero_of_le_zero_le_of_sum_eq_zero (List.forall_mem_map.mpr fun x _ => abs_nonneg x) h
        (List.mem_map_of_mem ha))
    simp only [Mat.toList, List.forall_mem_cons] at h
    obtain ⟨h0, h1, h2, h3, h4, h5, h6, h7, h8, -⟩ := h
    exact Mat.ext9 h0 h1 h2 h3 h4 h5 h6 h7 h8
  · intro h; rw [h, absSum_eq]; simp

theorem isEigDecomp_zero : IsEigDecomp (⟨0, 0, 0, 0, 0, 0, 0, 0, 0⟩ : Mat K) idMat
    (Vec.ofFn fun _ => 0) :=
  isEigDecomp_diag _ rfl rfl rfl rfl rfl rfl

theorem eigenDecomposition_eq (sqrt : K → K) (hyp : K → K → K) (eps : K) (fuel : Nat) (A : Mat K) :
    eigenDecomposition abs sqrt hyp eps fuel A =
      if absSum A = 0 then .ok zeroMatrixCase
      else match tql2 abs hyp eps fuel (tred2 abs sqrt
          { V := scaleMat A (absSum A), d := Vec.ofFn (fun _ => 0), e := Vec.ofFn (fun _ => 0),
            log := [401] }) with
        | .error err => .error err
        | .ok t => .ok { V := t.V,
                         d := ⟨t.d.x0 * absSum A, t.d.x1 * absSum A, t.d.x2 * absSum A⟩,
                         log := t.log, drops := t.drops } := by
  unfold eigenDecomposition
  have hs : (Mat.toList A).foldl (absSumBody abs) 0 = absSum A := rfl
  simp only [hs, beq_iff_eq]
  split
  · rfl
  · cases tql2 abs hyp eps fuel _ with
    | error e => rfl
    | ok t =>
      simp only [List.range, List.range.loop, List.foldl, unscaleBody, setV, Vec.get]

/-- `c·A`, for `eig_scaling` of `Props/C13.lean`: the pre-pass divides the factor out again
(`absSum_smul`, `scaleMat_smul`) -/
def Mat.smul {α : Type} [Mul α] (c : α) (A : Mat α) : Mat α := Mat.ofFn fun i j => c * A i j
def Vec.smul {α : Type} [Mul α] (c : α) (d : Vec α) : Vec α := Vec.ofFn fun i => c * d i

theorem absSum_smul (c : K) (A : Mat K) : absSum (Mat.smul c A) = |c| * absSum A := by
  rw [absSum_eq, absSum_eq]
  simp only [Mat.smul, Mat.ofFn, Mat.get, abs_mul]
  ring

theorem scaleMat_smul (c : K) (hc : c ≠ 0) (A : Mat K) (s : K) :
    scaleMat (Mat.smul c A) (c * s) = scaleMat A s := by
  apply Mat.ext9 <;> exact mul_div_mul_left _ _ hc

/-- what the sort does: the eigenvalues and the columns of `V` permuted alike, so that every claim
about `(V, d)` but the order carries over (`Permuted.orthonormal`, `Permuted.isEigDecomp`) -/
def Permuted (σ : Equiv.Perm (Fin 3)) (V : Mat K) (d : Vec K) (V' : Mat K) (d' : Vec K) : Prop :=
  (∀ j, d'.toF j = d.toF (σ j)) ∧ ∀ i j, V'.toM i j = V.toM i (σ j)

theorem Permuted.refl (V : Mat K) (d : Vec K) : Permuted (Equiv.refl _) V d V d :=
  ⟨fun _ => rfl, fun _ _ => rfl⟩

theorem Permuted.trans {σ τ : Equiv.Perm (Fin 3)} {V V' V'' : Mat K} {d d' d'' : Vec K}
    (h1 : Permuted σ V d V' d') (h2 : Permuted τ V' d' V'' d'') :
    Permuted (τ.trans σ) V d V'' d'' :=
  ⟨fun j => by rw [h2.1, h1.1]; rfl, fun i j => by rw [h2.2, h1.2]; rfl⟩

theorem Permuted.submatrix {σ : Equiv.Perm (Fin 3)} {V V' : Mat K} {d d' : Vec K}
    (h : Permuted σ V d V' d') : d'.toF = d.toF ∘ σ ∧ V'.toM = V.toM.submatrix id σ :=
  ⟨funext h.1, Matrix.ext h.2⟩

theorem Permuted.orthonormal {σ : Equiv.Perm (Fin 3)} {V V' : Mat K} {d d' : Vec K}
    (h : Permuted σ V d V' d') (ho : Orthonormal V) : Orthonormal V' := by
  unfold Orthonormal at ho ⊢
  rw [h.submatrix.2, Matrix.transpose_submatrix,
    ← Matrix.submatrix_mul _ _ _ _ _ Function.bijective_id, ho, Matrix.submatrix_one_equiv]

theorem Permuted.isEigDecomp {σ : Equiv.Perm (Fin 3)} {A V V' : Mat K} {d d' : Vec K}
    (h : Permuted σ V d V' d') (hd : IsEigDecomp A V d) : IsEigDecomp A V' d' := by
  unfold IsEigDecomp at hd ⊢
  rw [h.submatrix.1, h.submatrix.2, ← Matrix.submatrix_diagonal_equiv, Matrix.submatrix_mul_equiv,
    ← hd, ← Matrix.submatrix_id_id A.toM, ← Matrix.submatrix_mul _ _ _ _ _ Function.bijective_id,
    Matrix.submatrix_id_id]

theorem recon_permuted {σ : Equiv.Perm (Fin 3)} {V V' : Mat K} {d d' : Vec K}
    (h : Permuted σ V d V' d') :
    V'.toM * Matrix.diagonal d'.toF * V'.toMᵀ = V.toM * Matrix.diagonal d.toF * V.toMᵀ := by
  rw [h.submatrix.1, h.submatrix.2, ← Matrix.submatrix_diagonal_equiv, Matrix.transpose_submatrix,
    Matrix.submatrix_mul_equiv, Matrix.submatrix_mul_equiv, Matrix.submatrix_id_id]

theorem sortInner_foldl (d : Vec K) (l : List Nat) (kp : Nat × K) (h : kp.2 = d kp.1) :
    (l.foldl (sortInner d) kp).2 = d (l.foldl (sortInner d) kp).1 ∧
    ((l.foldl (sortInner d) kp).1 = kp.1 ∨ (l.foldl (sortInner d) kp).1 ∈ l) ∧
    (l.foldl (sortInner d) kp).2 ≤ kp.2 ∧ ∀ j ∈ l, (l.foldl (sortInner d) kp).2 ≤ d j := by
  obtain ⟨hm, h0, hd⟩ := foldl_select (step := sortInner d) (key := fun j => (j, d j))
    (R := fun p q : Nat × K => p.2 ≤ q.2) (fun _ => le_rfl) le_trans (fun kp j => by
      unfold sortInner
      split
      · exact ⟨Or.inr rfl, le_of_lt ‹_›, le_rfl⟩
      · exact ⟨Or.inl rfl, le_rfl, not_lt.mp ‹_›⟩) l kp
  refine ⟨?_, hm.imp (congrArg Prod.fst) fun ⟨j, hj, e⟩ => e ▸ hj, h0, hd⟩
  rcases hm with e | ⟨j, -, e⟩ <;> rw [e]
  exact h

theorem permuted_ofFn (σ : Equiv.Perm (Fin 3)) (V : Mat K) (d : Vec K) :
    Permuted σ V d (Mat.ofFn fun a b => V a (σ (Fin.ofNat 3 b)).val)
      (Vec.ofFn fun j => d (σ (Fin.ofNat 3 j)).val) :=
  ⟨forall_fin3 rfl rfl rfl, forall_fin3 (forall_fin3 rfl rfl rfl) (forall_fin3 rfl rfl rfl)
    (forall_fin3 rfl rfl rfl)⟩

theorem permuted_swap (V : Mat K) (d : Vec K) (i k : Fin 3) (hik : i < k) :
    Permuted (Equiv.swap i k) V d ((List.range 3).foldl (sortSwapBody i k) V)
      (setV (setV d k (d i)) i (d k)) := by
  have : (i = 0 ∧ k = 1) ∨ (i = 0 ∧ k = 2) ∨ (i = 1 ∧ k = 2) := by omega
  rcases this with ⟨rfl, rfl⟩ | ⟨rfl, rfl⟩ | ⟨rfl, rfl⟩ <;> exact permuted_ofFn _ V d

theorem sortOuter_spec (t : TQ K) (i : Fin 3) : ∃ k : Fin 3, i ≤ k ∧
    Permuted (Equiv.swap i k) t.V t.d (sortOuter t i.val).V (sortOuter t i.val).d ∧
    ∀ j : Fin 3, i ≤ j → (sortOuter t i.val).d.toF i ≤ (sortOuter t i.val).d.toF j := by
  obtain ⟨hp, hk, hpi, hmin⟩ := sortInner_foldl t.d (List.range' (i.val+1) (3 - (i.val+1))) (i.val, t.d i.val) rfl
  unfold sortOuter
  generalize (List.range' (i.val+1) (3 - (i.val+1))).foldl (sortInner t.d) (i.val, t.d i.val) = kp at hp hk hpi hmin
  obtain ⟨k, p⟩ := kp
  simp only [List.mem_range'_1] at hk hmin hp hpi
  have hk3 : k < 3 := by omega
  have hik : i.val ≤ k := by omega
  have hle : ∀ j : Fin 3, i ≤ j → p ≤ t.d.toF j := fun j hj => by
    rcases Nat.eq_or_lt_of_le hj with e | e
    · rw [← Fin.ext e]; exact hpi
    · exact hmin j ⟨e, by omega⟩
  refine ⟨⟨k, hk3⟩, hik, (fun hperm => ⟨hperm, fun j hj => ?least⟩) ?perm⟩
  case least =>
    rw [hperm.1, hperm.1, Equiv.swap_apply_left]
    show t.d k ≤ _
    rw [← hp]
    apply hle
    rw [Equiv.swap_apply_def]
    split
    · exact hik
    · split
      · exact le_rfl
      · exact hj
  case perm =>
    dsimp only
    split
    · next hki =>
      rw [hp]
      exact permuted_swap t.V t.d i ⟨k, hk3⟩
        (Fin.lt_def.mpr (lt_of_le_of_ne hik fun e => by simp [e] at hki))
    · next hki =>
      have : (⟨k, hk3⟩ : Fin 3) = i := Fin.ext (by simpa using hki)
      rw [this, Equiv.swap_self]
      exact Permuted.refl _ _

theorem sortEig_spec (t : TQ K) : ∃ σ : Equiv.Perm (Fin 3),
    Permuted σ t.V t.d (sortEig t).V (sortEig t).d ∧
    (sortEig t).d 0 ≤ (sortEig t).d 1 ∧ (sortEig t).d 1 ≤ (sortEig t).d 2 := by
  obtain ⟨k0, -, hp0, hmin⟩ := sortOuter_spec t 0
  obtain ⟨k1, hk1, hp1, hle⟩ := sortOuter_spec (sortOuter t (0 : Fin 3).val) 1
  have hs : sortEig t = sortOuter (sortOuter t (0 : Fin 3).val) (1 : Fin 3).val := rfl
  rw [hs]
  refine ⟨_, hp0.trans hp1, ?_, hle 2 (by decide)⟩
  show (sortOuter (sortOuter t (0 : Fin 3).val) (1 : Fin 3).val).d.toF 0 ≤
    (sortOuter (sortOuter t (0 : Fin 3).val) (1 : Fin 3).val).d.toF 1
  -- position 0 is not touched by the second round
  rw [hp1.1 0, hp1.1 1, Equiv.swap_apply_of_ne_of_ne (by decide) (by omega)]
  exact hmin _ (Fin.zero_le _)

end PysphVerif.Eigen3
