import PysphVerif.Lemmas.SchemeNeeds
/-!
C12 — lemmas about the integrator's stages (`stagesOk` ↔ `StagesProvided`) and
about `extra_steppers` (`withExtra`).
-/
namespace PysphVerif.SchemeNeeds

theorem mem_stepWrappers (k : StepKind) (m : String) : m ∈ stepWrappers k ↔ Wraps k m := by
  unfold stepWrappers Wraps
  rw [List.mem_append, List.mem_map]

theorem mem_wrappersOf (sk : List StepKind) (st : Nat × Nat) (m : String) :
    m ∈ wrappersOf sk st ↔ ∃ k, sk[st.1]? = some k ∧ Wraps k m := by
  unfold wrappersOf
  cases sk[st.1]? with
  | none => simp
  | some k => simp only [mem_stepWrappers, Option.some.injEq, exists_eq_left']

theorem mem_wrapperNames (sk : List StepKind) (b : Body) (m : String) :
    m ∈ wrapperNames sk b ↔ ∃ st ∈ b.steppers, ∃ k, sk[st.1]? = some k ∧ Wraps k m := by
  simp only [wrapperNames, List.mem_flatMap, mem_wrappersOf]

theorem stagesOk_iff (ik : List IntegKind) (sk : List StepKind) (b : Body) :
    stagesOk ik sk b = true ↔ StagesProvided ik sk b := by
  unfold stagesOk StagesProvided
  cases ik[b.integ]? with
  | none => simp
  | some i =>
    simp only [Option.some.injEq, exists_eq_left', List.all_eq_true, List.contains_iff_mem,
      mem_wrapperNames]

theorem getElem?_append_some {α : Type} (l l' : List α) (i : Nat) (x : α) (h : l[i]? = some x) :
    (l ++ l')[i]? = some x := by
  have hi : i < l.length := (List.getElem?_eq_some_iff.mp h).1
  rw [List.getElem?_append_left hi]; exact h

theorem stagesProvided_mono (ik : List IntegKind) {sk sk' : List StepKind} (b b' : Body)
    (hk : ∀ (i : Nat) k, sk[i]? = some k → sk'[i]? = some k) (hi : b'.integ = b.integ)
    (hsub : ∀ st ∈ b.steppers, st ∈ b'.steppers)
    (h : StagesProvided ik sk b) : StagesProvided ik sk' b' := by
  obtain ⟨i, hik, hall⟩ := h
  refine ⟨i, by rw [hi]; exact hik, ?_⟩
  intro m hm
  obtain ⟨st, hst, k, hkk, hw⟩ := hall m hm
  exact ⟨st, hsub st hst, k, hk _ k hkk, hw⟩

@[simp] theorem withExtra_arrays (b : Body) (ex : List (Nat × Nat)) :
    (withExtra b ex).arrays = b.arrays := rfl
@[simp] theorem withExtra_eqs (b : Body) (ex : List (Nat × Nat)) :
    (withExtra b ex).eqs = b.eqs := rfl
@[simp] theorem withExtra_integ (b : Body) (ex : List (Nat × Nat)) :
    (withExtra b ex).integ = b.integ := rfl

theorem mem_withExtra (b : Body) (ex : List (Nat × Nat)) (st : Nat × Nat) :
    st ∈ (withExtra b ex).steppers ↔
      st ∈ ex ∨ (st ∈ b.steppers ∧ ∀ e ∈ ex, e.2 ≠ st.2) := by
  unfold withExtra overridden
  simp only [List.mem_append, List.mem_filter, Bool.not_eq_true', List.any_eq_false,
    beq_iff_eq]

theorem hasProp_withExtra (b : Body) (ex : List (Nat × Nat)) (a p : Nat) :
    HasProp (withExtra b ex) a p ↔ HasProp b a p := Iff.rfl

theorem stages_withExtra_of_array (ik : List IntegKind) (sk uks : List StepKind) (b : Body)
    (a : Nat) (ex : List (Nat × Nat)) (h : StagesProvided ik sk (onlyArray b a))
    (hex : ∀ e ∈ ex, e.2 ≠ a) : StagesProvided ik (sk ++ uks) (withExtra b ex) := by
  refine stagesProvided_mono ik (onlyArray b a) (withExtra b ex)
    (fun i k => getElem?_append_some sk uks i k) rfl (fun st hst => ?_) h
  have hm : st ∈ b.steppers ∧ st.2 = a := by
    simpa [onlyArray, List.mem_filter] using hst
  exact (mem_withExtra b ex st).mpr (Or.inr ⟨hm.1, fun e he => hm.2 ▸ hex e he⟩)

end PysphVerif.SchemeNeeds
