import PysphVerif.Model.NnpsBounds
import PysphVerif.Lemmas.Nnps
/-!
Lemmas for `Model/NnpsBounds.lean`: the padded bounds of `_compute_bounds` contain every particle
strictly below the upper limit (or the axis is degenerate), hence `_get_number_of_cells` counts
enough cells for every particle.
-/
namespace PysphVerif.Nnps

open scoped PysphVerif.OrderChain

section order
variable {α : Type} [LinearOrder α]

/-! `fminA` and `carrayMin` are `fmaxA` and `carrayMax` of the dual order `αᵒᵈ` -/

theorem fminA_le_left (a b : α) : fminA a b ≤ a := fmaxA_ge_left (α := αᵒᵈ) a b
theorem fminA_le_right (a b : α) : fminA a b ≤ b := fmaxA_ge_right (α := αᵒᵈ) a b

variable [Zero α]

theorem carrayMin_le (l : List α) (x : α) (hx : x ∈ l) : carrayMin l ≤ x :=
  carrayMax_ge (α := αᵒᵈ) l x hx

theorem boundsStep_mono (acc : α × α) (col : List α) :
    (boundsStep acc col).1 ≤ acc.1 ∧ acc.2 ≤ (boundsStep acc col).2 := by
  cases col with
  | nil => exact ⟨le_refl _, le_refl _⟩
  | cons a t => exact ⟨fminA_le_right _ _, fmaxA_ge_right _ _⟩

theorem boundsStep_mem (acc : α × α) (col : List α) (x : α) (hx : x ∈ col) :
    (boundsStep acc col).1 ≤ x ∧ x ≤ (boundsStep acc col).2 := by
  cases col with
  | nil => cases hx
  | cons a t =>
    exact ⟨le_trans (fminA_le_left _ _) (carrayMin_le _ x hx),
      le_trans (carrayMax_ge _ x hx) (fmaxA_ge_left _ _)⟩

variable [Neg α]

/-- the limits only move outwards: a fold that only grows in the order of `αᵒᵈ × α` -/
theorem rawAxis_mem (big : α) (cols : List (List α)) (col : List α) (hc : col ∈ cols) (x : α)
    (hx : x ∈ col) : (rawAxis big cols).1 ≤ x ∧ x ≤ (rawAxis big cols).2 :=
  foldl_ge_of_mem (α := αᵒᵈ × α) (β := List α) (boundsStep (α := α)) (boundsStep_mono (α := α))
    cols col hc (x, x) (fun acc => boundsStep_mem (α := α) acc col x hx) _

theorem rawBounds_mem (big : α) (arrs : List (List (Pt α))) (a : List (Pt α)) (ha : a ∈ arrs)
    (p : Pt α) (hp : p ∈ a) :
    let r := rawBounds big (colsOf (·.x) arrs) (colsOf (·.y) arrs) (colsOf (·.z) arrs)
    (r.x.1 ≤ p.x ∧ p.x ≤ r.x.2) ∧ (r.y.1 ≤ p.y ∧ p.y ≤ r.y.2) ∧ (r.z.1 ≤ p.z ∧ p.z ≤ r.z.2) := by
  have mem : ∀ f : Pt α → α, a.map f ∈ colsOf f arrs ∧ f p ∈ a.map f := fun f =>
    ⟨List.mem_map.mpr ⟨a, ha, rfl⟩, List.mem_map.mpr ⟨p, hp, rfl⟩⟩
  have hx := rawAxis_mem big _ _ (mem (·.x)).1 _ (mem (·.x)).2
  have hy := rawAxis_mem big _ _ (mem (·.y)).1 _ (mem (·.y)).2
  have hz := rawAxis_mem big _ _ (mem (·.z)).1 _ (mem (·.z)).2
  have hnot : ¬ (rawAxis big (colsOf (·.x) arrs)).2 < (rawAxis big (colsOf (·.x) arrs)).1 :=
    not_lt.mpr (le_trans hx.1 hx.2)
  simp only [rawBounds, hnot, if_false]
  exact ⟨hx, hy, hz⟩

end order

section
variable {α : Type} [Field α] [LinearOrder α] [IsStrictOrderedRing α]

/-- what `C01.cell_in_range` asks of the limits `(lo, hi)` of an axis for a coordinate `x` -/
def InAxis (r : α × α) (x : α) : Prop := r.1 ≤ x ∧ r.1 ≤ r.2 ∧ (x < r.2 ∨ x = r.1)

/-- the upper padding is what makes the largest coordinate lie strictly below the upper limit -/
theorem padAxis_inAxis (pad : α) (hpad : 0 < pad) (r : α × α) (x : α) (h1 : r.1 ≤ x)
    (h2 : x ≤ r.2) : InAxis (padAxis pad r) x := by
  have hl : 0 ≤ (r.2 - r.1) * pad := mul_nonneg (by linarith) (le_of_lt hpad)
  simp only [InAxis, padAxis]
  refine ⟨by linarith, by linarith, ?_⟩
  rcases lt_or_eq_of_le (le_trans h1 h2) with hlt | heq
  · left
    have : 0 < (r.2 - r.1) * pad := mul_pos (by linarith) hpad
    linarith
  · right
    rw [← heq, sub_self, zero_mul, sub_zero]
    exact le_antisymm (heq ▸ h2) h1

theorem widenAxis_inAxis (w : α) (hw : 0 < w) (r : α × α) (x : α) (h : InAxis r x) :
    InAxis (widenAxis w r) x := by
  obtain ⟨h1, h2, h3⟩ := h
  simp only [InAxis, widenAxis]
  refine ⟨by linarith, by linarith, Or.inl ?_⟩
  rcases h3 with h3 | h3
  · linarith
  · rw [h3]; linarith

theorem ncAxis_eq [FloorRing α] (c : α) (hc : 0 < c) (r : α × α) (h : r.1 ≤ r.2) :
    ncAxis Int.ceil c r = max 1 ⌈(r.2 - r.1) / c⌉ := by
  have hn0 : (0 : Int) ≤ ⌈(r.2 - r.1) / c⌉ :=
    Int.ceil_nonneg (div_nonneg (sub_nonneg.mpr h) (le_of_lt hc))
  simp only [ncAxis, one_div, inv_mul_eq_div]
  split <;> omega

theorem finishBounds_inAxis (eps half cs : α) (hw : 0 < half * cs) (b : Bounds α) (p : Pt α)
    (hx : InAxis b.x p.x) (hy : InAxis b.y p.y) (hz : InAxis b.z p.z) :
    InAxis (finishBounds eps half cs b).x p.x ∧ InAxis (finishBounds eps half cs b).y p.y ∧
      InAxis (finishBounds eps half cs b).z p.z := by
  unfold finishBounds
  split
  · exact ⟨widenAxis_inAxis _ hw _ _ hx, widenAxis_inAxis _ hw _ _ hy, widenAxis_inAxis _ hw _ _ hz⟩
  · exact ⟨hx, hy, hz⟩

/-- the bounds `_compute_bounds` stores (`C01.padded_bounds_valid`) -/
theorem boundsOf_inAxis (big pad eps half cs : α) (hpad : 0 < pad) (hhalf : 0 < half)
    (hcs : 0 < cs) (arrs : List (List (Pt α))) (a : List (Pt α)) (ha : a ∈ arrs) (p : Pt α)
    (hp : p ∈ a) :
    InAxis (boundsOf big pad eps half cs arrs).x p.x ∧
      InAxis (boundsOf big pad eps half cs arrs).y p.y ∧
      InAxis (boundsOf big pad eps half cs arrs).z p.z := by
  obtain ⟨hx, hy, hz⟩ := rawBounds_mem big arrs a ha p hp
  unfold boundsOf computeBounds
  exact finishBounds_inAxis eps half cs (mul_pos hhalf hcs) _ p
    (padAxis_inAxis pad hpad _ _ hx.1 hx.2) (padAxis_inAxis pad hpad _ _ hy.1 hy.2)
    (padAxis_inAxis pad hpad _ _ hz.1 hz.2)

end

end PysphVerif.Nnps
