/-
List facts about the generic row operations of `Model/PArray.lean`
(`swapRemove`, `removeRows`, `gather`, `sortNat`, `alignIndex`).  They are
polymorphic, so the same lemma speaks of rows, of whole particles and of indices.
The model defines `swapRemove`, `removeRows` and `gather` with the text of
`ArrayRows`, so a lemma of `ArrayRows` is one about the model's as it stands.
-/
import PysphVerif.Model.PArray
import PysphVerif.Lemmas.ArrayRows
import PysphVerif.Lemmas.OrderedInsert
import Mathlib.Data.List.Basic
import Mathlib.Data.List.Perm.Basic
import Mathlib.Data.List.Range

namespace PysphVerif.PArray

variable {β γ : Type}

theorem map_getD_of_lt (l : List β) (g : β → γ) (k : Nat) (d : β) (d' : γ)
    (hk : k < l.length) : (l.map g).getD k d' = g (l.getD k d) := by
  simp [List.getD_eq_getElem?_getD, List.getElem?_eq_getElem hk]

theorem range_map_getD (l : List β) (d : β) (g : β → γ) :
    (List.range l.length).map (fun k => g (l.getD k d)) = l.map g :=
  ArrayRows.map_range_getD l g fun _ => d

theorem mem_removeRows {β : Type} (idx : List Nat) (l : List β) :
    ∀ x ∈ removeRows idx l, x ∈ l := ArrayRows.removeRows_subset idx l

theorem removeRows_map (f : β → γ) (idx : List Nat) (l : List β) :
    (removeRows idx l).map f = removeRows idx (l.map f) := ArrayRows.removeRows_map f idx l

/-- a list operation that commutes with `map` moves slots, whatever they hold -/
theorem length_congr_of_map (op : ∀ {α : Type}, List α → List α)
    (hmap : ∀ {α β : Type} (f : α → β) (l : List α), (op l).map f = op (l.map f))
    {β γ : Type} (l : List β) (l' : List γ) (h : l.length = l'.length) :
    (op l).length = (op l').length := by
  have e : l.map (fun _ => ()) = l'.map (fun _ => ()) := by
    rw [List.map_const', List.map_const', h]
  rw [← List.length_map (fun _ => ()), hmap, e, ← hmap, List.length_map]

theorem len_removeRows_congr {β γ : Type} (idx : List Nat) (l : List β) (l' : List γ)
    (h : l.length = l'.length) : (removeRows idx l).length = (removeRows idx l').length :=
  length_congr_of_map (removeRows idx) (removeRows_map · idx) l l' h

theorem removeRows_range_lt (idx : List Nat) (n : Nat) :
    ∀ i ∈ removeRows idx (List.range n), i < n := by
  intro i hi
  exact List.mem_range.mp (mem_removeRows idx _ i hi)

theorem gather_nil (l : List β) : gather [] l = [] := rfl

theorem gather_cons (i : Nat) (src : List Nat) (l : List β) :
    gather (i :: src) l = (match l[i]? with | some a => a :: gather src l | none => gather src l) := by
  simp only [gather, List.filterMap_cons]
  cases l[i]? <;> rfl

theorem gather_append (s t : List Nat) (l : List β) :
    gather (s ++ t) l = gather s l ++ gather t l := ArrayRows.gather_append s t l

theorem gather_map (f : β → γ) (src : List Nat) (l : List β) :
    (gather src l).map f = gather src (l.map f) := by
  simp only [gather, List.map_filterMap, List.getElem?_map]

theorem gather_eq_map (src : List Nat) (l : List β) (d : β) (h : ∀ i ∈ src, i < l.length) :
    gather src l = src.map (fun i => l.getD i d) := ArrayRows.gather_eq_map src l d h

theorem gather_length (src : List Nat) (l : List β) (h : ∀ i ∈ src, i < l.length) :
    (gather src l).length = src.length := ArrayRows.gather_length src l h

theorem gather_range_self (l : List β) : gather (List.range l.length) l = l := ArrayRows.gather_range l

theorem gather_perm (idx : List Nat) (l : List β)
    (hp : idx.Perm (List.range l.length)) : (gather idx l).Perm l := ArrayRows.gather_perm idx l hp

theorem mem_gather {β : Type} (src : List Nat) (l : List β) : ∀ x ∈ gather src l, x ∈ l := by
  intro x hx
  obtain ⟨i, _, hi⟩ := List.mem_filterMap.mp hx
  exact List.mem_of_getElem? hi

theorem len_gather_le {β : Type} (src : List Nat) (l : List β) :
    (gather src l).length ≤ src.length := List.length_filterMap_le _ _

theorem len_gather_congr {β γ : Type} (src : List Nat) (l : List β) (l' : List γ)
    (h : l.length = l'.length) : (gather src l).length = (gather src l').length :=
  length_congr_of_map (gather src) (gather_map · src) l l' h

theorem removeRows_eq_gather (idx : List Nat) (l : List β) :
    removeRows idx l = gather (removeRows idx (List.range l.length)) l := by
  cases hl : l with
  | nil =>
    -- both sides only hold members of `[]`
    have hnil : ∀ m : List β, (∀ x ∈ m, x ∈ ([] : List β)) → m = [] := fun m h =>
      List.eq_nil_iff_forall_not_mem.mpr fun x hx => List.not_mem_nil (h x hx)
    rw [hnil _ (mem_removeRows idx []), hnil _ (mem_gather _ [])]
  | cons d t =>
    rw [← hl]
    have hmap : (List.range l.length).map (fun i => l.getD i d) = l :=
      (range_map_getD l d id).trans (List.map_id l)
    conv_lhs => rw [← hmap]
    rw [← removeRows_map, gather_eq_map _ l d (removeRows_range_lt idx l.length)]

theorem removeRows_perm (idx : List Nat) (l : List β) (hs : idx.Pairwise (· < ·))
    (hr : ∀ i ∈ idx, i < l.length) : (removeRows idx l ++ gather idx l).Perm l :=
  ArrayRows.removeRows_perm idx l hs hr

theorem sortNat_perm (l : List Nat) : (sortNat l).Perm l :=
  OrderedInsert.foldr_perm (ins := insertSorted) (p := (· ≤ ·)) (fun _ _ _ => rfl) (fun _ => rfl) l

theorem sortNat_sorted (l : List Nat) : (sortNat l).Pairwise (· ≤ ·) :=
  OrderedInsert.foldr_pairwise (ins := insertSorted) (p := (· ≤ ·)) (R := (· ≤ ·))
    (fun _ _ _ => rfl) (fun _ => rfl) Nat.le_trans id Nat.le_of_not_le l

theorem sortNat_length (l : List Nat) : (sortNat l).length = l.length :=
  (sortNat_perm l).length_eq

theorem sortNat_strict (l : List Nat) (h : l.Nodup) : (sortNat l).Pairwise (· < ·) := by
  have h1 : (sortNat l).Nodup := (sortNat_perm l).nodup_iff.mpr h
  have h2 := sortNat_sorted l
  exact (h2.and h1).imp (fun ⟨hle, hne⟩ => lt_of_le_of_ne hle hne)

/-- the index loop of `align_particles` sees of a tag only whether it is Local -/
theorem alignIndex_eq (tags : List Int) :
    alignIndex tags = ArrayRows.alignPerm (tags.map (· == localTag)) :=
  ArrayRows.foldl_zip_range_eq_alignPerm alignStep (· == localTag) (fun ⟨_, _, _⟩ _ => rfl) tags

/-- what the finished index loop of `align_particles` has established, said of the tags (`st.1`
the index array, `st.2.1` the count of Local tags, `st.2.2` the number of moves).  The invariant
carried through the loop is `ArrayRows.AlignInv`, over the flags; `alignInv` reads these facts off
it through `alignIndex_eq`. -/
structure AlignInv (tags : List Int) (st : List Nat × Nat × Nat) : Prop where
  perm : st.1.Perm (List.range tags.length)
  nreal : st.2.1 = (tags.filter (· == localTag)).length
  le : st.2.1 ≤ tags.length
  first : ∀ k, k < tags.length →
    (tags.getD (st.1.getD k 0) 1 == localTag) = decide (k < st.2.1)
  ident : st.2.2 = 0 → st.1 = List.range tags.length

theorem AlignInv.length {tags : List Int} {st : List Nat × Nat × Nat} (h : AlignInv tags st) :
    st.1.length = tags.length := by
  simpa using h.perm.length_eq

theorem alignInv (tags : List Int) : AlignInv tags (alignIndex tags) := by
  have hlen : (tags.map (· == localTag)).length = tags.length := List.length_map _
  have hperm : (alignIndex tags).1.Perm (List.range tags.length) := by
    rw [alignIndex_eq]; exact hlen ▸ ArrayRows.alignPerm_perm _
  have hnreal : (alignIndex tags).2.1 = (tags.filter (· == localTag)).length := by
    rw [alignIndex_eq, ArrayRows.alignPerm_next, List.countP_eq_length_filter]
  refine ⟨hperm, hnreal, hnreal ▸ List.length_filter_le _ _, fun k hk => ?_, ?_⟩
  · have hk' : k < (alignIndex tags).1.length := by rw [hperm.length_eq, List.length_range]; exact hk
    rw [alignIndex_eq] at hk' ⊢
    -- the flag of the row slot `k` points at is `tag == Local` of that row
    have h := ArrayRows.alignPerm_flag _ (List.getElem?_eq_getElem hk')
    rw [List.getElem?_map] at h
    obtain ⟨t, ht, hb⟩ := Option.map_eq_some_iff.mp h
    rw [List.getD_eq_getElem?_getD, List.getD_eq_getElem?_getD, List.getElem?_eq_getElem hk',
      Option.getD_some, ht]
    exact hb
  · rw [alignIndex_eq]; exact hlen ▸ (ArrayRows.alignInv _).ident

theorem alignIndex_perm (tags : List Int) :
    (alignIndex tags).1.Perm (List.range tags.length) := (alignInv tags).perm

theorem alignIndex_length (tags : List Int) : (alignIndex tags).1.length = tags.length :=
  (alignInv tags).length

theorem alignIndex_nreal (tags : List Int) :
    (alignIndex tags).2.1 = (tags.filter (· == localTag)).length := (alignInv tags).nreal

theorem alignIndex_nreal_le (tags : List Int) : (alignIndex tags).2.1 ≤ tags.length :=
  (alignInv tags).le

theorem alignIndex_real_first (tags : List Int) (k : Nat) (hk : k < tags.length) :
    (tags.getD ((alignIndex tags).1.getD k 0) 1 == localTag)
      = decide (k < (alignIndex tags).2.1) := (alignInv tags).first k hk

theorem alignIndex_moves_zero (tags : List Int) :
    (alignIndex tags).2.2 = 0 → (alignIndex tags).1 = List.range tags.length :=
  (alignInv tags).ident

end PysphVerif.PArray
