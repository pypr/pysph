/-!
Python dictionaries as insertion-ordered association lists keyed by name, away from any one
model: `d[k] = v` overwrites in place or appends, `d.get(k)` finds the first entry.  The models of
the particle array (`setKey`) and of the dump files (`dictSet`, `dictGet?`) each define them for
themselves with this text, so a lemma here is one about either by unfolding; the particle array's
`lookupD` is `get?` with a default.  Core Lean only.
-/
namespace PysphVerif.AssocList

variable {β : Type}

def set (d : List (String × β)) (k : String) (v : β) : List (String × β) :=
  if d.any (fun e => e.1 == k) then d.map (fun e => if e.1 == k then (k, v) else e)
  else d ++ [(k, v)]

def get? (d : List (String × β)) (k : String) : Option β :=
  (d.find? (fun e => e.1 == k)).map (·.2)

theorem any_key_iff {α : Type} (key : α → String) (l : List α) (k : String) :
    l.any (fun a => key a == k) = true ↔ k ∈ l.map key := by
  simp only [List.any_eq_true, beq_iff_eq, List.mem_map]

theorem get?_replace (d : List (String × β)) (k : String) (v : β) (n : String) :
    get? (d.map fun e => if e.1 == k then (k, v) else e) n =
      (d.find? (·.1 == n)).map fun e => if n = k then v else e.2 := by
  have hkey : ((fun e : String × β => e.1 == n) ∘ fun e => if e.1 == k then (k, v) else e) =
      fun e => e.1 == n := by
    funext e
    by_cases h : e.1 = k <;> simp [h]
  rw [get?, List.find?_map, hkey, Option.map_map]
  cases hf : d.find? (·.1 == n) with
  | none => rfl
  | some e =>
    have hn : e.1 = n := by simpa using List.find?_some hf
    by_cases h : n = k <;> simp [hn, h]

theorem get?_none_of_not_mem (d : List (String × β)) (k : String)
    (hk : k ∉ d.map (·.1)) : get? d k = none := by
  simp only [get?, Option.map_eq_none_iff, List.find?_eq_none, beq_iff_eq]
  exact fun e he h => hk (List.mem_map.2 ⟨e, he, h⟩)

theorem set_fresh (d : List (String × β)) (k : String) (v : β)
    (h : k ∉ d.map (·.1)) : set d k v = d ++ [(k, v)] :=
  if_neg (mt (any_key_iff Prod.fst d k).1 h)

theorem set_of_mem (d : List (String × β)) (k : String) (v : β)
    (h : k ∈ d.map (·.1)) : set d k v = d.map (fun e => if e.1 == k then (k, v) else e) :=
  if_pos ((any_key_iff Prod.fst d k).2 h)

theorem get?_set (d : List (String × β)) (k : String) (v : β) (n : String) :
    get? (set d k v) n = if n = k then some v else get? d n := by
  by_cases hk : k ∈ d.map (·.1)
  · rw [set_of_mem d k v hk, get?_replace]
    by_cases hn : n = k
    · subst hn
      obtain ⟨e, he, hek⟩ := List.mem_map.1 hk
      cases hf : d.find? (·.1 == n) with
      | none => exact absurd (List.find?_eq_none.1 hf e he) (by simp [hek])
      | some _ => simp
    · simp only [hn, if_false]; rfl
  · rw [set_fresh d k v hk]
    have hnone := get?_none_of_not_mem d k hk
    unfold get? at hnone ⊢
    rw [List.find?_append]
    split
    · rename_i hn; subst hn
      rw [Option.map_eq_none_iff.1 hnone]; simp
    · rename_i hn
      have h1 : (k == n) = false := by simpa using fun h => hn h.symm
      simp [h1]

theorem keys_set (d : List (String × β)) (k : String) (v : β) :
    (set d k v).map (·.1) = if k ∈ d.map (·.1) then d.map (·.1) else d.map (·.1) ++ [k] := by
  split
  · next h =>
    rw [set_of_mem d k v h, List.map_map]
    exact List.map_congr_left fun e _ => by by_cases hek : e.1 = k <;> simp [hek]
  · next h => rw [set_fresh d k v h, List.map_append, List.map_singleton]

/-! A key list after `d[k] = v`, whatever the items are: `if k ∈ l then l else l ++ [k]`. -/

theorem nodup_keys_set {l : List String} (k : String) (h : l.Nodup) :
    (if k ∈ l then l else l ++ [k]).Nodup := by
  split
  · exact h
  · next hk =>
    exact List.nodup_append.mpr ⟨h, by simp,
      fun a ha b hb e => hk (List.mem_singleton.mp hb ▸ e ▸ ha)⟩

theorem mem_keys_set {l : List String} {k n : String} :
    n ∈ (if k ∈ l then l else l ++ [k]) ↔ n ∈ l ∨ n = k := by
  split
  · next hk => exact (or_iff_left_of_imp fun e => e ▸ hk).symm
  · rw [List.mem_append, List.mem_singleton]

theorem set_keys_nodup (d : List (String × β)) (k : String) (v : β)
    (h : (d.map (·.1)).Nodup) : ((set d k v).map (·.1)).Nodup := by
  rw [keys_set]
  exact nodup_keys_set k h

theorem find?_key_of_mem {α : Type} (key : α → String) (l : List α) (h : (l.map key).Nodup)
    (a : α) (ha : a ∈ l) : l.find? (fun x => key x == key a) = some a := by
  induction l with
  | nil => cases ha
  | cons x xs ih =>
    rw [List.map_cons, List.nodup_cons] at h
    rcases List.mem_cons.1 ha with rfl | hin
    · simp
    · have hne : (key x == key a) = false :=
        beq_eq_false_iff_ne.2 fun hx => h.1 (List.mem_map.2 ⟨a, hin, hx.symm⟩)
      rw [List.find?_cons, hne]
      exact ih h.2 hin

theorem eq_of_key_eq {α : Type} (key : α → String) (l : List α) (h : (l.map key).Nodup)
    {a b : α} (ha : a ∈ l) (hb : b ∈ l) (e : key a = key b) : a = b :=
  Option.some.inj ((find?_key_of_mem key l h a ha).symm.trans (e ▸ find?_key_of_mem key l h b hb))

theorem get?_of_mem (d : List (String × β)) (h : (d.map (·.1)).Nodup)
    (e : String × β) (he : e ∈ d) : get? d e.1 = some e.2 := by
  rw [get?, find?_key_of_mem (·.1) d h e he]; rfl

theorem mem_of_get? (d : List (String × β)) (k : String) (v : β)
    (h : get? d k = some v) : (k, v) ∈ d := by
  obtain ⟨e, he, rfl⟩ := Option.map_eq_some_iff.1 h
  have hk : e.1 = k := by simpa using List.find?_some he
  exact hk ▸ List.mem_of_find?_eq_some he

end PysphVerif.AssocList
