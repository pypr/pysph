import Mathlib.LinearAlgebra.Matrix.Determinant.Basic
import Mathlib.LinearAlgebra.Matrix.Block
import PysphVerif.Lemmas.GaussJordan
set_option linter.unusedSectionVars false
/-!
C13: the link between the row operations of `gj_solve` and Mathlib's determinant.  Row operations
are a multiplication from the left (`RowOps.comb`), so `det A ≠ 0` survives them; the triangular
form has the product of its pivots as determinant; hence with `det A ≠ 0` no pivot of the triangular
form is zero (the hypothesis `LastPivotNonzero` of `gj_sound_lastpivot` discharged), and a non-zero
return means `det A = 0` or the forward phase gave up.
-/
namespace PysphVerif.GaussJordan
variable {K : Type} [Field K] [LinearOrder K] [IsStrictOrderedRing K]

def toMat (n : Nat) (M : Nat → Nat → K) : Matrix (Fin n) (Fin n) K := fun i j => M i j

theorem RowOps.det_ne_zero {n nt : Nat} (hn : n ≤ nt) {M M' : Nat → Nat → K}
    (h : RowOps n nt M M') (hd : (toMat n M).det ≠ 0) : (toMat n M').det ≠ 0 := by
  obtain ⟨Q, hQ⟩ := h.comb
  have : toMat n M = toMat n Q * toMat n M' := by
    ext i j
    rw [Matrix.mul_apply]
    exact (hQ i j i.2 (lt_of_lt_of_le j.2 hn)).trans (Finset.sum_range fun k => Q i k * M' k j)
  rw [this, Matrix.det_mul] at hd
  exact right_ne_zero_of_mul hd

theorem det_of_lowerZero {n : Nat} (M : Nat → Nat → K) (h : LowerZero n M n) :
    (toMat n M).det = ∏ i : Fin n, M i i := by
  apply Matrix.det_of_isUpperTriangular
  intro i j hij
  exact h i j i.2 j.2 hij

theorem forward_pivots_ne_zero {n nb : Nat} (tol : K) (htol : 0 < tol) (m m1 : Array K)
    (hsz : n*(n+nb) ≤ m.size) (hf : forward tol n nb m = some m1)
    (hdet : (toMat n (get2 (n+nb) m)).det ≠ 0) :
    ∀ i, i < n → get2 (n+nb) m1 i i ≠ 0 := by
  have h := forward_spec tol htol m hsz
  rw [hf] at h
  have h1 := h.ops.det_ne_zero (by omega) hdet
  rw [det_of_lowerZero _ h.lz] at h1
  intro i hi
  exact (Finset.prod_ne_zero_iff.mp h1) ⟨i, hi⟩ (Finset.mem_univ _)

theorem gjSolve_singular_det {n nb : Nat} (tol : K) (htol : 0 < tol) (m res : Array K)
    (hsz : n*(n+nb) ≤ m.size) (hret : (gjSolve tol m n nb res).singular = true) :
    (toMat n (get2 (n+nb) m)).det = 0 ∨ GaveUp n nb tol m := by
  rcases gjSolve_singular tol htol m res hsz hret with h | ⟨m1, hf, _, hn, h0⟩
  · exact Or.inr h
  · left
    by_contra hdet
    exact forward_pivots_ne_zero tol htol m m1 hsz hf hdet (n-1) (by omega) h0

end PysphVerif.GaussJordan
