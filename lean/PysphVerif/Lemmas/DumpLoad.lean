import PysphVerif.Lemmas.DumpLoadAdd
/-!
C11, what every reader starts from: what the writers store for one array
(`Slices`), well-formed source arrays (`WF`), the requests both version-2
readers derive from a dump and what serving them rebuilds (`rebuild`), and the
target `RoundTrip`.
-/
set_option linter.unusedSectionVars false
namespace PysphVerif.DumpLoad

variable {V : Type} [PVal V] [DecidableEq V]

/-- the slice `get_property_arrays` stores for the property called `n` -/
def sliceOf (pa : PArr V) (num : Nat) (n : String) : Option (List V) :=
  (findProp pa.props n).map (fun p => p.data.take (num * p.stride))

/-- `arrs` holds, under distinct keys, exactly the slices of the properties
`get_property_arrays(o.detailed, o.onlyReal)` is asked for -/
structure Slices (o : Opts) (pa : PArr V) (arrs : List (String × List V)) : Prop where
  get : ∀ n, dictGet? arrs n =
    if n ∈ storedNames pa o.detailed then sliceOf pa (numParticles pa o.onlyReal) n else none
  keys : (arrs.map (·.1)).Nodup

/-- a coherent, aligned particle array (what C06 establishes for every reachable array) -/
structure WF (pa : PArr V) : Prop where
  nodup : (pa.props.map (·.name)).Nodup
  hasBase : ∀ n, isBase n → ∃ p ∈ pa.props, p.name = n
  baseMeta : ∀ p ∈ pa.props, isBase p.name → p.stride = 1 ∧ p.ctype = baseTy p.name
  stridePos : ∀ p ∈ pa.props, 1 ≤ p.stride
  coh : ∀ p ∈ pa.props, p.data.length = numParticles pa false * p.stride
  nreal : pa.nReal ≤ numParticles pa false
  /-- the first `nReal` particles are the `Local` ones -/
  aligned : ∀ t ∈ pa.props, t.name = "tag" →
    (∀ x ∈ t.data.take pa.nReal, x = PVal.zero) ∧ (∀ x ∈ t.data.drop pa.nReal, x ≠ PVal.zero)
  outSub : ∀ n ∈ pa.outArrs, ∃ p ∈ pa.props, p.name = n
  constsNodup : (pa.consts.map (·.name)).Nodup
  constsDisj : ∀ c ∈ pa.consts, ¬ ∃ p ∈ pa.props, p.name = c.name
  constsTy : ∀ c ∈ pa.consts, constCType c.ctype = some c.ctype

theorem isBase_iff (n : String) : isBase n ↔ n ∈ ["tag", "pid", "gid"] := by
  simp [isBase]

/-- `WF` can be evaluated: `hasBase` and `baseMeta` speak of three names only -/
instance (pa : PArr V) : Decidable (WF pa) :=
  decidable_of_iff
    ((pa.props.map (·.name)).Nodup ∧
     (∀ n ∈ ["tag", "pid", "gid"], ∃ p ∈ pa.props, p.name = n) ∧
     (∀ p ∈ pa.props, p.name ∈ ["tag", "pid", "gid"] → p.stride = 1 ∧ p.ctype = baseTy p.name) ∧
     (∀ p ∈ pa.props, 1 ≤ p.stride) ∧
     (∀ p ∈ pa.props, p.data.length = numParticles pa false * p.stride) ∧
     pa.nReal ≤ numParticles pa false ∧
     (∀ t ∈ pa.props, t.name = "tag" →
       (∀ x ∈ t.data.take pa.nReal, x = PVal.zero) ∧ (∀ x ∈ t.data.drop pa.nReal, x ≠ PVal.zero)) ∧
     (∀ n ∈ pa.outArrs, ∃ p ∈ pa.props, p.name = n) ∧
     (pa.consts.map (·.name)).Nodup ∧
     (∀ c ∈ pa.consts, ¬ ∃ p ∈ pa.props, p.name = c.name) ∧
     (∀ c ∈ pa.consts, constCType c.ctype = some c.ctype))
    ⟨fun ⟨h1, h2, h3, h4, h5, h6, h7, h8, h9, h10, h11⟩ =>
      ⟨h1, fun n hn => h2 n ((isBase_iff n).1 hn), fun p hp hb => h3 p hp ((isBase_iff _).1 hb),
        h4, h5, h6, h7, h8, h9, h10, h11⟩,
     fun h => ⟨h.nodup, fun n hn => h.hasBase n ((isBase_iff n).2 hn),
        fun p hp hb => h.baseMeta p hp ((isBase_iff _).2 hb), h.stridePos, h.coh, h.nreal,
        h.aligned, h.outSub, h.constsNodup, h.constsDisj, h.constsTy⟩⟩

theorem storedNames_sub (pa : PArr V) (hwf : WF pa) (all : Bool) :
    ∀ n ∈ storedNames pa all, ∃ p ∈ pa.props, p.name = n := by
  intro n hn
  unfold storedNames at hn
  split at hn
  · exact List.mem_map.1 hn
  · exact hwf.outSub n hn

theorem num_le (pa : PArr V) (hwf : WF pa) (real : Bool) :
    numParticles pa real ≤ numParticles pa false := by
  cases real
  · exact Nat.le_refl _
  · simpa [numParticles] using hwf.nreal

theorem WF.length_take {pa : PArr V} (hwf : WF pa) (real : Bool) {p : PropRec V}
    (hp : p ∈ pa.props) :
    (p.data.take (numParticles pa real * p.stride)).length = numParticles pa real * p.stride := by
  rw [List.length_take, hwf.coh p hp]
  exact Nat.min_eq_left (Nat.mul_le_mul_right _ (num_le pa hwf real))

/-- what `get_property_arrays` returns for `pa` (`[]` if it raises) -/
def arrsOf (o : Opts) (pa : PArr V) : List (String × List V) :=
  (getPropertyArrays pa o.detailed o.onlyReal).getD []

theorem gpa_spec (pa : PArr V) (hwf : WF pa) (o : Opts) :
    getPropertyArrays pa o.detailed o.onlyReal = some (arrsOf o pa) ∧ Slices o pa (arrsOf o pa) := by
  obtain ⟨arrs, h1, hk, h2⟩ := foldlM_prefix_inv (gpaStep pa (numParticles pa o.onlyReal))
    (fun acc seen => (acc.map (·.1)).Nodup ∧ ∀ n, dictGet? acc n =
      if n ∈ seen then sliceOf pa (numParticles pa o.onlyReal) n else none)
    (storedNames pa o.detailed) [] ⟨by simp, fun n => by simp [dictGet?]⟩
    fun acc seen m rest e ⟨hk, h⟩ => by
      obtain ⟨p, hp⟩ := findProp_isSome_of_mem pa.props m
        (storedNames_sub pa hwf _ m (by rw [e]; simp))
      refine ⟨_, by simp only [gpaStep, hp]; rfl, dictSet_keys_nodup _ _ _ hk, fun n => ?_⟩
      rw [dictGet?_dictSet]
      by_cases hn : n = m
      · subst hn; simp [sliceOf, hp]
      · rw [if_neg hn, h n]; simp [hn]
  have h1' : getPropertyArrays pa o.detailed o.onlyReal = some arrs := h1
  rw [arrsOf, h1']
  exact ⟨rfl, h2, hk⟩

section
variable {o : Opts} {pa : PArr V} {arrs : List (String × List V)}

theorem Slices.of_prop (hs : Slices o pa arrs) (hwf : WF pa) {p : PropRec V} (hp : p ∈ pa.props) :
    dictGet? arrs p.name = if p.name ∈ storedNames pa o.detailed then
      some (p.data.take (numParticles pa o.onlyReal * p.stride)) else none := by
  rw [hs.get, sliceOf, findProp_of_mem pa.props p.name hwf.nodup p hp rfl]
  rfl

theorem Slices.of_get (hs : Slices o pa arrs) (hwf : WF pa) {n : String} {d : List V}
    (h : dictGet? arrs n = some d) :
    ∃ p ∈ pa.props, p.name = n ∧ n ∈ storedNames pa o.detailed ∧
      d = p.data.take (numParticles pa o.onlyReal * p.stride) := by
  have hst : n ∈ storedNames pa o.detailed := by
    rw [hs.get] at h
    split at h
    · assumption
    · cases h
  obtain ⟨p, hp, rfl⟩ := storedNames_sub pa hwf _ n hst
  rw [hs.of_prop hwf hp, if_pos hst] at h
  exact ⟨p, hp, rfl, hst, (Option.some.inj h).symm⟩

/-- something is always stored: every property, or a non-empty output list -/
theorem Slices.ne_nil (hs : Slices o pa arrs) (hwf : WF pa) : arrs ≠ [] := by
  obtain ⟨n, hn⟩ : ∃ n, n ∈ storedNames pa o.detailed := by
    unfold storedNames
    split
    · obtain ⟨p, hp, _⟩ := hwf.hasBase "tag" (Or.inl rfl)
      exact ⟨p.name, List.mem_map.2 ⟨p, hp, rfl⟩⟩
    · next h => exact List.exists_mem_of_ne_nil _ fun e => h (by simp [e])
  obtain ⟨p, hp, rfl⟩ := storedNames_sub pa hwf _ n hn
  rintro rfl
  have h := hs.of_prop hwf hp
  rw [if_pos hn] at h
  cases h

end

/-- the `add_property` call both readers make for property `p` of a dumped array -/
def reqOf (arrs : List (String × List V)) (p : PropRec V) : AddReq V :=
  { name := p.name, ty := p.ctype, dflt := p.default, data := dictGet? arrs p.name,
    stride := p.stride }

theorem reqOK_of_wf (pa : PArr V) (hwf : WF pa) (o : Opts) (arrs : List (String × List V))
    (hs : Slices o pa arrs) (p : PropRec V) (hp : p ∈ pa.props) :
    ReqOK (numParticles pa o.onlyReal) (reqOf arrs p) := by
  refine ⟨hwf.stridePos p hp, ?_, fun hb => hwf.baseMeta p hp hb⟩
  intro d hd
  simp only [reqOf] at hd ⊢
  rw [hs.of_prop hwf hp] at hd
  split at hd
  · cases hd; exact hwf.length_take _ hp
  · cases hd

/-- The heart of both readers: a loop that serves the requests derived from a dump, in any
order, on a freshly cleared array. -/
theorem rebuild (pa : PArr V) (hwf : WF pa) (o : Opts) (arrs : List (String × List V))
    (hs : Slices o pa arrs) {α σ : Type} (arr : σ → PArr V) (step : σ → α → Except String σ)
    (req : α → AddReq V) (l : List α)
    (hstep : ∀ s, ∀ a ∈ l, ∀ pa', addReq (arr s) (req a) = .ok pa' →
      ∃ s', step s a = .ok s' ∧ arr s' = pa')
    (hperm : (l.map req).Perm (pa.props.map (reqOf arrs)))
    (s0 : σ) (h0 : SInv (numParticles pa o.onlyReal) [] 0 (arr s0).props) :
    ∃ s' nP', l.foldlM step s0 = .ok s' ∧ (arr s').name = (arr s0).name ∧
      (arr s').consts = (arr s0).consts ∧
      SInv (numParticles pa o.onlyReal) (l.map req) nP' (arr s').props ∧
      (∀ p ∈ pa.props, ∃ p' ∈ (arr s').props, p'.name = p.name ∧ p'.ctype = p.ctype ∧
        p'.stride = p.stride ∧ p'.default = p.default ∧
        (p.name ∈ storedNames pa o.detailed →
          p'.data = p.data.take (numParticles pa o.onlyReal * p.stride))) ∧
      (∀ n, (∃ p' ∈ (arr s').props, p'.name = n) ↔ ∃ p ∈ pa.props, p.name = n) := by
  have hok : ∀ a ∈ l, ReqOK (numParticles pa o.onlyReal) (req a) := by
    intro a ha
    obtain ⟨p, hp, e⟩ := List.mem_map.1 (hperm.mem_iff.1 (List.mem_map_of_mem ha))
    rw [← e]; exact reqOK_of_wf pa hwf o arrs hs p hp
  have hnd : ((([] : List (AddReq V)) ++ l.map req).map (fun r : AddReq V => r.name)).Nodup := by
    rw [List.nil_append, (hperm.map _).nodup_iff, List.map_map]
    exact hwf.nodup
  obtain ⟨s', h1, hn, hc, nP', hinv⟩ := foldReq_ok arr step req l
    (fun s a ha _ _ _ _ => hstep s a ha) [] 0 s0 h0 hok hnd
  rw [List.nil_append] at hinv
  refine ⟨s', nP', h1, hn, hc, hinv, ?_, ?_⟩
  · intro p hp
    obtain ⟨p', hp', h1, hsv⟩ := hinv.get (hperm.mem_iff.2 (List.mem_map.2 ⟨p, hp, rfl⟩))
    refine ⟨p', hp', h1, hsv.ctype, hsv.stride, hsv.default, fun hst => hsv.data _ ?_⟩
    simp only [reqOf]
    rw [hs.of_prop hwf hp, if_pos hst]
  · intro n
    rw [← List.mem_map, ← List.mem_map, hinv.names, (hperm.map _).mem_iff, List.map_map]
    exact or_iff_right_of_imp fun hb => List.mem_map.2 (hwf.hasBase n hb)

theorem stored_tag_realFirst (pa : PArr V) (hwf : WF pa) (o : Opts) (arrs : List (String × List V))
    (hs : Slices o pa arrs) (td : List V) (hd : dictGet? arrs "tag" = some td) : RealFirst td := by
  obtain ⟨p, hp, hpn, _, rfl⟩ := hs.of_get hwf hd
  obtain ⟨hA, hB⟩ := hwf.aligned p hp hpn
  exact realFirst_take p.data pa.nReal _ hA hB

/-- what a reader must deliver for source array `pa` written with options `o`.  It is silent on
`num_real_particles`: the npz reader ends with `align_particles` (`loadNpz_spec` adds
`nReal = countLocal` of the loaded tags), the hdf5 reader does not align. -/
structure RoundTrip (o : Opts) (pa q : PArr V) : Prop where
  name : q.name = pa.name
  outArrs : q.outArrs = pa.outArrs
  consts : q.consts.Perm pa.consts
  nodup : (q.props.map (·.name)).Nodup
  same : ∀ p ∈ pa.props, ∃ p' ∈ q.props, p'.name = p.name ∧ p'.ctype = p.ctype ∧
    p'.stride = p.stride ∧ p'.default = p.default ∧
    (p.name ∈ storedNames pa o.detailed →
      p'.data = p.data.take (numParticles pa o.onlyReal * p.stride))
  noExtra : ∀ p' ∈ q.props, ∃ p ∈ pa.props, p.name = p'.name
  coh : ∃ n, (n = 0 ∨ n = numParticles pa o.onlyReal) ∧ ∀ p' ∈ q.props, p'.data.length = n * p'.stride

section
variable {o : Opts} {pa q : PArr V}

theorem RoundTrip.meta (h : RoundTrip o pa q) :
    ∀ p ∈ pa.props, ∃ p' ∈ q.props, p'.name = p.name ∧ p'.ctype = p.ctype ∧
      p'.stride = p.stride ∧ p'.default = p.default := by
  intro p hp
  obtain ⟨p', hp', h1, h2, h3, h4, _⟩ := h.same p hp
  exact ⟨p', hp', h1, h2, h3, h4⟩

theorem RoundTrip.values (h : RoundTrip o pa q) :
    ∀ p ∈ pa.props, p.name ∈ storedNames pa o.detailed → ∃ p' ∈ q.props, p'.name = p.name ∧
      p'.data = p.data.take ((if o.onlyReal then pa.nReal else numParticles pa false) * p.stride) := by
  intro p hp hst
  obtain ⟨p', hp', h1, _, _, _, h5⟩ := h.same p hp
  exact ⟨p', hp', h1, h5 hst⟩

theorem RoundTrip.empty (h : RoundTrip o pa q) (hempty : numParticles pa o.onlyReal = 0) :
    ∀ p' ∈ q.props, p'.data = [] := by
  intro p' hp'
  obtain ⟨n, hn, hc⟩ := h.coh
  have hn0 : n = 0 := hn.elim id fun e => e.trans hempty
  exact List.length_eq_zero_iff.1 (by rw [hc p' hp', hn0, Nat.zero_mul])

end

end PysphVerif.DumpLoad
