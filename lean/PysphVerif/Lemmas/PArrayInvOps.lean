import PysphVerif.Lemmas.PArrayColwise
import PysphVerif.Lemmas.FoldInv
/-!
The mutators that rewrite columns in place, column by column: `resize`,
`extend`, the row operations, `remove_property`, `add_particles`,
`extract_particles` into an existing array, and writing one column.  What a successful call
returns is stated once per operation (`…_some`, `…_cases`), so its users never unfold it again.
-/
namespace PysphVerif.PArray

theorem InvF.inv_and_n {pa : PA} {m : Nat} (h : InvF pa.props pa.stride pa.defaults m) :
    Inv pa ∧ pa.n = m := ⟨h.toInv, h.n_eq⟩

theorem inv_empty (nm : String) : Inv (PA.empty nm) := by
  apply InvF.toInv (m := 0)
  show InvF [⟨"tag", "int", []⟩, ⟨"pid", "int", []⟩, ⟨"gid", "unsigned int", []⟩] []
    [("tag", 0), ("pid", 0), ("gid", uintMax)] 0
  refine ⟨?_, rfl, rfl, by decide, ?_, rfl⟩
  · intro c hc
    simp only [List.mem_cons, List.not_mem_nil, or_false] at hc
    rcases hc with rfl | rfl | rfl <;> exact ⟨by decide, by simp⟩
  · intro k hk; simp at hk

theorem empty_n (nm : String) : (PA.empty nm).n = 0 := rfl

theorem resizeRows_uniform (m' s : Nat) (fill : List Int) (R : List (List Int))
    (hf : fill.length = s) (hR : ∀ r ∈ R, r.length = s) :
    (resizeRows m' fill R).length = m' ∧ ∀ r ∈ resizeRows m' fill R, r.length = s := by
  unfold resizeRows
  constructor
  · simp only [List.length_append, List.length_take, List.length_replicate]; omega
  · intro r hr
    rcases List.mem_append.mp hr with h | h
    · exact hR r (List.mem_of_mem_take h)
    · rw [(List.mem_replicate.mp h).2]; exact hf

theorem resizeRows_grow (m : Nat) (fill : List Int) (R : List (List Int)) (k : Nat)
    (hm : m = R.length + k) : resizeRows m fill R = R ++ List.replicate k fill := by
  unfold resizeRows
  rw [List.take_of_length_le (by omega)]
  congr 2; omega

theorem resize_colwise {pa : PA} (h : Inv pa) (m : Nat) :
    Holds pa (pa.resize m) m
      ((particles pa).take m ++ List.replicate (m - pa.n) (defaultParticle pa)) := by
  obtain ⟨hi, hn, hp, hd⟩ := colwise (q := pa.resize m) h _
    (fun c => (rowsOf (pa.strideOf c.name) c.data).take m ++
      List.replicate (m - pa.n) (defaultRow pa c.name)) m rfl rfl rfl (fun _ _ => rfl)
    (fun c hc => by
      have hr := resizeRows_uniform m _ (defaultRow pa c.name) _ (defaultRow_length pa c.name)
        (h.rows hc).2
      unfold resizeRows at hr
      rw [(h.rows hc).1] at hr
      exact ⟨by show flat (resizeRows _ _ _) = _; unfold resizeRows; rw [(h.rows hc).1], hr⟩)
  refine ⟨hi, hn, ?_, hd⟩
  rw [hp, transposeCols_append pa.props Col.name _ _ m (min m pa.n) (m - pa.n) (by omega)
      (fun c hc => by rw [List.length_take, (h.rows hc).1]),
    transposeCols_take, ← particles_eq_transpose, transposeCols_replicate]
  rfl

def extendCol (dest : PA) (k : Nat) (c : Col) : Col :=
  { c with data := flat (resizeRows (dest.n + k) (defaultRow dest c.name)
      (rowsOf (dest.strideOf c.name) c.data)) }

theorem extend_props (dest : PA) (k : Nat) (hk : k ≠ 0) :
    (dest.extend k).props = dest.props.map (extendCol dest k) := by
  unfold PA.extend
  rw [if_neg hk]
  rfl

theorem extend_stride (pa : PA) (k : Nat) : (pa.extend k).stride = pa.stride := by
  unfold PA.extend; split <;> rfl
theorem extend_defaults (pa : PA) (k : Nat) : (pa.extend k).defaults = pa.defaults := by
  unfold PA.extend; split <;> rfl
theorem extend_consts (pa : PA) (k : Nat) : (pa.extend k).consts = pa.consts := by
  unfold PA.extend; split <;> rfl

theorem extendCol_data {dest : PA} (hd : Inv dest) (k : Nat) (c : Col) (hc : c ∈ dest.props) :
    (extendCol dest k c).data =
      flat (rowsOf (dest.strideOf c.name) c.data ++ List.replicate k (defaultRow dest c.name)) := by
  show flat (resizeRows _ _ _) = _
  rw [resizeRows_grow _ _ _ k (by rw [(hd.rows hc).1])]

theorem extend_colwise {pa : PA} (h : Inv pa) (k : Nat) :
    Holds pa (pa.extend k) (pa.n + k)
      (particles pa ++ List.replicate k (defaultParticle pa)) := by
  have H := resize_colwise h (pa.n + k)
  rw [List.take_of_length_le (by rw [particles_length]; omega), Nat.add_sub_cancel_left] at H
  unfold PA.extend
  split
  · subst k
    exact ⟨h, rfl, by simp, rfl⟩
  · exact H

theorem inv_extend {pa : PA} (h : Inv pa) (k : Nat) :
    Inv (pa.extend k) ∧ (pa.extend k).n = pa.n + k :=
  ⟨(extend_colwise h k).inv, (extend_colwise h k).n⟩

theorem mapRows_colwise {pa : PA} (h : Inv pa) (f : List (List Int) → List (List Int)) (m' : Nat)
    (hf : ∀ (s : Nat) (R : List (List Int)), R.length = pa.n → (∀ r ∈ R, r.length = s) →
      (f R).length = m' ∧ ∀ r ∈ f R, r.length = s) :
    Holds pa (pa.mapRows f) m' (transposeCols m'
      (pa.props.map (fun (c : Col) => (c.name, f (rowsOf (pa.strideOf c.name) c.data))))) :=
  colwise h _ (fun c => f (rowsOf (pa.strideOf c.name) c.data)) m' rfl rfl rfl (fun _ _ => rfl)
    (fun _ hc => ⟨rfl, hf _ _ (h.rows hc).1 (h.rows hc).2⟩)

theorem gather_rows (src : List Nat) (n s : Nat) (R : List (List Int)) (hR : R.length = n)
    (hrows : ∀ r ∈ R, r.length = s) :
    (gather src R).length = (gather src (List.range n)).length ∧ ∀ r ∈ gather src R, r.length = s :=
  ⟨len_gather_congr src R _ (by rw [List.length_range]; exact hR),
    fun r hr => hrows r (mem_gather src R r hr)⟩

theorem removeRows_rows (idx : List Nat) (n s : Nat) (R : List (List Int)) (hR : R.length = n)
    (hrows : ∀ r ∈ R, r.length = s) :
    (removeRows idx R).length = (removeRows idx (List.range n)).length ∧
      ∀ r ∈ removeRows idx R, r.length = s :=
  ⟨len_removeRows_congr idx R _ (by rw [List.length_range]; exact hR),
    fun r hr => hrows r (mem_removeRows idx R r hr)⟩

theorem inv_setNReal {pa : PA} (h : Inv pa) (nr : Nat) : Inv { pa with nReal := nr } :=
  InvF.toInv (pa := { pa with nReal := nr }) h.toF

theorem setNReal_n (pa : PA) (nr : Nat) : ({ pa with nReal := nr } : PA).n = pa.n := rfl

/-- `align_particles` with the index array, the count and the number of moves named by projection -/
theorem align_eq (pa : PA) :
    pa.align = if (alignIndex pa.tags).2.2 > 0 then
        ({ pa with nReal := (alignIndex pa.tags).2.1 } : PA).mapRows (gather (alignIndex pa.tags).1)
      else { pa with nReal := (alignIndex pa.tags).2.1 } := by
  unfold PA.align
  rcases alignIndex pa.tags with ⟨idx, nreal, moves⟩
  rfl

theorem inv_align {pa : PA} (h : Inv pa) : Inv pa.align := by
  rw [align_eq]
  have hn := inv_setNReal h (alignIndex pa.tags).2.1
  split
  · exact (mapRows_colwise hn _ _ (gather_rows (alignIndex pa.tags).1 pa.n)).inv
  · exact hn

/-- the `align_particles()` that ends an operation called with `align=b` -/
def PA.alignIf (pa : PA) (b : Bool) : PA := if b then pa.align else pa

theorem inv_alignIf {pa : PA} (h : Inv pa) (b : Bool) : Inv (pa.alignIf b) := by
  unfold PA.alignIf
  split
  · exact inv_align h
  · exact h

theorem removeParticles_cases (pa : PA) (idx : List Nat) (al : Bool) (pa' : PA)
    (hr : pa.removeParticles idx al = some pa') :
    pa.removeParticles idx false = some (pa.mapRows (removeRows (sortNat idx))) ∧
    pa' = (pa.mapRows (removeRows (sortNat idx))).alignIf (idx.length > 0 && al) := by
  unfold PA.removeParticles at hr ⊢
  split at hr
  · exact absurd hr (by simp)
  · rename_i hlen
    rw [if_neg hlen]
    exact ⟨by simp, (Option.some.inj hr).symm⟩

theorem inv_removeParticles {pa pa' : PA} (h : Inv pa) (idx : List Nat) (al : Bool)
    (hr : pa.removeParticles idx al = some pa') : Inv pa' :=
  (removeParticles_cases pa idx al pa' hr).2 ▸ inv_alignIf
    (mapRows_colwise h (removeRows (sortNat idx)) _ (removeRows_rows _ pa.n)).inv _

theorem inv_setCol {pa : PA} (h : Inv pa) (c : Col) (hp : c.name ∈ pa.props.map Col.name)
    (hl : c.data.length = pa.n * pa.strideOf c.name) :
    Inv (pa.setCol c) ∧ (pa.setCol c).n = pa.n :=
  ((h.toF.toP c.name hp).inv_setCol c rfl hl).inv_and_n

theorem foldl_set_length (idx : List Nat) (tag : Int) (d : List Int) :
    (idx.foldl (fun d i => d.set i tag) d).length = d.length :=
  foldl_prefix_inv (fun d i => d.set i tag) (fun d' _ => d'.length = d.length) idx d rfl
    (fun _ _ _ _ _ h => List.length_set.trans h)

theorem setData_length (dst src nd : List Int) (h : setData dst src = some nd) :
    nd.length = dst.length := by
  unfold setData at h
  split at h
  · simp only [Option.some.injEq] at h
    subst h; simp; omega
  · exact absurd h (by simp)

theorem addConstant_some {pa pa' : PA} {nm : String} {d : List Int}
    (hr : pa.addConstant nm d = some pa') : pa' = { pa with consts := pa.consts ++ [(nm, d)] } := by
  unfold PA.addConstant at hr
  split at hr
  · exact absurd hr (by simp)
  · exact (Option.some.inj hr).symm

theorem setOutputs_some {pa pa' : PA} {ps : List String} (hr : pa.setOutputs ps = some pa') :
    pa' = { pa with outputs := ps } := by
  unfold PA.setOutputs at hr
  split at hr
  · exact (Option.some.inj hr).symm
  · exact absurd hr (by simp)

theorem addOutputs_some {pa pa' : PA} {ps : List String} (hr : pa.addOutputs ps = some pa') :
    pa' = { pa with outputs := dedup (pa.outputs ++ ps) } := by
  unfold PA.addOutputs at hr
  split at hr
  · exact (Option.some.inj hr).symm
  · exact absurd hr (by simp)

theorem setProp_some {pa pa' : PA} {nm : String} {d : List Int} (hr : pa.setProp nm d = some pa') :
    (∃ c nd, pa.col? nm = some c ∧ setData c.data d = some nd ∧
      pa' = pa.setCol { c with data := nd }) ∨
    (pa.col? nm = none ∧ ∃ cs, pa' = { pa with consts := cs }) := by
  unfold PA.setProp at hr
  split at hr
  · rename_i c hc
    split at hr
    · rename_i nd hnd
      exact Or.inl ⟨c, nd, hc, hnd, (Option.some.inj hr).symm⟩
    · exact absurd hr (by simp)
  · rename_i hc
    split at hr
    · split at hr
      · exact Or.inr ⟨hc, _, (Option.some.inj hr).symm⟩
      · exact absurd hr (by simp)
    · exact absurd hr (by simp)

theorem flat_replicate_length (k : Nat) (row : List Int) :
    (flat (List.replicate k row)).length = k * row.length := by
  rw [flat_length row.length _ (fun r hr => by rw [(List.mem_replicate.mp hr).2])]
  simp

theorem names_filter (P : List Col) (name : String) :
    (P.filter (fun (c : Col) => !(c.name == name))).map Col.name =
      (P.map Col.name).filter (fun x => !(x == name)) :=
  (List.filter_map (f := Col.name) (p := fun x => !(x == name))).symm

theorem removeProperty_eq {pa : PA} (h : Inv pa) (name : String) :
    pa.removeProperty name = { pa with
      props := pa.props.filter (fun (c : Col) => !(c.name == name)),
      defaults := eraseKey pa.defaults name, stride := eraseKey pa.stride name,
      outputs := pa.outputs.filter (· != name) } := by
  unfold PA.removeProperty
  by_cases hp : pa.hasProp name = true
  · simp only [hp, if_true]
  · have hnm := (hasProp_false_iff pa name).mp (by simpa using hp)
    simp only [hp, Bool.false_eq_true, if_false]
    rw [eraseKey_of_not_mem pa.defaults name (by rw [h.defaultKeys]; exact hnm),
      eraseKey_of_not_mem pa.stride name (fun hk => hnm (h.strideKeys _ hk)),
      filter_key_ne_of_not_mem Col.name pa.props name hnm]

theorem inv_removeProperty {pa : PA} (h : Inv pa) (name : String) (hn : name ≠ "tag") :
    Inv (pa.removeProperty name) ∧ (pa.removeProperty name).n = pa.n := by
  rw [removeProperty_eq h]
  apply InvF.inv_and_n
  show InvF (pa.props.filter (fun (c : Col) => !(c.name == name))) (eraseKey pa.stride name)
    (eraseKey pa.defaults name) pa.n
  have hF := h.toF
  refine ⟨?_, ?_, ?_, ?_, ?_, ?_⟩
  · intro c hc
    obtain ⟨hc1, hc2⟩ := List.mem_filter.mp hc
    have : c.name ≠ name := by simpa using hc2
    rw [lookupD_eraseKey_ne _ _ _ _ this]
    exact hF.len c hc1
  · obtain ⟨l, hl⟩ := List.head?_eq_some_iff.mp hF.tagFirst
    rw [names_filter, hl, List.filter_cons_of_pos (by simpa using hn.symm)]
    rfl
  · rw [lookupD_eraseKey_ne _ _ _ _ (fun e => hn e.symm)]; exact hF.tagStride
  · rw [names_filter]; exact hF.nodup.filter _
  · intro k hk
    rw [keys_eraseKey] at hk
    rw [names_filter]
    exact List.mem_filter.mpr
      ⟨hF.strideKeys k (List.mem_filter.mp hk).1, (List.mem_filter.mp hk).2⟩
  · rw [keys_eraseKey, names_filter, hF.defaultKeys]

/-- what `add_particles` does to property `c` -/
def addCol (pa : PA) (given : List (String × List Int)) (k : Nat) (c : Col) : Col :=
  match given.find? (fun (g : String × List Int) => g.1 == c.name) with
  | some g => { c with data := c.data ++ g.2 }
  | none => { c with data := flat (resizeRows (pa.n + k) (defaultRow pa c.name)
      (rowsOf (pa.strideOf c.name) c.data)) }

def newRows (pa : PA) (given : List (String × List Int)) (k : Nat) (c : Col) : List (List Int) :=
  match given.find? (fun (g : String × List Int) => g.1 == c.name) with
  | some g => rowsOf (pa.strideOf c.name) g.2
  | none => List.replicate k (defaultRow pa c.name)

def newParticle (pa : PA) (given : List (String × List Int)) (k : Nat) (j : Nat) :
    List (String × List Int) :=
  pa.props.map (fun (c : Col) => (c.name, (newRows pa given k c).getD j []))

/-- the array `add_particles` builds before it aligns -/
def addedPA (pa : PA) (given : List (String × List Int)) (k : Nat) : PA :=
  { pa with props := pa.props.map (addCol pa given k) }

theorem addParticles_some {pa pa' : PA} {al : Bool} {given : List (String × List Int)}
    (hr : pa.addParticles al given = some pa') :
    (given.getLast? = none ∧ pa' = pa) ∨ ∃ ln ld, given.getLast? = some (ln, ld) ∧
      pa' = (addedPA pa given (ld.length / pa.strideOf ln)).alignIf
        (ld.length / pa.strideOf ln > 0 && al) := by
  unfold PA.addParticles at hr
  split at hr
  · exact Or.inl ⟨‹_›, (Option.some.inj hr).symm⟩
  · split at hr
    · exact absurd hr (by simp)
    · exact Or.inr ⟨_, _, ‹_›, (Option.some.inj hr).symm⟩

theorem addCol_name (pa : PA) (given : List (String × List Int)) (k : Nat) (c : Col) :
    (addCol pa given k c).name = c.name := by unfold addCol; split <;> rfl

theorem addCol_rows {pa : PA} (h : Inv pa) (given : List (String × List Int)) (k : Nat)
    (hv : ∀ g ∈ given, g.2.length = k * pa.strideOf g.1) (c : Col) (hc : c ∈ pa.props) :
    (addCol pa given k c).data =
      flat (rowsOf (pa.strideOf c.name) c.data ++ newRows pa given k c) ∧
    (newRows pa given k c).length = k ∧
    ∀ r ∈ newRows pa given k c, r.length = pa.strideOf c.name := by
  have hs := (h.len c hc).1
  unfold addCol newRows
  split
  · rename_i g hg
    have hgl : g.2.length = k * pa.strideOf c.name := by
      rw [hv g (List.mem_of_find?_eq_some hg), (by simpa using List.find?_some hg : g.1 = c.name)]
    exact ⟨by rw [flat_append, flat_rowsOf _ hs, flat_rowsOf _ hs], rowsOf_uniform _ hs k g.2 hgl⟩
  · exact ⟨extendCol_data h k c hc, List.length_replicate, fun r hr => by
        rw [(List.mem_replicate.mp hr).2]; exact defaultRow_length pa c.name⟩

theorem addedPA_colwise {pa : PA} (h : Inv pa) (given : List (String × List Int)) (k : Nat)
    (hv : ∀ g ∈ given, g.2.length = k * pa.strideOf g.1) :
    Holds pa (addedPA pa given k) (pa.n + k)
      (particles pa ++ (List.range k).map (newParticle pa given k)) := by
  obtain ⟨hi, hn, hp, hd⟩ := colwise (q := addedPA pa given k) h (addCol pa given k)
    (fun c => rowsOf (pa.strideOf c.name) c.data ++ newRows pa given k c) (pa.n + k) rfl rfl rfl
    (fun c _ => addCol_name pa given k c)
    (fun c hc => by
      obtain ⟨hdat, hl, hu⟩ := addCol_rows h given k hv c hc
      exact ⟨hdat, by rw [List.length_append, (h.rows hc).1, hl],
        fun r hr => (List.mem_append.mp hr).elim ((h.rows hc).2 r) (hu r)⟩)
  refine ⟨hi, hn, ?_, hd⟩
  rw [hp, transposeCols_append pa.props Col.name _ _ _ pa.n k rfl (fun c hc => (h.rows hc).1),
    ← particles_eq_transpose]
  unfold transposeCols newParticle
  simp only [List.map_map]
  rfl

/-- the names `extract_particles` / `empty_clone` copy -/
def cloneNames (pa : PA) (props : Option (List String)) : List String :=
  match props with
  | some ps => ps
  | none => pa.props.map Col.name

theorem splice_length (data picked : List Int) (A : Nat) (h : A + picked.length ≤ data.length) :
    (data.take A ++ picked ++ data.drop (A + picked.length)).length = data.length := by
  simp only [List.length_append, List.length_take, List.length_drop]; omega

/-- what `extract_particles` does to property `c` of the (extended) destination -/
def extractCol (pa : PA) (names : List String) (idx : List Nat) (start : Nat) (c : Col) : Col :=
  if names.contains c.name then
    match pa.col? c.name with
    | some sc =>
      let s := pa.strideOf c.name
      let picked := flat (gather idx (rowsOf s sc.data))
      { c with data := c.data.take (s * start) ++ picked ++ c.data.drop (s * start + picked.length) }
    | none => c
  else c

theorem extractCol_name (pa : PA) (names : List String) (idx : List Nat) (start : Nat) (c : Col) :
    (extractCol pa names idx start c).name = c.name := by
  unfold extractCol
  split
  · split <;> rfl
  · rfl

/-- the destination after the copy, before it aligns -/
def extractedPA (pa dest : PA) (names : List String) (idx : List Nat) : PA :=
  { dest.extend idx.length with
    props := (dest.extend idx.length).props.map (extractCol pa names idx dest.n) }

theorem extractInto_eq (pa dest : PA) (idx : List Nat) (al : Bool) (props : Option (List String)) :
    pa.extractInto idx dest al props =
      if idx.length == 0 then some dest else
      if !((cloneNames pa props).all (fun nm => pa.hasProp nm && dest.hasProp nm)) then none else
      some ((extractedPA pa dest (cloneNames pa props) idx).alignIf al) := by
  unfold PA.extractInto
  cases props <;> rfl

theorem extractInto_some {pa dest pa' : PA} {idx : List Nat} {al : Bool}
    {props : Option (List String)} (hr : pa.extractInto idx dest al props = some pa') :
    (idx = [] ∧ pa' = dest) ∨
    ((cloneNames pa props).all (fun nm => pa.hasProp nm && dest.hasProp nm) = true ∧ idx ≠ [] ∧
      pa' = (extractedPA pa dest (cloneNames pa props) idx).alignIf al) := by
  rw [extractInto_eq] at hr
  split at hr
  · rename_i h0
    exact Or.inl ⟨List.length_eq_zero_iff.mp (by simpa using h0), (Option.some.inj hr).symm⟩
  · rename_i h0
    split at hr
    · exact absurd hr (by simp)
    · rename_i hall
      exact Or.inr ⟨by simpa using hall, fun e => h0 (by rw [e]; rfl), (Option.some.inj hr).symm⟩

/-- the destination of `extract_particles` stays coherent whatever the source holds (no `Inv pa`):
of a copied column only the stride, equal in both arrays, and that it yields at most one row per
index are used -/
theorem inv_extractedPA {pa dest : PA} (hd : Inv dest) (names : List String) (idx : List Nat)
    (hss : ∀ nm ∈ names, pa.strideOf nm = dest.strideOf nm) :
    Inv (extractedPA pa dest names idx) := by
  apply InvF.toInv (m := dest.n + idx.length)
  have hF := (inv_extend hd idx.length).1.toF
  rw [(inv_extend hd idx.length).2] at hF
  refine hF.mapCols _ _ (fun c _ => extractCol_name ..) (fun c hc => ?_)
  have hlen := (hF.len c hc).2
  unfold extractCol
  split
  · rename_i hcont
    split
    · rename_i sc hsc
      have hs1 : lookupD (dest.extend idx.length).stride c.name 1 = pa.strideOf c.name := by
        rw [extend_stride]; exact (hss c.name (by simpa using hcont)).symm
      rw [hs1] at hlen ⊢
      -- the copied block is at most `idx.length` rows long, so the splice keeps the length
      have hpick : (flat (gather idx (rowsOf (pa.strideOf c.name) sc.data))).length
          ≤ idx.length * pa.strideOf c.name :=
        Nat.le_trans (flat_length_le (pa.strideOf c.name) _
            (fun r hr => rowsOf_row_le _ _ r (mem_gather idx _ r hr)))
          (Nat.mul_le_mul_right _ (len_gather_le idx _))
      show (c.data.take (pa.strideOf c.name * dest.n) ++ _ ++ c.data.drop _).length = _
      rw [splice_length _ _ _ (by
        rw [hlen, Nat.add_mul, Nat.mul_comm (pa.strideOf c.name) dest.n]
        exact Nat.add_le_add_left hpick _)]
      exact hlen
    · exact hlen
  · exact hlen

/-- in the form `C06.inv_extractInto` states it; the coherence of the source is not used
(`inv_extractedPA`) -/
theorem inv_extractInto {pa dest pa' : PA} (_h : Inv pa) (hd : Inv dest) (idx : List Nat)
    (al : Bool) (props : Option (List String))
    (hss : ∀ nm ∈ cloneNames pa props, pa.strideOf nm = dest.strideOf nm)
    (hr : pa.extractInto idx dest al props = some pa') : Inv pa' := by
  rcases extractInto_some hr with ⟨_, rfl⟩ | ⟨_, _, rfl⟩
  · exact hd
  · exact inv_alignIf (inv_extractedPA hd _ idx hss) _

theorem inv_setCol_sameLen {a : PA} (h : Inv a) (c : Col) (hc : c ∈ a.props) (nd : List Int)
    (hl : nd.length = c.data.length) :
    Inv (a.setCol { c with data := nd }) ∧ (a.setCol { c with data := nd }).n = a.n :=
  inv_setCol h { c with data := nd } (List.mem_map.mpr ⟨c, hc, rfl⟩)
    (by show nd.length = _; rw [hl]; exact (h.len c hc).2)

/-- `nparr_dest[A:] = nparr_source` of `append_parray` keeps the length; the hypothesis is the
test `appendStep` makes before it writes (numpy broadcasting needs equal lengths), as the model
writes it -/
theorem take_append_length (data tail : List Int) (A : Nat)
    (h : (data.length - A == tail.length) = true) :
    (data.take A ++ tail).length = data.length := by
  have : data.length - A = tail.length := by simpa using h
  simp only [List.length_append, List.length_take]; omega

end PysphVerif.PArray
