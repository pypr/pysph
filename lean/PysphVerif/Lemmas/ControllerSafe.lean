import PysphVerif.Lemmas.Controller
/-!
C18: the solver thread never raises (never reaches `SPc.crashed`), for every protocol variant, every
program and every schedule.  The two places where `run_queued_commands` could raise are
`self.queue_dict[lock_id]` (KeyError) and `self.queue_lock_map[lock_id].release()` (KeyError, or
RuntimeError for a lock that is not held).  The invariant `Safe` excludes the first by `qd`, the
second by `unrel` and `hold`: `get_result` holds the lock of a task only after the solver released it.
-/
namespace PysphVerif.Controller

structure Safe (s : State) : Prop where
  unrel : ∀ k ∈ s.queuedLog, (k ∉ execIds s ∨ relcId s.spc = some k) →
      k ∈ s.cLocked ∧ k ∈ s.lockmap
  hold : ∀ t k, holding (s.th t).pc = some k → relcId s.spc ≠ some k
  qd : ∀ id ∈ s.queue, (lookupCmd s.qdict id).isSome = true
  alive : s.spc ≠ SPc.crashed

theorem safe_init (progs : Tid → List Op) : Safe (init progs) := by
  constructor <;> simp [init, holding, relcId]

theorem lookupCmd_append (l : List (Nat × Cmd)) (id k : Nat) (c : Cmd) :
    (lookupCmd (l ++ [(id, c)]) k).isSome = ((lookupCmd l k).isSome || decide (id = k)) := by
  by_cases h : id = k <;> simp [lookupCmd, List.find?_append, h]

theorem lookupCmd_filter (l : List (Nat × Cmd)) (id k : Nat) (h : k ≠ id) :
    lookupCmd (l.filter (fun e => e.1 ≠ id)) k = lookupCmd l k := by
  unfold lookupCmd
  rw [List.find?_filter]
  congr 2
  funext a
  by_cases hk : a.1 = k <;> simp [hk, h]

theorem mem_execIds_append {l : List (Nat × Nat × Val)} {e : Nat × Nat × Val} {k : Nat} :
    k ∈ (l ++ [e]).map (·.1) ↔ k ∈ l.map (·.1) ∨ k = e.1 := by
  simp

theorem Safe.frame {cfg : Cfg} {s D : State} {t : Tid} {old new : IPc} (h : Safe s) (hq : QW s)
    (hpc : (s.th t).pc = old) (he : Edge cfg s t old new D)
    (hu : ∀ k ∈ D.queuedLog, (k ∉ execIds s ∨ relcId s.spc = some k) →
      k ∈ D.cLocked ∧ k ∈ D.lockmap)
    (hqd : ∀ id ∈ D.queue, (lookupCmd D.qdict id).isSome = true)
    (hc : ∀ k, holding new = some k → relcId s.spc ≠ some k) : Safe (setPc D t new) := by
  have hs : IfaceStep cfg s t _ := ⟨hpc, he⟩
  have hr : relcId (setPc D t new).spc = relcId s.spc := hs.spc_class relcId hq rfl
  refine ⟨fun k hk hor => hu k hk (by rwa [hs.execIds_eq, hr] at hor), fun u k hu => ?_, hqd, ?_⟩
  · rw [hr]
    by_cases hut : u = t
    · exact hc k (by rwa [hut, setPc_th_same] at hu)
    · rcases hs.pc_others hut with e | e
      · exact h.hold u k (e ▸ hu)
      · rw [e] at hu; cases hu
  · exact fun e => h.alive (hs.spc_class (· = SPc.crashed) hq (by simp) ▸ e)

theorem Safe.ne_held {s : State} (h : Safe s) (hi : Inv s) {t : Tid} {k k' : Nat}
    (hh : holding (s.th t).pc = some k) (hor : k' ∉ execIds s ∨ relcId s.spc = some k') :
    k' ≠ k := by
  rintro rfl
  exact hor.elim (· (hi.holds t _ hh)) (h.hold t _ hh)

theorem safe_stepIface {cfg : Cfg} {s s' : State} {t : Tid} (h : Safe s)
    (hi : Inv s) (hq : QW s) (hs : IfaceStep cfg s t s') : Safe s' := by
  obtain ⟨hpc, he⟩ := hs
  have frame := h.frame hq hpc he
  have hh := h.hold t
  rw [hpc] at hh
  cases he with
  | start => exact frame h.unrel h.qd (by rw [(entry_quiet (firstPc_entry ..)).2]; nofun)
  | qAcqC =>
    exact frame (fun k hk hor => (h.unrel k hk hor).imp_left (List.mem_append_left _)) h.qd nofun
  | @qAcqQ c id | @qAcqQ_orig c id =>
    -- the new entry of `queue` comes with its entries in `queue_dict` and `queue_lock_map`,
    -- and its lock was taken before
    refine frame (fun k hk hor => ?_) (fun k hk => ?_) nofun
    · rcases List.mem_append.mp hk with hk | hk
      · exact (h.unrel k hk hor).imp_right (List.mem_append_left _)
      · cases List.mem_singleton.mp hk
        exact ⟨hi.pendLocked t c id hpc, List.mem_append_right _ (List.mem_singleton_self _)⟩
    · show (lookupCmd (s.qdict ++ [(id, c)]) k).isSome = true
      rw [lookupCmd_append, Bool.or_eq_true, decide_eq_true_eq]
      exact (List.mem_append.mp hk).imp (h.qd k) (fun hk => (List.mem_singleton.mp hk).symm)
  | @rAcqC k hnl =>
    -- the lock was free, so the solver is not about to release it
    refine frame (fun k hk hor => (h.unrel k hk hor).imp_left (List.mem_append_left _)) h.qd ?_
    rintro _ ⟨⟩ hr
    exact hnl (h.unrel k (hi.wants t k (by rw [hpc]; rfl)) (Or.inr hr)).1
  | @rAcqRes k =>
    exact frame (fun k' hk hor => (h.unrel k' hk hor).imp_right
        (List.mem_filter.mpr ⟨·, decide_eq_true (h.ne_held hi (by rw [hpc]; rfl) hor)⟩)) h.qd hh
  | @rRelC k =>
    exact frame (fun k' hk hor => (h.unrel k' hk hor).imp_left
        (List.mem_filter.mpr ⟨·, decide_eq_true (h.ne_held hi (by rw [hpc]; rfl) hor)⟩)) h.qd nofun
  | _ => exact frame h.unrel h.qd hh

theorem Safe.relc_locked {s : State} (h : Safe s) (hi : Inv s) {ctx : Ctx} {id : Nat}
    (hspc : s.spc = SPc.runRelC ctx id) : id ∈ s.cLocked ∧ id ∈ s.lockmap :=
  h.unrel id (execIds_sub_queued hi (hi.relc ctx id hspc)) (Or.inr (by rw [hspc]; rfl))

theorem Next.safe {cfg : Cfg} {s : State} {k : Entry} {pc : SPc} {q : List Nat}
    (h : Next cfg s k pc q) (hqd : ∀ id ∈ s.queue, (lookupCmd s.qdict id).isSome = true) :
    pc ≠ SPc.crashed := by
  induction h with
  | crash hq hl => have := hqd _ (by rw [hq]; exact List.mem_cons_self); rw [hl] at this; cases this
  | recheck _ _ _ ih => exact ih
  | _ => nofun

theorem Safe.sframe {s s' : State} (h : Safe s)
    (e1 : s'.queuedLog = s.queuedLog) (e2 : execIds s' = execIds s)
    (e3 : ∀ k ∈ s.cLocked, k ∉ execIds s → k ∈ s'.cLocked)
    (e4 : s'.lockmap = s.lockmap) (e6 : s'.qdict = s.qdict) (e5 : ∀ id ∈ s'.queue, id ∈ s.queue)
    (hr : relcId s'.spc = none) (ha : s'.spc ≠ SPc.crashed) : Safe s' := by
  refine ⟨?_, ?_, ?_, ha⟩
  · intro k hk hor
    have hnx : k ∉ execIds s := hor.elim (e2 ▸ ·) fun hor => by rw [hr] at hor; cases hor
    rw [e4]
    exact (h.unrel k (e1 ▸ hk) (Or.inl hnx)).imp_left (e3 k · hnx)
  · intro u k _ hk; rw [hr] at hk; cases hk
  · intro id hid; rw [e6]; exact h.qd id (e5 id hid)

theorem safe_stepSolver {cfg : Cfg} {s s' : State} (h : Safe s) (hi : Inv s)
    (hs : SolverStep cfg s s') : Safe s' := by
  have frame := h.sframe (s' := s')
  cases hs with
  | runAcqRes hspc =>
    -- the popped id has not run yet: its lock is still held, no `get_result` holds it, and it
    -- is not in the queue any more
    obtain ⟨hx, hnq⟩ := inflight_facts hi hspc
    refine ⟨fun k hk hor => h.unrel k hk (Or.inl ?_), fun t k ht hr => ?_, fun k hk => ?_, nofun⟩
    · rcases hor with hor | hor
      · exact fun hm => hor (mem_execIds_append.mpr (Or.inl hm))
      · cases hor; exact hx
    · cases hr; exact hx (hi.holds t _ ht)
    · show (lookupCmd (s.qdict.filter _) k).isSome = true
      rw [lookupCmd_filter _ _ _ (by rintro rfl; exact hnq hk)]; exact h.qd k hk
  | runRelC hspc =>
    -- the lock released is that of a command that has run
    exact frame rfl rfl (fun k hk hx => List.mem_filter.mpr
      ⟨hk, decide_eq_true fun e => hx (e ▸ hi.relc _ _ hspc)⟩) rfl rfl (fun _ h => h) rfl nofun
  | runRelC_crash hspc hn => exact absurd (h.relc_locked hi hspc) hn
  | acqQ1 _ _ ho | runRelRes _ ho | relP _ _ ho | reacqQ_orig _ _ _ ho | acqQ2 _ _ ho
  | reacqQ _ _ _ ho =>
    exact frame rfl rfl (fun _ h _ => h) rfl rfl
      (fun _ hid => ho.inflight.1 ▸ List.mem_append_right _ hid) ho.inflight.2 (ho.safe h.qd)
  | _ => exact frame rfl rfl (fun _ h _ => h) rfl rfl (fun _ h => h) rfl nofun

theorem reachable_safe {cfg : Cfg} {progs : Tid → List Op} {s : State}
    (hr : Reachable cfg progs s) : Safe s :=
  hr.induct (safe_init progs) (fun hr _ ih hs => safe_stepSolver ih (reachable_inv hr).1 hs)
    fun hr _ ih _ hs => safe_stepIface ih (reachable_inv hr).1 (reachable_inv hr).2 hs

end PysphVerif.Controller
