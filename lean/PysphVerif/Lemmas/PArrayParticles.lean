import PysphVerif.Lemmas.PArrayInvOps
/-!
Whole particles under the row operations: gathering every property through one
index list gathers records, so removal and alignment move whole records; what
alignment does to the tags; the records `extend` appends.
-/
namespace PysphVerif.PArray

theorem gather_particles (pa : PA) (src : List Nat) (hsrc : ∀ i ∈ src, i < pa.n) :
    gather src (particles pa) = src.map (particleAt pa) := by
  rw [gather_eq_map src (particles pa) [] (by rw [particles_length]; exact hsrc)]
  exact List.map_congr_left (fun i hi => particles_getD pa i (hsrc i hi))

theorem mapRows_congr {pa : PA} (h : Inv pa) (f g : List (List Int) → List (List Int))
    (hfg : ∀ R : List (List Int), R.length = pa.n → f R = g R) : pa.mapRows f = pa.mapRows g := by
  unfold PA.mapRows
  congr 1
  apply List.map_congr_left
  intro c hc
  rw [hfg _ (h.rows hc).1]

theorem mapRows_gather_particles {pa : PA} (h : Inv pa) (src : List Nat)
    (hsrc : ∀ i ∈ src, i < pa.n) :
    particles (pa.mapRows (gather src)) = gather src (particles pa) := by
  obtain ⟨_, _, hp, _⟩ := mapRows_colwise h (gather src) src.length (fun s R hR hrows =>
    ⟨gather_length src R (by rw [hR]; exact hsrc), fun r hr => hrows r (mem_gather src R r hr)⟩)
  rw [hp, gather_particles pa src hsrc, transposeCols_congr _ _ _
    (fun c => (c.name, src.map (fun i => (rowsOf (pa.strideOf c.name) c.data).getD i [])))
    (fun c hc => by rw [gather_eq_map src _ [] (by rw [(h.rows hc).1]; exact hsrc)])]
  exact transposeCols_of_map pa.props Col.name src _

theorem mapRows_removeRows_particles {pa : PA} (h : Inv pa) (idx : List Nat) :
    particles (pa.mapRows (removeRows idx)) = removeRows idx (particles pa) := by
  have h1 : pa.mapRows (removeRows idx) =
      pa.mapRows (gather (removeRows idx (List.range pa.n))) :=
    mapRows_congr h _ _ (fun R hR => by rw [removeRows_eq_gather idx R, hR])
  rw [h1, mapRows_gather_particles h _ (removeRows_range_lt idx pa.n),
    removeRows_eq_gather idx (particles pa), particles_length]

theorem removeParticles_noalign (pa : PA) (idx : List Nat) (pa' : PA)
    (hr : pa.removeParticles idx false = some pa') :
    pa' = pa.mapRows (removeRows (sortNat idx)) :=
  Option.some.inj (hr.symm.trans (removeParticles_cases pa idx false pa' hr).1)

theorem particles_setNReal (pa : PA) (nr : Nat) :
    particles ({ pa with nReal := nr } : PA) = particles pa := rfl

theorem align_particles_perm {pa : PA} (h : Inv pa) :
    (particles pa.align).Perm (particles pa) := by
  have hperm := alignIndex_perm pa.tags
  rw [h.tags_length] at hperm
  rw [align_eq]
  generalize alignIndex pa.tags = ai at hperm ⊢
  split
  · rw [mapRows_gather_particles (inv_setNReal h ai.2.1) _
      (fun i hi => List.mem_range.mp (hperm.subset hi))]
    exact gather_perm _ _ (by rw [particles_length]; exact hperm)
  · exact List.Perm.refl _

theorem extend_particles {pa : PA} (h : Inv pa) (k : Nat) :
    particles (pa.extend k) = particles pa ++ List.replicate k (defaultParticle pa) :=
  (extend_colwise h k).particles

theorem col?_mapRows (pa : PA) (f : List (List Int) → List (List Int)) (nm : String) :
    (pa.mapRows f).col? nm = (pa.col? nm).map (fun (c : Col) =>
      { c with data := flat (f (rowsOf (pa.strideOf c.name) c.data)) }) := by
  unfold PA.mapRows PA.col?
  exact List.find?_map

theorem tags_mapRows_gather {pa : PA} (h : Inv pa) (src : List Nat) :
    (pa.mapRows (gather src)).tags = gather src pa.tags := by
  obtain ⟨t, _, _, ht, hc, _, _⟩ := n_of_tagFirst pa h.tagFirst
  unfold PA.tags
  rw [col?_mapRows, hc]
  show flat (gather src (rowsOf (pa.strideOf t.name) t.data)) = gather src t.data
  rw [ht, h.tagStride, rowsOf_one, ← gather_map, flat_map_singleton]

theorem align_tags {pa : PA} (h : Inv pa) :
    pa.align.tags = gather (alignIndex pa.tags).1 pa.tags ∧
      pa.align.nReal = (alignIndex pa.tags).2.1 := by
  have hz := alignIndex_moves_zero pa.tags
  rw [align_eq]
  generalize alignIndex pa.tags = ai at hz ⊢
  split
  · exact ⟨tags_mapRows_gather (inv_setNReal h ai.2.1) _, rfl⟩
  · rw [hz (by omega)]
    exact ⟨(gather_range_self pa.tags).symm, rfl⟩

end PysphVerif.PArray
