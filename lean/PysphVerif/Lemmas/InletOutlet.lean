import PysphVerif.Model.InletOutlet
import PysphVerif.Lemmas.ArrayRows
/-!
C16, the ParticleArray operations of the updates as list functions: what
`np.where` with `copy_values`, with a fancy-index update and with swap-remove
compute, and that `align_particles` is a permutation putting the Local rows first.
The model's `swapRemove`, `removeRows` and `gather` have the text of those in
`Lemmas/ArrayRows.lean` (a model imports no lemma module), so a lemma of
`ArrayRows` applies to them as it stands, by unfolding; the model's index loop
`alignIndex` carries the running index beside each flag.  Core Lean only.
-/
namespace PysphVerif.InletOutlet
open List

section generic
variable {β : Type}

theorem whereFrom_eq (pred : β → Bool) (v : List β) (k : Nat) :
    whereFrom pred k v = ((v.zipIdx k).filter (fun p => pred p.1)).map (·.2) := by
  induction v generalizing k with
  | nil => rfl
  | cons a v ih =>
    rw [whereFrom, zipIdx_cons, filter_cons, ih (k + 1)]
    split <;> rfl

theorem whereFrom_sublist (pred : β → Bool) (v : List β) (k : Nat) :
    (whereFrom pred k v).Sublist (range' k v.length) := by
  rw [whereFrom_eq, ← zipIdx_map_snd]
  exact (filter_sublist ..).map _

theorem whereFrom_bounds (pred : β → Bool) (v : List β) (k : Nat) :
    ∀ i ∈ whereFrom pred k v, k ≤ i ∧ i < k + v.length :=
  fun _ hi => mem_range'_1.mp ((whereFrom_sublist pred v k).subset hi)

theorem whereFrom_zero_lt (pred : β → Bool) (v : List β) : ∀ i ∈ whereFrom pred 0 v, i < v.length :=
  fun i hi => Nat.zero_add v.length ▸ (whereFrom_bounds pred v 0 i hi).2

theorem whereFrom_sorted (pred : β → Bool) (v : List β) (k : Nat) :
    (whereFrom pred k v).Pairwise (· < ·) :=
  (pairwise_lt_range' 1).sublist (whereFrom_sublist pred v k)

theorem whereFrom_length (pred : β → Bool) (v : List β) (k : Nat) :
    (whereFrom pred k v).length = (v.filter pred).length := by
  rw [whereFrom_eq, length_map, ← length_map (f := Prod.fst)]
  exact congrArg length ((filter_map (p := pred)).symm.trans (congrArg _ (zipIdx_map_fst k v)))

theorem gather_whereFrom (pred : β → Bool) (pre v post : List β) :
    gather (whereFrom pred pre.length v) (pre ++ v ++ post) = v.filter pred := by
  induction v generalizing pre with
  | nil => rfl
  | cons a v ih =>
    -- `a` stands at position `pre.length`; behind it the same situation, one slot further
    have e : pre ++ a :: v ++ post = (pre ++ [a]) ++ v ++ post := by simp
    have ha : (pre ++ a :: v ++ post)[pre.length]? = some a := by simp
    have ih' := ih (pre ++ [a])
    rw [length_append, length_singleton, ← e] at ih'
    rw [whereFrom, filter_cons]
    split
    · rw [gather, filterMap_cons, ha]
      exact congrArg (a :: ·) ih'
    · exact ih'

theorem modify_append_cons {γ : Type} (pre post : List γ) (b : γ) (f : γ → γ) :
    (pre ++ b :: post).modify pre.length f = pre ++ f b :: post := by
  induction pre with
  | nil => simp
  | cons a pre ih => simp [ih]

/-- the fancy-index update `arr[idx] op= c` with `idx = np.where(cond(v))`, applied to an array
`gv` of the same length -/
theorem foldl_modify_whereFrom {γ : Type} (pred : β → Bool) (f : γ → γ) (v : List β)
    (pre gv post : List γ) (h : v.length = gv.length) :
    (whereFrom pred pre.length v).foldl (fun acc i => acc.modify i f) (pre ++ gv ++ post)
      = pre ++ List.zipWith (fun p q => if pred p then f q else q) v gv ++ post := by
  induction v generalizing pre gv with
  | nil =>
    cases gv with
    | nil => simp [whereFrom]
    | cons b gv => simp at h
  | cons a v ih =>
    cases gv with
    | nil => simp at h
    | cons b gv =>
      simp only [List.length_cons, Nat.add_right_cancel_iff] at h
      have ih' := ih (pre ++ [if pred a then f b else b]) gv h
      simp only [List.length_append, List.length_singleton, List.append_assoc,
        List.singleton_append] at ih'
      simp only [whereFrom, List.zipWith_cons_cons, List.append_assoc, List.cons_append]
      by_cases hp : pred a = true
      · rw [if_pos hp] at ih' ⊢
        rw [if_pos hp, List.foldl_cons, modify_append_cons]
        exact ih'
      · rw [if_neg hp] at ih' ⊢
        rw [if_neg hp]
        exact ih'

theorem removeRows_perm (idx : List Nat) (l : List β)
    (hs : idx.Pairwise (· < ·)) (hb : ∀ i ∈ idx, i < l.length) :
    (removeRows idx l ++ gather idx l).Perm l :=
  ArrayRows.removeRows_perm idx l hs hb

theorem alignIndex_eq (L : List Bool) : alignIndex L = ArrayRows.alignPerm L :=
  (ArrayRows.foldl_zip_range_eq_alignPerm alignStep id (fun _ _ => rfl) L).trans
    (congrArg ArrayRows.alignPerm (List.map_id L))

end generic

section particles
variable {α : Type}

theorem align_eq_gather (l : List (Particle α)) :
    align l = ArrayRows.gather (ArrayRows.alignPerm (l.map isLocal)).1 l := by
  unfold align
  rw [alignIndex_eq]
  split
  · rfl
  · rename_i hm
    rw [(ArrayRows.alignInv _).ident (Nat.eq_zero_of_not_pos hm), List.length_map,
      ArrayRows.gather_range]

theorem align_perm (l : List (Particle α)) : (align l).Perm l := by
  rw [align_eq_gather]
  exact ArrayRows.gather_perm _ _ (List.length_map (as := l) isLocal ▸ ArrayRows.alignPerm_perm _)

theorem nReal_perm {l l' : List (Particle α)} (h : l.Perm l') : nReal l = nReal l' :=
  (List.Perm.filter isLocal h).length_eq

theorem align_split (l : List (Particle α)) : ∃ A B, align l = A ++ B ∧ A.length = nReal l ∧
    (∀ a ∈ A, isLocal a = true) ∧ (∀ b ∈ B, isLocal b = false) := by
  rw [align_eq_gather, nReal, ← List.countP_eq_length_filter, ← ArrayRows.alignPerm_next]
  exact ArrayRows.gather_alignPerm isLocal l

theorem align_real_first (l : List (Particle α)) (j : Nat) (p : Particle α)
    (h : (align l)[j]? = some p) : (j < nReal l → isLocal p = true) ∧
      (nReal l ≤ j → isLocal p = false) := by
  obtain ⟨A, B, hAB, hA, hloc, hnon⟩ := align_split l
  rw [hAB, List.getElem?_append, hA] at h
  split at h
  · rename_i hj
    exact ⟨fun _ => hloc p (List.mem_of_getElem? h), fun h' => absurd hj (Nat.not_lt.mpr h')⟩
  · rename_i hj; exact ⟨fun h' => absurd h' hj, fun _ => hnon p (List.mem_of_getElem? h)⟩

theorem realView_align_perm (l : List (Particle α)) :
    (realView (align l)).Perm (l.filter isLocal) := by
  obtain ⟨A, B, hAB, hA, hloc, hnon⟩ := align_split l
  have h1 : realView (align l) = (align l).filter isLocal := by
    rw [realView, nReal_perm (align_perm l), hAB, ← hA, List.take_left, List.filter_append,
      List.filter_eq_self.mpr hloc, List.filter_eq_nil_iff.mpr fun b hb => by simp [hnon b hb],
      List.append_nil]
  exact h1 ▸ (align_perm l).filter _

end particles

section ops
variable {α : Type}

theorem copyInto_all (d p : Particle α) : copyInto Mask.all d p = p := by
  cases p; rfl

theorem realView_length_le (l : List (Particle α)) : (realView l).length ≤ l.length :=
  List.length_take_le' _ _

theorem nReal_le_length (l : List (Particle α)) : nReal l ≤ l.length :=
  List.length_filter_le _ _

theorem realView_length (l : List (Particle α)) : (realView l).length = nReal l :=
  List.length_take_of_le (nReal_le_length l)

theorem gather_where_realView (pred : Particle α → Bool) (l : List (Particle α)) :
    gather (whereFrom pred 0 (realView l)) l = (realView l).filter pred := by
  simpa only [List.length_nil, List.nil_append, realView, List.take_append_drop] using
    gather_whereFrom pred [] (realView l) (l.drop (nReal l))

theorem extractInto_perm (m : Mask) (d : Particle α) (pred : Particle α → Bool)
    (src dst : List (Particle α)) :
    (extractInto m d src (whereFrom pred 0 (realView src)) dst).Perm
      (dst ++ ((realView src).filter pred).map (copyInto m d)) := by
  unfold extractInto
  split
  · rename_i h0
    have : (realView src).filter pred = [] := by
      rw [whereFrom_length] at h0
      exact List.eq_nil_of_length_eq_zero h0
    rw [this]; simp
  · rw [gather_where_realView]
    exact align_perm _

theorem extractInto_far_filter (m : Mask) (d : Particle α) (pred far : Particle α → Bool)
    (src dst : List (Particle α)) (hal : (realView dst).Perm (dst.filter isLocal))
    (hnew : ∀ p ∈ (realView src).filter pred, far (copyInto m d p) = false) :
    ((realView (extractInto m d src (whereFrom pred 0 (realView src)) dst)).filter far).Perm
      (dst.filter (fun p => far p && isLocal p)) := by
  unfold extractInto
  split
  · have := List.Perm.filter far hal
    rwa [List.filter_filter] at this
  · rw [gather_where_realView]
    have h1 := List.Perm.filter far
      (realView_align_perm (dst ++ ((realView src).filter pred).map (copyInto m d)))
    rw [List.filter_filter, List.filter_append] at h1
    have h2 : (((realView src).filter pred).map (copyInto m d)).filter
        (fun p => far p && isLocal p) = [] := by
      apply List.filter_eq_nil_iff.mpr
      intro q hq
      obtain ⟨p, hp, rfl⟩ := List.mem_map.mp hq
      simp [hnew p hp]
    rwa [h2, List.append_nil] at h1

theorem removeParticles_perm (pred : Particle α → Bool) (l l' : List (Particle α))
    (h : removeParticles (whereFrom pred 0 (realView l)) l = some l') :
    (l' ++ (realView l).filter pred).Perm l := by
  unfold removeParticles at h
  split at h
  · cases h
  · have hp := removeRows_perm (whereFrom pred 0 (realView l)) l
      (whereFrom_sorted _ _ _)
      (fun i hi => Nat.lt_of_lt_of_le (whereFrom_zero_lt pred _ i hi) (realView_length_le l))
    rw [gather_where_realView] at hp
    cases h
    split
    · exact (List.Perm.append_right _ (align_perm _)).trans hp
    · exact hp

/-- what `remove_particles(np.where(pred))` on the real-particle view leaves -/
def removeWhere (pred : Particle α → Bool) (l : List (Particle α)) : List (Particle α) :=
  if (whereFrom pred 0 (realView l)).length > 0 then
    align (removeRows (whereFrom pred 0 (realView l)) l)
  else removeRows (whereFrom pred 0 (realView l)) l

/-- it never raises: there are at most as many indices as rows -/
theorem removeParticles_where (pred : Particle α → Bool) (l : List (Particle α)) :
    removeParticles (whereFrom pred 0 (realView l)) l = some (removeWhere pred l) := by
  refine if_neg (Nat.not_lt.mpr ?_)
  rw [whereFrom_length]
  exact Nat.le_trans (List.length_filter_le pred _) (realView_length_le l)

theorem modify_where_realView (pred : Particle α → Bool) (f : Particle α → Particle α)
    (v g : List (Particle α)) (hg : nReal v ≤ g.length) :
    (whereFrom pred 0 (realView v)).foldl (fun acc i => acc.modify i f) g
      = List.zipWith (fun p q => if pred p then f q else q) (realView v) (g.take (nReal v))
        ++ g.drop (nReal v) := by
  have h := foldl_modify_whereFrom pred f (realView v) [] (g.take (nReal v)) (g.drop (nReal v))
    ((realView_length v).trans (List.length_take_of_le hg).symm)
  simpa only [List.length_nil, List.nil_append, List.take_append_drop] using h

/-- the update of the array the indices were taken from (the inlet): it cannot raise -/
theorem modifyAt_self (pred : Particle α → Bool) (f : Particle α → Particle α)
    (v : List (Particle α)) :
    modifyAt f (whereFrom pred 0 (realView v)) v
      = some ((realView v).map (fun p => if pred p then f p else p) ++ v.drop (nReal v)) := by
  unfold modifyAt
  have hall : (whereFrom pred 0 (realView v)).all (fun i => decide (i < nReal v)) = true := by
    rw [List.all_eq_true]
    intro i hi
    have := whereFrom_zero_lt pred _ i hi
    rw [realView_length] at this
    simpa using this
  rw [if_pos hall, modify_where_realView pred f v v (nReal_le_length v)]
  have : v.take (nReal v) = realView v := rfl
  rw [this, List.zipWith_self]

/-- the same indices applied to another array `g` (the inlet's ghost), when that succeeds -/
theorem modifyAt_other (pred : Particle α → Bool) (f : Particle α → Particle α)
    (v g g' : List (Particle α)) (hg : nReal v ≤ g.length)
    (h : modifyAt f (whereFrom pred 0 (realView v)) g = some g') :
    g' = List.zipWith (fun p q => if pred p then f q else q) (realView v) (g.take (nReal v))
        ++ g.drop (nReal v) := by
  unfold modifyAt at h
  split at h
  · cases h; exact modify_where_realView pred f v g hg
  · cases h

end ops

end PysphVerif.InletOutlet
