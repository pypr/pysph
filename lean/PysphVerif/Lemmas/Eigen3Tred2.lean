import PysphVerif.Lemmas.Eigen3
/-!
`tred2` of `Model/Eigen3.lean` for 3×3, stage by stage: the reduction step at `i = 2` is a 2×2
Householder reflector `P3`, or nothing when `scale == 0` (`S2Post`); the one at `i = 1` is a sign
flip `D3 (-1)`, or nothing (`S1Post`); `assemble` goes from `P A P = A'` and `T = D A' D` to
`Q = P D` orthogonal with `A = Q T Qᵀ`.  Each stage is first written out on the cells it touches
(`…Fold2`, `…_form`: by `rfl` once the branch is fixed), then compared with the matrix identity.
-/
set_option linter.unusedSectionVars false
namespace PysphVerif.Eigen3
open Matrix

variable {K : Type} [Field K] [LinearOrder K] [IsStrictOrderedRing K]

/-- the 2×2 Householder reflector `I - u uᵀ/h` of `tred2`'s first step, embedded in 3×3 -/
def P3 (u0 u1 h : K) : Matrix (Fin 3) (Fin 3) K :=
  !![1 - u0 * u0 / h, -(u0 * u1 / h), 0; -(u0 * u1 / h), 1 - u1 * u1 / h, 0; 0, 0, 1]
/-- the 1×1 "reflector" of the second step (`δ = -1`) or nothing (`δ = 1`) -/
def D3 (δ : K) : Matrix (Fin 3) (Fin 3) K := !![δ, 0, 0; 0, 1, 0; 0, 0, 1]
def A3 (a b c x y z : K) : Matrix (Fin 3) (Fin 3) K := !![a, b, x; b, c, y; x, y, z]

theorem P3_symm (u0 u1 h : K) : (P3 u0 u1 h)ᵀ = P3 u0 u1 h := transpose_fin_three ..

theorem D3_symm (δ : K) : (D3 δ)ᵀ = D3 δ := transpose_fin_three ..

theorem D3_sq (δ : K) (h : δ * δ = 1) : D3 δ * D3 δ = 1 := by
  rw [D3, mul_fin_three, one_fin_three]
  exact mat3_congr (by linear_combination h) (by ring) (by ring) (by ring) (by ring) (by ring)
    (by ring) (by ring) (by ring)

theorem P3_sq (u0 u1 h : K) (hh : h ≠ 0) (R1 : u0 * u0 + u1 * u1 = h + h) :
    P3 u0 u1 h * P3 u0 u1 h = 1 := by
  rw [P3, mul_fin_three, one_fin_three]
  exact mat3_congr (by field_simp; linear_combination (u0 * u0) * R1)
    (by field_simp; linear_combination (u0 * u1) * R1) (by ring)
    (by field_simp; linear_combination (u0 * u1) * R1)
    (by field_simp; linear_combination (u1 * u1) * R1) (by ring) (by ring) (by ring) (by ring)

/-- the first reduction step of `tred2` (the `else` branch, `i = 2`) as an exact similarity:
`u = (u0, u1)`, the last row `(x, y) = scale·(u0, y')` with `u0² + y' u1 = h`; the primed
entries are what the loops "Apply similarity transformation" leave in `V`.  On the leading
2×2 block this is `P A P = A - u qᵀ - q uᵀ`, true for every `u` and `h ≠ 0`. -/
theorem house2_alg (a b c u0 u1 h scale y' z : K) (hh : h ≠ 0)
    (R2 : u0 * u0 + y' * u1 = h) :
    let p0 := (0 + a * u0 + b * u1) / h
    let p1 := (0 + b * u0 + c * u1) / h
    let ff := 0 + p0 * u0 + p1 * u1
    let hh := ff / (h + h)
    let q0 := p0 - hh * u0
    let q1 := p1 - hh * u1
    let a' := a - (u0 * q0 + q0 * u0)
    let b' := b - (u0 * q1 + q0 * u1)
    let c' := c - (u1 * q1 + q1 * u1)
    P3 u0 u1 h * A3 a b c (scale * u0) (scale * y') z * P3 u0 u1 h =
      A3 a' b' c' 0 (scale * (y' - u1)) z := by
  intro p0 p1 ff κ
  -- with `h h⁻¹ = 1`, `p = A u h⁻¹` and `κ·2h = u·p` every entry is a polynomial identity
  have hw : h * h⁻¹ = 1 := mul_inv_cancel₀ hh
  have hp0 : p0 = (0 + a * u0 + b * u1) * h⁻¹ := div_eq_mul_inv _ _
  have hp1 : p1 = (0 + b * u0 + c * u1) * h⁻¹ := div_eq_mul_inv _ _
  have hκ : κ * (h + h) = 0 + p0 * u0 + p1 * u1 :=
    div_mul_cancel₀ _ (by rw [← two_mul]; exact mul_ne_zero two_ne_zero hh)
  clear_value p0 p1 κ
  dsimp only
  rw [P3, A3, A3, mul_fin_three, mul_fin_three]
  exact mat3_congr
    (by linear_combination (2 * κ * u0 * u0) * hw + (2 * u0 - h⁻¹ * u0 * u0 * u0) * hp0 -
      (h⁻¹ * u0 * u0 * u1) * hp1 - (h⁻¹ * u0 * u0) * hκ)
    (by linear_combination (2 * κ * u0 * u1) * hw + (u1 - h⁻¹ * u0 * u1 * u0) * hp0 +
      (u0 - h⁻¹ * u0 * u1 * u1) * hp1 - (h⁻¹ * u0 * u1) * hκ)
    (by linear_combination (-(scale * u0 * h⁻¹)) * R2 - (scale * u0) * hw)
    (by linear_combination (2 * κ * u0 * u1) * hw + (u1 - h⁻¹ * u0 * u1 * u0) * hp0 +
      (u0 - h⁻¹ * u0 * u1 * u1) * hp1 - (h⁻¹ * u0 * u1) * hκ)
    (by linear_combination (2 * κ * u1 * u1) * hw - (h⁻¹ * u1 * u1 * u0) * hp0 +
      (2 * u1 - h⁻¹ * u1 * u1 * u1) * hp1 - (h⁻¹ * u1 * u1) * hκ)
    (by linear_combination (-(scale * u1 * h⁻¹)) * R2 - (scale * u1) * hw)
    (by linear_combination (-(scale * u0 * h⁻¹)) * R2 - (scale * u0) * hw)
    (by linear_combination (-(scale * u1 * h⁻¹)) * R2 - (scale * u1) * hw) (by ring)

/-- `g = -sign(y)·sqrt(h)` of the Householder step -/
theorem signed_sqrt {sqrt : K → K} (hs : SqrtOK sqrt) (y h : K) (hh : 0 ≤ h) :
    (if 0 < y then -sqrt h else sqrt h) * (if 0 < y then -sqrt h else sqrt h) = h ∧
    y * (if 0 < y then -sqrt h else sqrt h) ≤ 0 := by
  have hn := hs.nonneg h
  split
  · next hy => exact ⟨by rw [neg_mul_neg]; exact hs.sq h hh,
      mul_nonpos_iff.mpr (Or.inl ⟨hy.le, neg_nonpos.mpr hn⟩)⟩
  · next hy => exact ⟨hs.sq h hh, mul_nonpos_iff.mpr (Or.inr ⟨not_lt.mp hy, hn⟩)⟩

theorem sqrt_sign {sqrt : K → K} (hs : SqrtOK sqrt) (f : K) :
    (if 0 < f then -sqrt (0 + f * f) else sqrt (0 + f * f)) = -f := by
  obtain ⟨h1, h2⟩ := signed_sqrt hs f (0 + f * f) (by rw [zero_add]; exact mul_self_nonneg f)
  rcases mul_self_eq_mul_self_iff.mp (h1.trans (zero_add _)) with h | h
  · -- `g = f` and `f g ≤ 0` leave `f = 0`
    rw [h] at h2 ⊢
    rw [mul_self_eq_zero.mp (le_antisymm h2 (mul_self_nonneg f)), neg_zero]
  · exact h

/-- what the first reduction step leaves, in both branches: an orthogonal symmetric `P` with
`P A P = A'` (`A'` = what `V`, `d`, `e[2]` hold after the step), and the data from which the
accumulation rebuilds `P` -/
structure S2Post (a b c x y : K) (s s2 : St K) : Prop where
  sim : ∃ P : Matrix (Fin 3) (Fin 3) K, P * P = 1 ∧ Pᵀ = P ∧
    (∀ z, P * A3 a b c x y z * P = A3 s2.V.a00 s2.V.a10 s2.V.a11 0 s2.e.x2 z) ∧
    (s2.d.x2 ≠ 0 → P = P3 s2.V.a02 s2.V.a12 s2.d.x2) ∧ (s2.d.x2 = 0 → P = 1)
  d0 : s2.d.x0 = s2.V.a10
  v22 : s2.V.a22 = s.V.a22

theorem scaleFold2 (d : Vec K) :
    (List.range 2).foldl (t2ScaleBody abs d) 0 = 0 + |d.x0| + |d.x1| := rfl

theorem normFold2 (scale : K) (d : Vec K) : (List.range 2).foldl (t2NormBody scale) (d, 0) =
    (⟨d.x0 / scale, d.x1 / scale, d.x2⟩, 0 + d.x0 / scale * (d.x0 / scale) + d.x1 / scale * (d.x1 / scale)) := rfl

theorem clearFold2 (e : Vec K) : (List.range 2).foldl t2ClearBody e = ⟨0, 0, e.x2⟩ := rfl

theorem applyFold2 (V : Mat K) (d e : Vec K) (log : List Nat) :
    (List.range 2).foldl (t2ApplyBody 2) ⟨V, d, e, log⟩ =
      ⟨⟨V.a00, V.a01, d.x0, V.a10, V.a11, d.x1, V.a20, V.a21, V.a22⟩, d,
       ⟨e.x0 + V.a00 * d.x0 + V.a10 * d.x1, e.x1 + V.a10 * d.x0 + V.a11 * d.x1, e.x2⟩, log⟩ := rfl

theorem divFold2 (h : K) (d e : Vec K) : (List.range 2).foldl (t2DivBody h d) (e, 0) =
    (⟨e.x0 / h, e.x1 / h, e.x2⟩, 0 + e.x0 / h * d.x0 + e.x1 / h * d.x1) := rfl

theorem subFold2 (hh : K) (d e : Vec K) : (List.range 2).foldl (t2SubBody hh d) e =
    ⟨e.x0 - hh * d.x0, e.x1 - hh * d.x1, e.x2⟩ := rfl

theorem updFold2 (V : Mat K) (d e : Vec K) (log : List Nat) :
    (List.range 2).foldl (t2UpdBody 2) ⟨V, d, e, log⟩ =
      ⟨⟨V.a00 - (d.x0 * e.x0 + e.x0 * d.x0), V.a01, V.a02,
        V.a10 - (d.x0 * e.x1 + e.x0 * d.x1), V.a11 - (d.x1 * e.x1 + e.x1 * d.x1), V.a12,
        0, 0, V.a22⟩,
       ⟨V.a10 - (d.x0 * e.x1 + e.x0 * d.x1), V.a11 - (d.x1 * e.x1 + e.x1 * d.x1), d.x2⟩, e, log⟩ := rfl

theorem t2Outer2_house_form (sqrt : K → K) (s : St K) (hsc : 0 + |s.d.x0| + |s.d.x1| ≠ 0) :
  let scale := 0 + |s.d.x0| + |s.d.x1|
  let x' := s.d.x0 / scale
  let y' := s.d.x1 / scale
  let h0 := 0 + x' * x' + y' * y'
  let g0 := sqrt h0
  let g := if 0 < y' then -g0 else g0
  let h := h0 - y' * g
  let u1 := y' - g
  let a := s.V.a00
  let b := s.V.a10
  let c := s.V.a11
  let p0 := (0 + a * x' + b * u1) / h
  let p1 := (0 + b * x' + c * u1) / h
  let ff := 0 + p0 * x' + p1 * u1
  let hh := ff / (h + h)
  let q0 := p0 - hh * x'
  let q1 := p1 - hh * u1
  let a' := a - (x' * q0 + q0 * x')
  let b' := b - (x' * q1 + q0 * u1)
  let c' := c - (u1 * q1 + q1 * u1)
  t2Outer abs sqrt s 2 = ⟨⟨a', s.V.a01, x', b', c', u1, 0, 0, s.V.a22⟩, ⟨b', c', h⟩,
      ⟨q0, q1, scale * g⟩, s.log ++ [100 + 10 * 2 + 1]⟩ := by
  intros
  unfold t2Outer
  simp only [scaleFold2, beq_iff_eq, hsc, if_false, t2House, normFold2, clearFold2, applyFold2,
    divFold2, subFold2, updFold2, Nat.reduceSub, Vec.get1, setV]
  rfl

/-- the side conditions of the Householder step: for `(x, y) ≠ 0`, with
`g = -sign(y)·sqrt(x² + y²)`, `u = (x, y - g)` and `h = x² + y² - y g` one has `h > 0`
(no cancellation: `y g ≤ 0`), `|u|² = 2h` and `(x, y)·u = h` -/
theorem house2_facts {sqrt : K → K} (hs : SqrtOK sqrt) (x y : K) (hxy : x ≠ 0 ∨ y ≠ 0) :
    let h0 := 0 + x * x + y * y
    let g := if 0 < y then -sqrt h0 else sqrt h0
    0 < h0 - y * g ∧ x * x + (y - g) * (y - g) = h0 - y * g + (h0 - y * g) ∧
      x * x + y * (y - g) = h0 - y * g := by
  intro h0 g
  have hx := mul_self_nonneg x
  have hy := mul_self_nonneg y
  have hpos : 0 < h0 := by
    rcases hxy with h | h
    · have := mul_self_pos.mpr h; simp only [h0]; linarith
    · have := mul_self_pos.mpr h; simp only [h0]; linarith
  obtain ⟨hgsq, hyg⟩ : g * g = h0 ∧ y * g ≤ 0 := signed_sqrt hs y h0 hpos.le
  refine ⟨by linarith, by linear_combination hgsq, by simp only [h0]; ring⟩

/-- the step is the similarity by `P3 x' (y' - g) h`, and `d[2] = h ≠ 0` tells the accumulation
so -/
theorem stage2_house {sqrt : K → K} (hs : SqrtOK sqrt) (s : St K)
    (hsc : 0 + |s.d.x0| + |s.d.x1| ≠ 0) :
    S2Post s.V.a00 s.V.a10 s.V.a11 s.d.x0 s.d.x1 s (t2Outer abs sqrt s 2) := by
  have hxy : s.d.x0 / (0 + |s.d.x0| + |s.d.x1|) ≠ 0 ∨ s.d.x1 / (0 + |s.d.x0| + |s.d.x1|) ≠ 0 := by
    by_contra hcon
    rw [not_or, not_not, not_not] at hcon
    have h0 := (div_eq_zero_iff.mp hcon.1).resolve_right hsc
    have h1 := (div_eq_zero_iff.mp hcon.2).resolve_right hsc
    exact hsc (by rw [h0, h1]; simp)
  obtain ⟨hhpos, R1, R2⟩ := house2_facts hs _ _ hxy
  set scale := 0 + |s.d.x0| + |s.d.x1|
  have hx : s.d.x0 = scale * (s.d.x0 / scale) := by field_simp
  have hy : s.d.x1 = scale * (s.d.x1 / scale) := by field_simp
  set x' := s.d.x0 / scale
  set y' := s.d.x1 / scale
  set g := if 0 < y' then -sqrt (0 + x' * x' + y' * y') else sqrt (0 + x' * x' + y' * y')
  set h := 0 + x' * x' + y' * y' - y' * g
  rw [show t2Outer abs sqrt s 2 = _ from t2Outer2_house_form sqrt s hsc]
  refine ⟨⟨P3 x' (y' - g) h, P3_sq _ _ _ hhpos.ne' R1, P3_symm _ _ _, fun z => ?_, fun _ => rfl,
    fun h0 => absurd h0 hhpos.ne'⟩, rfl, rfl⟩
  have := house2_alg s.V.a00 s.V.a10 s.V.a11 x' (y' - g) h scale y' z hhpos.ne' R2
  simp only at this
  rw [← hx, ← hy] at this
  refine this.trans ?_
  congr 1
  ring

theorem t2Outer2_zero_form (sqrt : K → K) (s : St K) (hsc : 0 + |s.d.x0| + |s.d.x1| = 0) :
  t2Outer abs sqrt s 2 = ⟨⟨s.V.a00, s.V.a01, 0, s.V.a10, s.V.a11, 0, 0, 0, s.V.a22⟩,
      ⟨s.V.a10, s.V.a11, 0⟩, ⟨s.e.x0, s.e.x1, s.d.x1⟩, s.log ++ [100 + 10 * 2]⟩ := by
  unfold t2Outer
  dsimp only
  rw [scaleFold2, if_pos (beq_iff_eq.mpr hsc)]
  rfl

/-- the last row is `(0, 0, z)` already, `P = 1`, and `d[2] = 0` -/
theorem stage2_zero (sqrt : K → K) (s : St K) (hsc : 0 + |s.d.x0| + |s.d.x1| = 0) :
    S2Post s.V.a00 s.V.a10 s.V.a11 s.d.x0 s.d.x1 s (t2Outer abs sqrt s 2) := by
  rw [t2Outer2_zero_form sqrt s hsc]
  have hx : s.d.x0 = 0 := by
    have := abs_nonneg s.d.x0; have := abs_nonneg s.d.x1
    apply abs_eq_zero.mp; linarith
  refine ⟨⟨1, by simp, by simp, ?_, fun h => absurd rfl h, fun _ => rfl⟩, rfl, rfl⟩
  intro z
  simp only [Matrix.one_mul, Matrix.mul_one, hx]

/-- what the second reduction step (a 1×1 "Householder" step: a sign flip, or nothing) does.
`δ = ±1` is the 1×1 reflector: `e[1] = δ·d[0]`, and `δ` is the value the accumulation at `i = 0`
puts into `V[0][0]`, by the formula of its `h != 0.0` branch when `d[1] ≠ 0`, and `1` otherwise. -/
structure S1Post (s s1 : St K) : Prop where
  sim : ∃ δ : K, δ * δ = 1 ∧ s1.e.x1 = δ * s.d.x0 ∧
    (s1.d.x1 ≠ 0 → 1 - (0 + s1.V.a01 * 1) * (s1.V.a01 / s1.d.x1) = δ) ∧ (s1.d.x1 = 0 → δ = 1)
  v00 : s1.V.a00 = s.V.a00
  v10 : s1.V.a10 = 0
  v02 : s1.V.a02 = s.V.a02
  v11 : s1.V.a11 = s.V.a11
  v12 : s1.V.a12 = s.V.a12
  v22 : s1.V.a22 = s.V.a22
  d2 : s1.d.x2 = s.d.x2
  e2 : s1.e.x2 = s.e.x2

theorem scaleFold1 (d : Vec K) : (List.range 1).foldl (t2ScaleBody abs d) 0 = 0 + |d.x0| := rfl

theorem t2Outer1_house_form (sqrt : K → K) (s : St K) (hsc : 0 + |s.d.x0| ≠ 0) :
  let scale := 0 + |s.d.x0|
  let σ := s.d.x0 / scale
  let h0 := 0 + σ * σ
  let g0 := sqrt h0
  let g := if 0 < σ then -g0 else g0
  let h := h0 - σ * g
  let u := σ - g
  let p := (0 + s.V.a00 * u) / h
  let ff := 0 + p * u
  let hh := ff / (h + h)
  let q := p - hh * u
  let v := s.V.a00 - (u * q + q * u)
  t2Outer abs sqrt s 1 = ⟨⟨v, u, s.V.a02, 0, s.V.a11, s.V.a12, s.V.a20, s.V.a21, s.V.a22⟩,
      ⟨v, h, s.d.x2⟩, ⟨q, scale * g, s.e.x2⟩, s.log ++ [100 + 10 * 1 + 1]⟩ := by
  intros
  unfold t2Outer
  dsimp only
  rw [scaleFold1, if_neg (mt beq_iff_eq.mp hsc)]
  rfl

theorem stage1_house {sqrt : K → K} (hs : SqrtOK sqrt) (s : St K) (hsc : 0 + |s.d.x0| ≠ 0) :
    S1Post s (t2Outer abs sqrt s 1) := by
  rw [show t2Outer abs sqrt s 1 = _ from t2Outer1_house_form sqrt s hsc]
  set scale := 0 + |s.d.x0| with hscale
  have hd0 : s.d.x0 ≠ 0 := by
    intro h0; apply hsc; rw [hscale, h0]; simp
  set σ := s.d.x0 / scale with hσ
  have hσne : σ ≠ 0 := div_ne_zero hd0 hsc
  have hg : (if 0 < σ then -sqrt (0 + σ * σ) else sqrt (0 + σ * σ)) = -σ := sqrt_sign hs σ
  rw [hg]
  -- with `g = -σ`: `u = 2σ` and `h = 2σ²`, so `u² = 2h`: the reflector `1 - u²/h` is `-1`, and
  -- the update of the diagonal entry vanishes
  have hh : 0 + σ * σ - σ * -σ = 2 * (σ * σ) := by ring
  rw [hh]
  refine ⟨⟨-1, by ring, ?_, fun _ => by field_simp; ring, fun h0 =>
    absurd h0 (mul_ne_zero two_ne_zero (mul_ne_zero hσne hσne))⟩, by field_simp; ring,
    rfl, rfl, rfl, rfl, rfl, rfl, rfl⟩
  show scale * -σ = -1 * s.d.x0
  rw [hσ]; field_simp

theorem t2Outer1_zero_form (sqrt : K → K) (s : St K) (hsc : 0 + |s.d.x0| = 0) :
  t2Outer abs sqrt s 1 = ⟨⟨s.V.a00, 0, s.V.a02, 0, s.V.a11, s.V.a12, s.V.a20, s.V.a21, s.V.a22⟩,
      ⟨s.V.a00, 0, s.d.x2⟩, ⟨s.e.x0, s.d.x0, s.e.x2⟩, s.log ++ [100 + 10 * 1]⟩ := by
  unfold t2Outer
  dsimp only
  rw [scaleFold1, if_pos (beq_iff_eq.mpr hsc)]
  rfl

theorem stage1_zero (sqrt : K → K) (s : St K) (hsc : 0 + |s.d.x0| = 0) :
    S1Post s (t2Outer abs sqrt s 1) := by
  rw [t2Outer1_zero_form sqrt s hsc]
  exact ⟨⟨1, by ring, by simp, fun h => absurd rfl h, fun _ => rfl⟩, rfl, rfl, rfl, rfl, rfl, rfl,
    rfl, rfl⟩

theorem t2Acc0_form (s : St K) :
    t2Acc s 0 = if s.d.x1 = 0 then
      ⟨⟨1, 0, s.V.a02, s.V.a10, s.V.a11, s.V.a12, s.V.a00, s.V.a21, s.V.a22⟩, s.d, s.e,
        s.log ++ [200 + 10 * 0]⟩
    else
      ⟨⟨1 - (0 + s.V.a01 * 1) * (s.V.a01 / s.d.x1), 0, s.V.a02, s.V.a10, s.V.a11, s.V.a12, s.V.a00,
        s.V.a21, s.V.a22⟩, ⟨s.V.a01 / s.d.x1, s.d.x1, s.d.x2⟩, s.e, s.log ++ [200 + 10 * 0 + 1]⟩ := by
  unfold t2Acc
  dsimp only
  split
  · rename_i h
    have h' : ¬ s.d.x1 = 0 := by simpa using h
    rw [if_neg h']; rfl
  · rename_i h
    have h' : s.d.x1 = 0 := by simpa using h
    rw [if_pos h']; rfl

/-- for `h = d[2] ≠ 0` the leading 2×2 block of `V` (after `V[1][1] = 1.0`) is multiplied from the
left by `I - u uᵀ/h`, `u` the column `V[0..1][2]` in which the reduction step stored its
Householder vector -/
theorem t2Acc1_form (s : St K) :
    t2Acc s 1 = if s.d.x2 = 0 then
      ⟨⟨s.V.a00, s.V.a01, 0, s.V.a10, 1, 0, s.V.a20, s.V.a11, s.V.a22⟩, s.d, s.e,
        s.log ++ [200 + 10 * 1]⟩
    else
      ⟨⟨s.V.a00 - (0 + s.V.a02 * s.V.a00 + s.V.a12 * s.V.a10) * (s.V.a02 / s.d.x2),
        s.V.a01 - (0 + s.V.a02 * s.V.a01 + s.V.a12 * 1) * (s.V.a02 / s.d.x2), 0,
        s.V.a10 - (0 + s.V.a02 * s.V.a00 + s.V.a12 * s.V.a10) * (s.V.a12 / s.d.x2),
        1 - (0 + s.V.a02 * s.V.a01 + s.V.a12 * 1) * (s.V.a12 / s.d.x2), 0,
        s.V.a20, s.V.a11, s.V.a22⟩, ⟨s.V.a02 / s.d.x2, s.V.a12 / s.d.x2, s.d.x2⟩, s.e,
        s.log ++ [200 + 10 * 1 + 1]⟩ := by
  unfold t2Acc
  dsimp only
  split
  · rename_i h
    have h' : ¬ s.d.x2 = 0 := by simpa using h
    rw [if_neg h']; rfl
  · rename_i h
    have h' : s.d.x2 = 0 := by simpa using h
    rw [if_pos h']; rfl

/-- the last loop of `tred2` and the two assignments after it (`V[n-1][n-1] = 1.0`, `e[0] = 0.0`) -/
def t2Final (s : St K) : St K :=
  ⟨⟨s.V.a00, s.V.a01, s.V.a02, s.V.a10, s.V.a11, s.V.a12, 0, 0, 1⟩, ⟨s.V.a20, s.V.a21, s.V.a22⟩,
    ⟨0, s.e.x1, s.e.x2⟩, s.log⟩

theorem tred2_eq (sqrt : K → K) (s : St K) :
    tred2 abs sqrt s = t2Final (t2Acc (t2Acc (t2Outer abs sqrt (t2Outer abs sqrt
      ⟨s.V, ⟨s.V.a20, s.V.a21, s.V.a22⟩, s.e, s.log⟩ 2) 1) 0) 1) := by
  have hcopy : (List.range 3).foldl (t2CopyBody s.V) s.d = ⟨s.V.a20, s.V.a21, s.V.a22⟩ := rfl
  have hfin : ∀ w : St K, (List.range 3).foldl t2FinBody w =
      ⟨⟨w.V.a00, w.V.a01, w.V.a02, w.V.a10, w.V.a11, w.V.a12, 0, 0, 0⟩,
        ⟨w.V.a20, w.V.a21, w.V.a22⟩, w.e, w.log⟩ := fun w => rfl
  have hacc : ∀ w : St K, (List.range 2).foldl t2Acc w = t2Acc (t2Acc w 0) 1 := fun w => rfl
  unfold tred2
  simp only [hcopy, hfin, hacc, List.foldl_cons, List.foldl_nil]
  rfl

/-- the two reduction steps put together; `Q = P·D3 δ` is the matrix the accumulation rebuilds -/
theorem assemble (P A A' T Q : Matrix (Fin 3) (Fin 3) K) (δ : K) (hPP : P * P = 1) (hPt : Pᵀ = P)
    (hδ : δ * δ = 1) (hA' : P * A * P = A') (hT : T = D3 δ * A' * D3 δ) (hQ : Q = P * D3 δ) :
    Qᵀ * Q = 1 ∧ Q * Qᵀ = 1 ∧ A = Q * T * Qᵀ := by
  have hQQ : Qᵀ * Q = 1 := hQ ▸ orth_mul (by rw [hPt, hPP]) (by rw [D3_symm, D3_sq δ hδ])
  have hc : Qᵀ * A * Q = T := hQ ▸ conj_mul (by rw [hPt, hA']) (by rw [D3_symm, hT])
  exact ⟨hQQ, mul_eq_one_comm.mp hQQ, (conj_inv hQQ hc).symm⟩

end PysphVerif.Eigen3
