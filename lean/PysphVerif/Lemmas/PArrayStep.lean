import PysphVerif.Lemmas.PArrayInvOps
/-!
What `validOp` gives the single operations, clause by clause in `Prop` form.
The clause of `append_parray` is `sameStrides` again and is read in place by
`refines_record_list`; the remaining operations only ask that their slots exist.  The conjuncts
that keep the two slots of a two-array operation apart, and the constants of `append_parray`'s
destination apart from the source's property names, bound what the model transcribes; no theorem
reads them.
-/
namespace PysphVerif.PArray

theorem validOp_addParticles {st : State} {s : Nat} {al : Bool} {given : List (String × List Int)}
    {pa : PA} (hv : validOp st (.addParticles s al given) = true) (hs : st[s]? = some pa) :
    (∀ g ∈ given, g.1 ∈ pa.props.map Col.name) ∧
    ∀ ln ld, given.getLast? = some (ln, ld) →
      ∀ g ∈ given, g.2.length = (ld.length / pa.strideOf ln) * pa.strideOf g.1 := by
  cases hl : given.getLast? with
  | none =>
    have : given = [] := by simpa using hl
    subst this
    exact ⟨by simp, by simp⟩
  | some lst =>
    simp only [validOp, hs, hl, Bool.and_eq_true, List.all_eq_true, beq_iff_eq] at hv
    exact ⟨fun g hg => (hasProp_iff pa g.1).mp (hv.1 g hg).1,
      fun ln ld e g hg => by cases e; exact (hv.1 g hg).2⟩

/-- Stride 1 = "not given"; the data clauses bind non-empty data only.
One conjunct of the clause is not returned: that a new name given with
a stride other than 1 has no entry in the `stride` dict.  On a coherent array it says nothing,
`Inv.strideKeys` lets only property names be keys. -/
theorem validOp_addProperty {st : State} {s : Nat} {name ctype : String} {dflt : Option Int}
    {data : Option (List Int)} {stride : Nat} {pa : PA}
    (hv : validOp st (.addProperty s name ctype dflt data stride) = true) (hs : st[s]? = some pa) :
    1 ≤ stride ∧ (name ∈ pa.props.map Col.name → stride = 1 ∨ stride = pa.strideOf name) ∧
    ∀ d, data = some d → d.length ≠ 0 →
      (name ∉ pa.props.map Col.name → d.length % stride = 0) ∧
      (name ∈ pa.props.map Col.name → d.length % pa.strideOf name = 0 ∧
        (pa.n ≠ 0 → d.length = pa.n * pa.strideOf name) ∧
        (pa.n = 0 → stride = pa.strideOf name)) := by
  simp only [validOp, hs, Bool.and_eq_true, Bool.or_eq_true, decide_eq_true_eq,
    Bool.not_eq_true', beq_iff_eq] at hv
  obtain ⟨⟨⟨h1, h2⟩, _⟩, h4⟩ := hv
  refine ⟨h1, fun hm => ?_, fun d hd hdl => ?_⟩
  · rw [(hasProp_iff pa name).mpr hm] at h2
    simpa using h2
  · subst hd
    simp only [Bool.and_eq_true, beq_iff_eq, Bool.or_eq_true, Bool.not_eq_true', hdl, or_false]
      at h4
    obtain ⟨⟨ha, hb⟩, hc⟩ := h4
    refine ⟨fun hnm => ?_, fun hm => ?_⟩
    · rw [(hasProp_false_iff pa name).mpr hnm] at ha
      exact ha
    · rw [(hasProp_iff pa name).mpr hm] at ha hb hc
      exact ⟨ha, fun hn => by simpa [hn] using hb, fun hn => by simpa [hn] using hc⟩

theorem validOp_removeProperty {st : State} {s : Nat} {name : String}
    (hv : validOp st (.removeProperty s name) = true) : name ≠ "tag" := by
  simp only [validOp, Bool.and_eq_true, bne_iff_ne] at hv
  exact hv.2

theorem sameStrides_iff (a b : PA) (names : List String) :
    sameStrides a b names = true ↔ ∀ nm ∈ names, a.strideOf nm = b.strideOf nm := by
  unfold sameStrides
  simp [List.all_eq_true]

theorem validOp_extractInto {st : State} {s dest : Nat} {idx : List Nat} {al : Bool}
    {props : Option (List String)} {pa d : PA}
    (hv : validOp st (.extractInto s dest idx al props) = true)
    (hs : st[s]? = some pa) (hd : st[dest]? = some d) :
    ∀ nm ∈ cloneNames pa props, pa.strideOf nm = d.strideOf nm := by
  simp only [validOp, hs, hd, Bool.and_eq_true] at hv
  exact (sameStrides_iff pa d _).mp hv.2

end PysphVerif.PArray
