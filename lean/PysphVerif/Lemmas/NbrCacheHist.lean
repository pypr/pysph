import PysphVerif.Model.NbrCacheHist
/-!
The neighbour cache across histories (C09): the invariant "a set flag means the stored range is
the search's list" holds after `update` and is kept by every operation.
-/
namespace PysphVerif.NbrCacheHist

@[simp] theorem CArr.get_set (a : CArr) (i v j : Nat) :
    (a.set i v).get j = if j = i then v else a.get j := rfl

@[simp] theorem CArr.length_set (a : CArr) (i v : Nat) : (a.set i v).length = a.length := rfl

@[simp] theorem CArr.length_resize (junk : Nat → Nat) (a : CArr) (n : Nat) :
    (a.resize junk n).length = n := rfl

theorem clearLoop_cached (l : List Nat) (s : St) (d : Nat) :
    (l.foldl clearStep s).cached.get d = if d ∈ l then 0 else s.cached.get d := by
  induction l generalizing s with
  | nil => simp
  | cons i l ih =>
    rw [List.foldl_cons, ih]
    by_cases h : d ∈ l <;> by_cases h' : d = i <;> simp [h, h', clearStep]

theorem clearLoop_buf (n : Nat) (s : St) :
    ((List.range n).foldl clearStep s).buf = s.buf :=
  List.foldlRecOn (motive := fun t : St => t.buf = s.buf) _ _ rfl fun _ h _ _ => h

theorem update_clears (junk : Nat → Nat) (s : St) (np d : Nat) (hd : d < np) :
    (update junk s np).cached.get d = 0 := by
  simp only [update, clearLoop_cached, List.mem_range, hd, if_true]

theorem update_buf (junk : Nat → Nat) (s : St) (np : Nat) : (update junk s np).buf = [] := rfl

/-- a set flag of a current particle means: its `[start, stop)` range lies in
the buffer and holds the search's list -/
def Inv (find : Nat → List Nat) (np : Nat) (s : St) : Prop :=
  ∀ d, d < np → s.cached.get d ≠ 0 →
    s.startStop.get (2 * d) ≤ s.startStop.get (2 * d + 1) ∧
    s.startStop.get (2 * d + 1) ≤ s.buf.length ∧
    view s d = find d

theorem inv_update (junk : Nat → Nat) (find : Nat → List Nat) (s : St) (np : Nat) :
    Inv find np (update junk s np) := by
  intro d hd hc
  exact absurd (update_clears junk s np d hd) hc

/-- A search keeps the invariant: the range of `d` is the stretch just appended, and every other
flagged range lies inside the old buffer, which appending does not disturb.  `d` need not be a
current particle (`_find_neighbors` is not bounds-checked): the slots `2d`, `2d+1` it writes are
those of `d` alone. -/
theorem inv_findNeighbors (find : Nat → List Nat) (np : Nat) (s : St) (d : Nat)
    (h : Inv find np s) : Inv find np (findNeighbors find s d) := by
  intro e he hc
  by_cases hed : e = d
  · subst hed
    have e1 : (2 * e = e * 2) := by omega
    have e3 : ¬ (e * 2 = e * 2 + 1) := by omega
    simp only [findNeighbors, view, CArr.get_set, e1, e3, if_true, if_false]
    refine ⟨by omega, by simp, ?_⟩
    simp
  · have n1 : ¬ (2 * e = d * 2) := by omega
    have n2 : ¬ (2 * e = d * 2 + 1) := by omega
    have n3 : ¬ (2 * e + 1 = d * 2) := by omega
    have n4 : ¬ (2 * e + 1 = d * 2 + 1) := by omega
    have hc' : s.cached.get e ≠ 0 := by
      simpa only [findNeighbors, CArr.get_set, hed, if_false] using hc
    obtain ⟨h1, h2, h3⟩ := h e he hc'
    simp only [findNeighbors, view, CArr.get_set, n1, n2, n3, n4, if_false]
    refine ⟨h1, by simp; omega, ?_⟩
    -- appending to the buffer does not change a window that lies inside it
    rw [List.drop_append_of_le_length (Nat.le_trans h1 h2),
      List.take_append_of_le_length (by rw [List.length_drop]; omega)]
    exact h3

theorem cached_findNeighbors (find : Nat → List Nat) (s : St) (d : Nat) :
    (findNeighbors find s d).cached.get d ≠ 0 := by
  simp [findNeighbors]

theorem getNeighbors_spec (find : Nat → List Nat) (np : Nat) (s : St) (d : Nat) (hd : d < np)
    (h : Inv find np s) :
    Inv find np (getNeighbors find s d).1 ∧ (getNeighbors find s d).2 = find d := by
  unfold getNeighbors
  by_cases hc : s.cached.get d = 0
  · simp only [hc, if_true]
    have hi := inv_findNeighbors find np s d h
    exact ⟨hi, (hi d hd (cached_findNeighbors find s d)).2.2⟩
  · simp only [hc, if_false]
    exact ⟨h, (h d hd hc).2.2⟩

theorem inv_findAll (find : Nat → List Nat) (np : Nat) (s : St) (h : Inv find np s) :
    Inv find np (findAll find s np) :=
  -- `findAllStep find s d` is the state `getNeighbors find s d` leaves
  List.foldlRecOn _ _ h fun s h d hd => (getNeighbors_spec find np s d (List.mem_range.mp hd) h).1

theorem runOps_spec (find : Nat → List Nat) (np : Nat) (ops : List Op) (s : St)
    (hr : opsInRange np ops) (h : Inv find np s) :
    Inv find np (runOps find np s ops).1 ∧ (runOps find np s ops).2 = specOps find ops := by
  induction ops generalizing s with
  | nil => exact ⟨h, rfl⟩
  | cons op rest ih =>
    cases op with
    | get d =>
      obtain ⟨hd, hrest⟩ := hr
      obtain ⟨hi, hv⟩ := getNeighbors_spec find np s d hd h
      obtain ⟨hi', hv'⟩ := ih _ hrest hi
      refine ⟨hi', ?_⟩
      simp only [runOps, stepOp, specOps, hv, hv']
    | all =>
      obtain ⟨hi', hv'⟩ := ih _ hr (inv_findAll find np s h)
      refine ⟨hi', ?_⟩
      simp only [runOps, stepOp, specOps, hv']

end PysphVerif.NbrCacheHist
