import PysphVerif.Model.Codegen
import PysphVerif.Lemmas.CodegenSort
/-!
C02 — `Group._setup_precomputed` (model: `Model/Codegen.lean`, section 3):
the `while not done` loop computes the least set of table keys that contains
the arguments which are keys and is closed under "the code block mentions a
key"; the fuel `len(table) + 1` of the model suffices, because every round but the
last adds a new table key to a duplicate-free list of table keys (`closureLoop_spec`).
Consequently `sort_precomputed` never meets a `KeyError` on it (`closure_depsClosed`), and on an
acyclic table it terminates (`setupPrecomputed_ok`).
-/
namespace PysphVerif.Codegen

variable {ν : Type} [DecidableEq ν]

def ClosedUnder (t : Table ν) (S : ν → Prop) : Prop :=
  ∀ x, S x → ∀ d ∈ t.syms x, t.has d = true → S d

theorem nodup_eraseDups (l : List ν) : l.eraseDups.Nodup := by
  induction h : l.length using Nat.strongRecOn generalizing l with
  | _ n ih =>
    cases l with
    | nil => exact List.nodup_nil
    | cons a as =>
      -- `eraseDups (a :: as) = a :: eraseDups (as without a)`
      rw [List.eraseDups_cons, List.nodup_cons, List.mem_eraseDups, List.mem_filter]
      refine ⟨fun h => by simp at h, ih _ ?_ _ rfl⟩
      subst h
      exact Nat.lt_succ_of_le (List.length_filter_le _ _)

theorem mem_newSyms (t : Table ν) (pre found : List ν) (x : ν) :
    x ∈ newSyms t pre found ↔ (∃ f ∈ found, x ∈ t.syms f) ∧ t.has x = true ∧ x ∉ pre := by
  simp only [newSyms, List.mem_eraseDups, List.mem_filter, List.mem_flatMap, Bool.and_eq_true,
    Bool.not_eq_true', List.contains_eq_mem, decide_eq_false_iff_not]

/-- loop invariant of `_setup_precomputed`: everything in `pre` but not in
`found` has been expanded already -/
structure ClosInv (t : Table ν) (pre found : List ν) : Prop where
  sub : ∀ s ∈ found, s ∈ pre
  closed : ∀ s ∈ pre, s ∉ found → ∀ s' ∈ t.syms s, t.has s' = true → s' ∈ pre

/-- what holds of `pre` and `found` in every round of the loop started with `pre = found = p0` -/
structure ClosState (t : Table ν) (p0 pre found : List ν) : Prop where
  base : ∀ x ∈ p0, x ∈ pre
  nodup : pre.Nodup
  keys : ∀ x ∈ pre, t.has x = true
  least : ∀ S : ν → Prop, ClosedUnder t S → (∀ x ∈ p0, S x) → ∀ x ∈ pre, S x
  inv : ClosInv t pre found

theorem ClosState.step {t : Table ν} {p0 pre found : List ν} (h : ClosState t p0 pre found) :
    ClosState t p0 (pre ++ newSyms t pre found) (newSyms t pre found) where
  base x hx := List.mem_append_left _ (h.base x hx)
  nodup := List.nodup_append.mpr ⟨h.nodup, nodup_eraseDups _,
    fun a ha b hb hab => ((mem_newSyms t _ _ b).mp hb).2.2 (hab ▸ ha)⟩
  keys x hx := (List.mem_append.mp hx).elim (h.keys x) fun hx => ((mem_newSyms t _ _ x).mp hx).2.1
  least S hS h0 x hx := (List.mem_append.mp hx).elim (h.least S hS h0 x) fun hx => by
    obtain ⟨⟨f, hf, hxf⟩, hk, _⟩ := (mem_newSyms t _ _ x).mp hx
    exact hS f (h.least S hS h0 f (h.inv.sub f hf)) x hxf hk
  inv := by
    refine ⟨fun x hx => List.mem_append_right _ hx, fun x hx hxn y hy hk => ?_⟩
    -- `x` is old: either expanded before, or in `found` and expanded in this round
    have hx' := (List.mem_append.mp hx).resolve_right hxn
    by_cases hxf : x ∈ found
    · by_cases hp : y ∈ pre
      · exact List.mem_append_left _ hp
      · exact List.mem_append_right _ ((mem_newSyms t _ _ y).mpr ⟨⟨x, hxf, hy⟩, hk, hp⟩)
    · exact List.mem_append_left _ (h.inv.closed x hx' hxf y hy hk)

theorem ClosState.length_le {t : Table ν} {p0 pre found : List ν} (h : ClosState t p0 pre found) :
    pre.length ≤ t.length := by
  have := h.nodup.length_le_of_subset fun x hx => (Table.has_iff t x).mp (h.keys x hx)
  rwa [List.length_map] at this

theorem mem_p0 (t : Table ν) (args : List ν) (x : ν) :
    x ∈ (args.filter (fun s => t.has s)).eraseDups ↔ x ∈ args ∧ t.has x = true := by
  simp only [List.mem_eraseDups, List.mem_filter]

theorem closureLoop_spec {t : Table ν} {p0 : List ν} (fuel : Nat) (pre found : List ν)
    (h : ClosState t p0 pre found) (hl : t.length < fuel + pre.length) :
    ClosState t p0 (closureLoop t fuel pre found) [] := by
  induction fuel generalizing pre found with
  | zero => have := h.length_le; omega
  | succ fuel ih =>
    rw [closureLoop]
    split
    · next he =>
      -- the round finds nothing new: one more step of the invariant says nothing is left to expand
      have := h.step
      rwa [List.isEmpty_iff.mp he, List.append_nil] at this
    · next hne =>
      refine ih _ _ h.step ?_
      obtain ⟨x, hx⟩ := List.exists_mem_of_ne_nil _
        (List.isEmpty_eq_false_iff.mp (Bool.eq_false_iff.mpr hne))
      have := List.length_pos_of_mem hx
      rw [List.length_append]
      omega

theorem closure_spec (t : Table ν) (args : List ν) :
    ClosState t (args.filter (fun s => t.has s)).eraseDups (closure t args) [] :=
  closureLoop_spec _ _ _
    { base := fun _ hx => hx
      nodup := nodup_eraseDups _
      keys := fun x hx => ((mem_p0 t args x).mp hx).2
      least := fun _ _ h0 => h0
      inv := ⟨fun _ hx => hx, fun _ hx hn => absurd hx hn⟩ } (by omega)

theorem closure_contains_args (t : Table ν) (args : List ν) :
    ∀ s ∈ args, t.has s = true → s ∈ closure t args := fun s hs hk =>
  (closure_spec t args).base s ((mem_p0 t args s).mpr ⟨hs, hk⟩)

theorem closure_closed (t : Table ν) (args : List ν) : ClosedUnder t (· ∈ closure t args) :=
  fun x hx => (closure_spec t args).inv.closed x hx List.not_mem_nil

theorem closure_minimal (t : Table ν) (args : List ν) (S : ν → Prop) (hS : ClosedUnder t S)
    (h0 : ∀ s ∈ args, t.has s = true → S s) : ∀ x ∈ closure t args, S x :=
  (closure_spec t args).least S hS fun s hs =>
    h0 s ((mem_p0 t args s).mp hs).1 ((mem_p0 t args s).mp hs).2

theorem closure_nodup (t : Table ν) (args : List ν) : (closure t args).Nodup :=
  (closure_spec t args).nodup

theorem closure_keys (t : Table ν) (args : List ν) : ∀ x ∈ closure t args, t.has x = true :=
  (closure_spec t args).keys

theorem closure_depsClosed (t : Table ν) (args : List ν) :
    depsClosed t (closure t args) = true := by
  rw [depsClosed_iff]
  intro k hk d hd
  obtain ⟨h1, h2, _⟩ := mem_depends.mp hd
  exact closure_closed t args k hk d h1 h2

theorem setupPrecomputed_ok (le : ν → ν → Bool) (t : Table ν) (args : List ν)
    (ha : Acyclic t (t.map (·.1))) :
    ∃ out, setupPrecomputed le t args = .ok out ∧ out.Perm (closure t args) ∧
      out.Pairwise (fun x y => y ∉ depends t x) := by
  obtain ⟨out, h⟩ := sortPrecomputed_terminates le t (closure t args) (closure_nodup t args)
    (closure_depsClosed t args)
    (ha.mono (fun x hx => (Table.has_iff t x).mp (closure_keys t args x hx)))
  have hs := sortPrecomputed_sound le t _ out (closure_nodup t args) h
  exact ⟨out, h, hs.1, hs.2.1⟩

end PysphVerif.Codegen
