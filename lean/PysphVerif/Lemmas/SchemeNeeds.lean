import PysphVerif.Model.SchemeNeeds
/-! C12 — the Boolean checks of `Model/SchemeNeeds.lean` decide their specifications, for every
table, kind list and body.  Sets of names are bit masks, so each fact is first stated bit by
bit and the specifications follow by rewriting. -/
namespace PysphVerif.SchemeNeeds

theorem subsetB_iff {a b : Nat} :
    subsetB a b = true ↔ ∀ p, a.testBit p = true → b.testBit p = true := by
  simp only [subsetB, beq_iff_eq, Nat.eq_iff_testBit_eq, Nat.testBit_and]
  exact forall_congr' fun p => by cases a.testBit p <;> cases b.testBit p <;> decide

theorem and_eq_zero_iff {a b : Nat} :
    (a &&& b == 0) = true ↔ ∀ p, a.testBit p = true → b.testBit p = false := by
  simp only [beq_iff_eq, Nat.eq_iff_testBit_eq, Nat.testBit_and, Nat.zero_testBit]
  exact forall_congr' fun p => by cases a.testBit p <;> cases b.testBit p <;> decide

theorem strictSubsetB_subsetB {a b : Nat} (h : strictSubsetB a b = true) : subsetB a b = true := by
  unfold strictSubsetB at h
  simp only [Bool.and_eq_true] at h
  exact h.1

theorem testBit_foldl_or {α : Type} (f : α → Nat) (l : List α) (init p : Nat) :
    (l.foldl (fun acc x => acc ||| f x) init).testBit p = true ↔
      init.testBit p = true ∨ ∃ x ∈ l, (f x).testBit p = true := by
  induction l generalizing init with
  | nil => simp
  | cons y ys ih => simp [ih, Nat.testBit_or, or_assoc]

theorem foldl_or_iff {α : Type} (f : α → Nat) (l : List α) (p : Nat) :
    (l.foldl (fun acc x => acc ||| f x) 0).testBit p = true ↔ ∃ x ∈ l, (f x).testBit p = true := by
  simp [testBit_foldl_or]

theorem testBit_gather (f : PreSym → Mask) (t : List PreSym) (i : Nat) (c : Mask) (p : Nat) :
    (gather f t i c).testBit p = true ↔
      ∃ j ps, c.testBit (i + j) = true ∧ t[j]? = some ps ∧ (f ps).testBit p = true := by
  induction t generalizing i with
  | nil => simp [gather]
  | cons x xs ih =>
    rw [gather, Nat.testBit_or, Bool.or_eq_true, ih]
    constructor
    · rintro (h | ⟨j, ps, hc, hj, hp⟩)
      · by_cases hci : c.testBit i = true
        · exact ⟨0, x, hci, rfl, by simpa [hci] using h⟩
        · simp [hci] at h
      · exact ⟨j + 1, ps, by rwa [Nat.add_right_comm] at hc, hj, hp⟩
    · rintro ⟨j, ps, hc, hj, hp⟩
      cases j with
      | zero =>
        cases hj
        exact Or.inl (by simpa [show c.testBit i = true from hc] using hp)
      | succ j => exact Or.inr ⟨j, ps, by rwa [Nat.add_right_comm], hj, hp⟩

theorem reach_in_closed (t : List PreSym) (m0 c : Mask)
    (hsub : ∀ i, m0.testBit i = true → c.testBit i = true) (hcl : closedB t c = true) {i : Nat}
    (h : Reach t m0 i) : c.testBit i = true := by
  induction h with
  | base hb => exact hsub _ hb
  | step _ hget hdep ih =>
    exact subsetB_iff.mp hcl _
      ((testBit_gather PreSym.deps t 0 c _).mpr ⟨_, _, by simpa using ih, hget, hdep⟩)

theorem closureLoop_between (t : List PreSym) (m0 : Mask) (fuel : Nat) (c : Mask)
    (h : (∀ i, m0.testBit i = true → c.testBit i = true) ∧ ∀ i, c.testBit i = true → Reach t m0 i) :
    (∀ i, m0.testBit i = true → (closureLoop t fuel c).testBit i = true) ∧
      ∀ i, (closureLoop t fuel c).testBit i = true → Reach t m0 i := by
  induction fuel generalizing c with
  | zero => exact h
  | succ n ih =>
    rw [closureLoop]
    split
    · exact h
    · refine ih _ ⟨fun i hi => ?_, fun i hi => ?_⟩
      · rw [closureStep, Nat.testBit_or, h.1 i hi, Bool.true_or]
      · simp only [closureStep, Nat.testBit_or, Bool.or_eq_true, testBit_gather, Nat.zero_add] at hi
        rcases hi with h1 | ⟨j, ps, hcj, hj, hp⟩
        · exact h.2 i h1
        · exact Reach.step (h.2 j hcj) hj hp

/-- `hcl`: the loop has terminated, which the check tests -/
theorem closure_iff_reach (t : List PreSym) (m0 : Mask) (hcl : closedB t (closure t m0) = true)
    (i : Nat) : (closure t m0).testBit i = true ↔ Reach t m0 i :=
  have h := closureLoop_between t m0 (t.length + 1) m0 ⟨fun _ h => h, fun _ => Reach.base⟩
  ⟨h.2 i, reach_in_closed t m0 _ h.1 hcl⟩

theorem testBit_needsD (t : List PreSym) (k : EqKind)
    (hcl : closedB t (closure t k.loopPre) = true) (p : Nat) :
    (needsD t k ||| k.implicitD).testBit p = true ↔ NeedsD t k p := by
  simp only [needsD, hooksD, NeedsD, Nat.testBit_or, Bool.or_eq_true, foldl_or_iff,
    testBit_gather, Nat.zero_add, closure_iff_reach t _ hcl]
  exact or_assoc.trans (or_congr_right or_comm)

theorem testBit_needsS (t : List PreSym) (k : EqKind)
    (hcl : closedB t (closure t k.loopPre) = true) (p : Nat) :
    (needsS t k).testBit p = true ↔ NeedsS t k p := by
  simp only [needsS, hooksS, NeedsS, Nat.testBit_or, Bool.or_eq_true, foldl_or_iff,
    testBit_gather, Nat.zero_add, closure_iff_reach t _ hcl]

theorem testBit_stepNeeds (k : StepKind) (p : Nat) :
    (stepNeeds k ||| k.implicitD).testBit p = true ↔ StepNeeds k p := by
  simp only [stepNeeds, StepNeeds, Nat.testBit_or, Bool.or_eq_true, foldl_or_iff]

theorem lookup_subset_iff (b : Body) (a : Nat) (m : Mask) :
    (∃ arr, b.arrays[a]? = some arr ∧ subsetB m arr.2 = true) ↔
      IsArray b a ∧ ∀ p, m.testBit p = true → HasProp b a p := by
  simp only [subsetB_iff, IsArray, HasProp]
  constructor
  · rintro ⟨arr, harr, h⟩
    exact ⟨(List.getElem?_eq_some_iff.mp harr).1, fun p hp => ⟨arr, harr, h p hp⟩⟩
  · rintro ⟨ha, h⟩
    refine ⟨b.arrays[a], List.getElem?_eq_getElem ha, fun p hp => ?_⟩
    obtain ⟨arr, harr, hb⟩ := h p hp
    rw [List.getElem?_eq_getElem ha] at harr
    cases harr
    exact hb

theorem checkStepper_iff (sk : List StepKind) (b : Body) (st : Nat × Nat) :
    checkStepper sk b st = true ↔ CompleteStepper sk b st := by
  unfold checkStepper CompleteStepper
  cases sk[st.1]? with
  | none => simp
  | some k =>
    simp only [Option.some.injEq, exists_eq_left', ← testBit_stepNeeds, ← lookup_subset_iff]
    cases b.arrays[st.2]? <;> simp

/-- without `closedB` (the closure loop of the kind has stopped) `closure` need not be the reachable set:
`closure_iff_reach` -/
theorem checkEq_iff (t : List PreSym) (kinds : List EqKind) (b : Body) (e : EqInst) :
    checkEq t kinds b e = true ↔ CompleteEq t kinds b e ∧
      ∀ k, kinds[e.kind]? = some k → closedB t (closure t k.loopPre) = true := by
  unfold checkEq CompleteEq
  cases kinds[e.kind]? with
  | none => simp
  | some k =>
    simp only [Option.some.injEq, exists_eq_left', forall_eq']
    by_cases hcl : closedB t (closure t k.loopPre) = true
    · simp only [← and_assoc, hcl, and_true, ← testBit_needsD t k hcl, ← testBit_needsS t k hcl,
        ← lookup_subset_iff]
      cases b.arrays[e.dest]? with
      | none => simp only [Bool.false_eq_true, reduceCtorEq, false_and, exists_const]
      | some da =>
        simp only [hcl, Bool.true_and, Bool.and_eq_true, Option.some.injEq, exists_eq_left']
        refine and_congr_right fun _ => ?_
        cases e.sources with
        | none => simp only [reduceCtorEq, false_implies, implies_true]
        | some srcs =>
          simp only [List.all_eq_true, Option.some.injEq, forall_eq']
          refine forall_congr' fun s => imp_congr_right fun _ => ?_
          cases b.arrays[s]? <;> simp
    · cases b.arrays[e.dest]? <;> simp only [hcl, Bool.false_and, Bool.false_eq_true, and_false]

theorem checkBody_iff (t : List PreSym) (kinds : List EqKind) (sk : List StepKind) (b : Body) :
    checkBody t kinds sk b = true ↔ Complete t kinds sk b ∧
      ∀ e ∈ b.eqs, ∀ k, kinds[e.kind]? = some k → closedB t (closure t k.loopPre) = true := by
  simp only [checkBody, Complete, Bool.and_eq_true, List.all_eq_true, checkEq_iff,
    checkStepper_iff]
  exact ⟨fun ⟨h1, h2⟩ => ⟨⟨fun e he => (h1 e he).1, h2⟩, fun e he => (h1 e he).2⟩,
    fun ⟨⟨h1, h2⟩, h3⟩ => ⟨fun e he => ⟨h1 e he, h3 e he⟩, h2⟩⟩

theorem complete_of_check (t : List PreSym) (kinds : List EqKind) (sk : List StepKind) (b : Body)
    (h : checkBody t kinds sk b = true) : Complete t kinds sk b :=
  ((checkBody_iff t kinds sk b).mp h).1

theorem intKnown_iff (b : Body) (p : Nat) :
    (intKnown b).testBit p = true ↔ ∃ t ∈ b.types, t.integral.testBit p = true :=
  foldl_or_iff ArrTypes.integral b.types p

theorem floatKnown_iff (b : Body) (p : Nat) :
    (floatKnown b).testBit p = true ↔ ∃ t ∈ b.types, t.floating.testBit p = true :=
  foldl_or_iff ArrTypes.floating b.types p

theorem eqIdx_iff (kinds : List EqKind) (e : EqInst) (p : Nat) :
    (eqIdx kinds e).testBit p = true ↔
      ∃ k, kinds[e.kind]? = some k ∧ (k.idxD.testBit p = true ∨ k.idxS.testBit p = true) := by
  unfold eqIdx
  cases kinds[e.kind]? with
  | none => simp
  | some k => simp [Nat.testBit_or]

theorem stIdx_iff (sk : List StepKind) (st : Nat × Nat) (p : Nat) :
    (stIdx sk st).testBit p = true ↔ ∃ k, sk[st.1]? = some k ∧ k.idx.testBit p = true := by
  unfold stIdx
  cases sk[st.1]? with
  | none => simp
  | some k => simp

theorem idxUsed_iff (kinds : List EqKind) (sk : List StepKind) (b : Body) (p : Nat) :
    (idxUsed kinds sk b).testBit p = true ↔ IndexUsed kinds sk b p := by
  simp only [idxUsed, IndexUsed, Nat.testBit_or, Bool.or_eq_true, foldl_or_iff, eqIdx_iff,
    stIdx_iff]

theorem typedArr_spec {a : Nat × Mask} {t : ArrTypes} (h : typedArr a t = true) (p : Nat) :
    a.2.testBit p = true ↔ (t.integral ||| t.floating).testBit p = true := by
  simp only [typedArr, Bool.and_eq_true, beq_iff_eq] at h
  simp only [← h.1.1.1.1, ArrTypes.integral, ArrTypes.floating, Nat.testBit_or, Bool.or_eq_true,
    or_assoc]

theorem typedAll_spec (as : List (Nat × Mask)) (ts : List ArrTypes) (h : typedAll as ts = true) :
    AllTyped as ts := by
  fun_induction typedAll as ts with
  | case1 => trivial
  | case2 a as t ts ih =>
    rw [Bool.and_eq_true] at h
    exact ⟨typedArr_spec h.1, ih h.2⟩
  | case3 => cases h

theorem indexTypes_iff (kinds : List EqKind) (sk : List StepKind) (b : Body) :
    (subsetB (idxUsed kinds sk b) (intKnown b) &&
      ((idxUsed kinds sk b &&& floatKnown b) == 0)) = true ↔
    ∀ p, IndexUsed kinds sk b p → KnownIntegral b p := by
  have hf : ∀ p, (floatKnown b).testBit p = false ↔ ∀ t ∈ b.types, t.floating.testBit p = false :=
    fun p => by rw [← Bool.not_eq_true, floatKnown_iff]; simp
  simp only [Bool.and_eq_true, subsetB_iff, and_eq_zero_iff, idxUsed_iff, intKnown_iff, hf,
    KnownIntegral, ← forall_and]

theorem typesOk_sound (kinds : List EqKind) (sk : List StepKind) (b : Body)
    (h : typesOk kinds sk b = true) : TypesOk kinds sk b := by
  unfold typesOk at h
  rw [Bool.and_assoc, Bool.and_eq_true] at h
  exact ⟨typedAll_spec _ _ h.1, (indexTypes_iff kinds sk b).mp h.2⟩

/-- the number of entries, as a recursion of its own: `grids_ok` evaluates it, and the
`map`/`foldr` form of `length_expandRuns` costs the kernel a third more there -/
def runsLength : List (Nat × Nat) → Nat
  | [] => 0
  | r :: rest => r.1 + runsLength rest

theorem expandRuns_length (rs : List (Nat × Nat)) : (expandRuns rs).length = runsLength rs := by
  induction rs with
  | nil => rfl
  | cons r rest ih => simp [expandRuns, runsLength, ih]

theorem expandRuns_eq_flatMap (rs : List (Nat × Nat)) :
    expandRuns rs = rs.flatMap fun r => List.replicate r.1 r.2 := by
  induction rs with
  | nil => rfl
  | cons r rest ih => rw [expandRuns, ih, List.flatMap_cons]

theorem length_expandRuns (rs : List (Nat × Nat)) :
    (expandRuns rs).length = (rs.map (·.1)).foldr (· + ·) 0 := by
  simp only [expandRuns_eq_flatMap, List.length_flatMap, List.length_replicate, List.sum]

theorem mem_expandRuns {rs : List (Nat × Nat)} {c : Nat} (h : c ∈ expandRuns rs) :
    ∃ r ∈ rs, r.2 = c := by
  rw [expandRuns_eq_flatMap, List.mem_flatMap] at h
  exact h.imp fun r hr => ⟨hr.1, (List.mem_replicate.mp hr.2).2.symm⟩

/-- the direct reading of `PointSat` on the runs; unused: `runsInRange` with `bodies.all chk` says the same
and is what is evaluated -/
def runsOk (chk : Body → Bool) (bodies : List Body) (g : SchemeGrid) : Bool :=
  g.runs.all (fun r => r.2 == 0 ||
    (match bodies[r.2 - 1]? with
     | some b => chk b
     | none => false))

/-- together with `bodies.all chk` this gives `PointSat` (`pointSat_of_runs`), and the kernel
evaluates `chk` once per body instead of once per run as `runsOk` would -/
def runsInRange (n : Nat) (g : SchemeGrid) : Bool := g.runs.all (fun r => r.2 ≤ n)

/-- grid point `i` of `g` is rejected by the scheme itself (entry `0`) or yields a
body of the table that satisfies `P`.  The model's `PointOk`, `PointAccepted`, `PointTypesOk`,
`PointStagesOk` are this with `P` = `Complete …`, `acceptsBody … = true`, `TypesOk …`, `StagesProvided …`,
definitionally: a `PointSat` fact closes such a goal as it stands. -/
def PointSat (bodies : List Body) (P : Body → Prop) (g : SchemeGrid) (i : Nat) : Prop :=
  ∃ c, g.bodyOf[i]? = some c ∧ (c = 0 ∨ ∃ b, bodies[c - 1]? = some b ∧ P b)

theorem PointSat.mono {bodies : List Body} {P Q : Body → Prop} {g : SchemeGrid} {i : Nat}
    (h : PointSat bodies P g i) (hPQ : ∀ b, P b → Q b) : PointSat bodies Q g i := by
  obtain ⟨c, hc, h⟩ := h
  exact ⟨c, hc, h.imp_right fun ⟨b, hb, hP⟩ => ⟨b, hb, hPQ b hP⟩⟩

theorem pointSat_of_runs {chk : Body → Bool} {bodies : List Body} {g : SchemeGrid}
    (hall : bodies.all chk = true) (hr : runsInRange bodies.length g = true)
    {i : Nat} (hi : i < g.bodyOf.length) : PointSat bodies (fun b => chk b = true) g i := by
  refine ⟨g.bodyOf[i], List.getElem?_eq_getElem hi, ?_⟩
  obtain ⟨r, hrm, hrc⟩ := mem_expandRuns (List.getElem_mem hi)
  have hle : r.2 ≤ bodies.length := by
    simpa using List.all_eq_true.mp hr r hrm
  rw [hrc] at hle
  by_cases h0 : g.bodyOf[i] = 0
  · exact Or.inl h0
  · have hlt : g.bodyOf[i] - 1 < bodies.length := by omega
    exact Or.inr ⟨bodies[g.bodyOf[i] - 1], List.getElem?_eq_getElem hlt,
      List.all_eq_true.mp hall _ (List.getElem_mem hlt)⟩

/-- Horner's scheme keeps the bound -/
theorem flatIndex_lt_aux (rs ds : List Nat) (acc bound : Nat) (h : ValidDigits rs ds)
    (hacc : acc < bound) : flatIndex rs ds acc < bound * rs.foldr (· * ·) 1 := by
  fun_induction ValidDigits rs ds generalizing acc bound with
  | case1 => simpa [flatIndex] using hacc
  | case2 r rs d ds ih =>
    have hb : acc * r + d < bound * r := by
      have h1 : (acc + 1) * r ≤ bound * r := Nat.mul_le_mul_right r hacc
      have h2 : (acc + 1) * r = acc * r + r := by rw [Nat.add_mul, Nat.one_mul]
      omega
    rw [flatIndex, List.foldr_cons, ← Nat.mul_assoc]
    exact ih _ _ h.2 hb
  | case3 => exact h.elim

theorem flatIndex_lt (g : SchemeGrid) (ds : List Nat) (h : ValidDigits (radices g) ds) :
    flatIndex (radices g) ds 0 < gridSize g := by
  have := flatIndex_lt_aux (radices g) ds 0 1 h (by omega)
  simpa [gridSize, radices] using this

end PysphVerif.SchemeNeeds
