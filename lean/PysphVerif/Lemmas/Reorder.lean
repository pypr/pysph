import PysphVerif.Model.Reorder
import PysphVerif.Lemmas.ArrayRows
import PysphVerif.Lemmas.FoldInv
/-!
C17, spatial re-ordering: the traversals (packed keys, octree partition
recursion, the linked list, whose walks `_bin` keeps equal to the buckets), `gather`
(= `c_align_array`) element by element and row by row, the particle array under
`gatherAll`, `align` and the repaired re-order (`*_fixed`), and lives of one
array in which re-orders are interleaved with edits
(`everyReorderGood_of_admissible`).  Core Lean only.

Two gathers meet here: `gather idx stride data` of the model works on a flat
array with a stride (and `gather_length` is its length lemma), `ArrayRows.gather`
on a list of rows.  They agree on the tag column, whose stride is 1 (`gather_one`,
`tags_align`), and that is where the facts about `alignPerm` enter.
-/
namespace PysphVerif.Reorder
open List

theorem flatMap_perm_pointwise {α β : Type} (l : List α) (f g : α → List β)
    (h : ∀ a ∈ l, f a ~ g a) : l.flatMap f ~ l.flatMap g := by
  induction l with
  | nil => exact Perm.refl _
  | cons a t ih =>
    rw [flatMap_cons, flatMap_cons]
    exact (h a mem_cons_self).append (ih fun b hb => h b (mem_cons_of_mem _ hb))

theorem buckets_perm_filter {α : Type} (f : α → Nat) (l : List α) (m : Nat) :
    (range m).flatMap (fun c => l.filter (fun x => f x == c)) ~
      l.filter (fun x => decide (f x < m)) := by
  induction m with
  | zero => rw [range_zero, flatMap_nil, filter_eq_nil_iff.mpr fun x _ => by simp]
  | succ m ih =>
    rw [range_succ, flatMap_append, flatMap_singleton]
    refine (ih.append_right _).trans ?_
    have h := filter_append_perm (fun x => decide (f x < m))
      (l.filter fun x => decide (f x < m + 1))
    rw [filter_filter, filter_filter] at h
    refine Perm.trans (Perm.of_eq ?_) h
    -- `f x < m + 1` splits into `f x < m` and `f x = m`
    congr 1 <;> apply filter_congr <;> intro x _ <;> rw [Bool.eq_iff_iff] <;> simp <;> omega

theorem partition_perm {α : Type} (f : α → Nat) (m : Nat) (l : List α) (h : ∀ x ∈ l, f x < m) :
    (range m).flatMap (fun c => l.filter (fun x => f x == c)) ~ l :=
  (buckets_perm_filter f l m).trans
    (Perm.of_eq (filter_eq_self.mpr fun x hx => decide_eq_true (h x hx)))

theorem ciId_ciKey (I : Nat) (cell : Nat → Nat) (i : Nat) (hI : I ≤ 32) (hi : i < 2 ^ I) :
    ciId I (ciKey I cell i) = i := by
  unfold ciId ciKey
  rw [Nat.mod_mod_of_dvd _ (Nat.pow_dvd_pow 2 hI), Nat.add_mul_mod_self_left, Nat.mod_eq_of_lt hi]

theorem octBuild_perm (leafMax : Nat) (digit : Nat → Nat → Nat) (stop : List Nat → Bool)
    (hd : ∀ d q, digit d q < 8) (fuel : Nat) (path ids : List Nat) :
    octBuild leafMax digit stop fuel path ids ~ ids := by
  induction fuel generalizing path ids with
  | zero => simp [octBuild]
  | succ fuel ih =>
    unfold octBuild
    split
    · exact Perm.refl _
    · exact (flatMap_perm_pointwise _ _ (octPart digit path.length ids) fun o _ => ih _ _).trans
        (partition_perm (digit path.length) 8 ids fun x _ => hd _ x)

theorem length_flatMap_const {α β : Type} (l : List α) (f : α → List β) (k : Nat)
    (h : ∀ a ∈ l, (f a).length = k) : (l.flatMap f).length = l.length * k := by
  rw [length_flatMap, map_congr_left h, map_const', sum_replicate_nat]

theorem getElem?_flatMap_const {α β : Type} (l : List α) (f : α → List β) (s : Nat)
    (h : ∀ a ∈ l, (f a).length = s) (i k : Nat) (hi : i < l.length) (hk : k < s) :
    (l.flatMap f)[i * s + k]? = (f (l[i]'hi))[k]? := by
  induction l generalizing i with
  | nil => exact absurd hi (Nat.not_lt_zero _)
  | cons a t ih =>
    have ha : (f a).length = s := h a mem_cons_self
    rw [flatMap_cons]
    cases i with
    | zero => rw [Nat.zero_mul, Nat.zero_add, getElem?_append_left (ha ▸ hk)]; rfl
    | succ i =>
      have e : (i + 1) * s + k - (f a).length = i * s + k := by rw [ha, Nat.succ_mul]; omega
      rw [getElem?_append_right (by rw [ha, Nat.succ_mul]; omega), e]
      exact ih (fun b hb => h b (mem_cons_of_mem _ hb)) i (Nat.lt_of_succ_lt_succ hi)

variable {α : Type} [Inhabited α]

theorem gatherRow_length (temp : List α) (s src : Nat) : (gatherRow temp s src).length = s := by
  simp [gatherRow]

section Gather
variable (idx : List Nat) (s : Nat) (data : List α)

theorem length_gather_rows :
    ((range (data.length / s)).flatMap (gatherAt idx s data)).length = data.length / s * s := by
  rw [length_flatMap_const _ (gatherAt idx s data) s fun a _ => gatherRow_length _ _ _,
    length_range]

theorem gather_length : (gather idx s data).length = data.length := by
  rw [gather, length_append, length_gather_rows, length_drop]
  exact Nat.add_sub_cancel' (Nat.div_mul_le_self data.length s)

theorem gather_getD (i k : Nat) (hi : i < data.length / s) (hk : k < s) :
    (gather idx s data).getD (i * s + k) default = data.getD (idx.getD i i * s + k) default := by
  have hlt : i * s + k < data.length / s * s :=
    calc i * s + k < (i + 1) * s := by rw [Nat.succ_mul]; exact Nat.add_lt_add_left hk _
      _ ≤ data.length / s * s := Nat.mul_le_mul_right s hi
  -- the element lies in chunk `i` of the gathered rows, at offset `k`
  rw [gather, getD_eq_getElem?_getD, getElem?_append_left (by rw [length_gather_rows]; exact hlt),
    getElem?_flatMap_const _ (gatherAt idx s data) s (fun a _ => gatherRow_length _ _ _) i k
      (by rw [length_range]; exact hi) hk,
    getElem_range, gatherAt, gatherRow, getElem?_map, getElem?_range hk]
  rfl

theorem row_gather (i : Nat) (hi : i < data.length / s) :
    row s (gather idx s data) i = row s data (idx.getD i i) := by
  unfold row gatherRow
  apply map_congr_left
  intro k hk
  exact gather_getD idx s data i k hi (by simpa using hk)

theorem rowsOf_gather (hl : idx.length = data.length / s) :
    rowsOf s (gather idx s data) = idx.map (row s data) := by
  rw [rowsOf, gather_length, ← ArrayRows.map_range_getD idx (row s data) id, hl]
  exact map_congr_left fun i hi => row_gather idx s data i (mem_range.mp hi)

end Gather

theorem getD_set_ne {β : Type} (l : List β) (m i : Nat) (v d : β) (h : i ≠ m) :
    (l.set m v).getD i d = l.getD i d := by
  simp only [getD_eq_getElem?_getD]
  rw [getElem?_set_ne (by omega)]

theorem getD_set_self {β : Type} (l : List β) (m : Nat) (v d : β) (h : m < l.length) :
    (l.set m v).getD m d = v := by
  simp only [getD_eq_getElem?_getD]
  rw [getElem?_set_self (by omega)]; rfl

/-- writing `next[m]` for a particle `m` the walk does not visit leaves the walk as it is -/
theorem llWalk_set (next : List (Option Nat)) (m : Nat) (v : Option Nat) (fuel : Nat)
    (start : Option Nat) (h : m ∉ llWalk next fuel start) :
    llWalk (next.set m v) fuel start = llWalk next fuel start := by
  induction fuel generalizing start with
  | zero => rfl
  | succ f ih =>
    cases start with
    | none => rfl
    | some i =>
      rw [llWalk, mem_cons, not_or] at h
      rw [llWalk, llWalk, getD_set_ne _ _ _ _ _ (Ne.symm h.1), ih _ h.2]

/-- the cell's bucket in the order the walk visits it: last inserted first -/
def llBucket (cid : Nat → Nat) (k c : Nat) : List Nat :=
  ((range k).filter (fun i => cid i == c)).reverse

/-- invariant of `_bin` after `k` particles: given fuel for them, the walk from a cell's `head` lists
the cell's bucket -/
theorem llBin_inv (cid : Nat → Nat) (ncells n : Nat) :
    (llBin cid ncells n).head.length = ncells ∧ (llBin cid ncells n).next.length = n ∧
    ∀ c, c < ncells → ∀ fuel, n ≤ fuel →
      llWalk (llBin cid ncells n).next fuel ((llBin cid ncells n).head.getD c none) =
        llBucket cid n c := by
  refine foldl_range_inv (llBinStep cid)
    (fun st k => st.head.length = ncells ∧ st.next.length = n ∧ ∀ c, c < ncells → ∀ fuel, k ≤ fuel →
      llWalk st.next fuel (st.head.getD c none) = llBucket cid k c)
    n (llInit ncells n) ⟨length_replicate, length_replicate, fun c hc fuel _ => ?_⟩ ?_
  · have : (llInit ncells n).head.getD c none = none := by
      simp [llInit, getD_eq_getElem?_getD, hc]
    rw [this]
    cases fuel <;> rfl
  · intro st k hk ⟨h1, h2, h3⟩
    refine ⟨length_set.trans h1, length_set.trans h2, fun c hc fuel hf => ?_⟩
    -- particle `k` is binned now: it is in no bucket so far, so writing `next[k]` disturbs no walk
    have hold : ∀ v c, c < ncells → ∀ fuel, k ≤ fuel →
        llWalk (st.next.set k v) fuel (st.head.getD c none) = llBucket cid k c :=
      fun v c hc fuel hf => (llWalk_set _ _ v _ _ (h3 c hc fuel hf ▸ fun hm =>
        Nat.lt_irrefl k (mem_range.mp (mem_filter.mp (mem_reverse.mp hm)).1))).trans (h3 c hc fuel hf)
    rw [llBucket, range_succ, filter_append, reverse_append]
    simp only [llBinStep]
    by_cases hck : cid k = c
    · subst hck
      cases fuel with
      | zero => exact absurd hf (Nat.not_succ_le_zero k)
      | succ f =>
        rw [filter_cons_of_pos (by simp), getD_set_self _ _ _ _ (h1 ▸ hc), llWalk,
          getD_set_self _ _ _ _ (h2 ▸ hk)]
        exact congrArg (k :: ·) (hold _ _ hc f (Nat.le_of_succ_le_succ hf))
    · rw [filter_cons_of_neg (by simpa using hck), getD_set_ne _ _ _ _ _ (Ne.symm hck)]
      exact hold _ c hc fuel (Nat.le_of_succ_le hf)

/-- what `LinkedListNNPS.get_spatially_ordered_indices` returns: the cells in
ascending order, each cell's particles in descending index order -/
theorem llOrder_eq (cid : Nat → Nat) (ncells n : Nat) :
    llOrder cid ncells n = (range ncells).flatMap (llBucket cid n) := by
  obtain ⟨h1, _, h3⟩ := llBin_inv cid ncells n
  unfold llOrder llOrderOf
  rw [h1]
  simp only [flatMap]
  congr 1
  apply map_congr_left
  intro c hc'
  simp only [mem_range] at hc'
  exact h3 c hc' n (Nat.le_refl n)

theorem llOrder_perm_filter (cid : Nat → Nat) (ncells n : Nat) :
    llOrder cid ncells n ~ (range n).filter (fun i => decide (cid i < ncells)) := by
  rw [llOrder_eq]
  exact (flatMap_perm_pointwise _ _ _ fun c _ => reverse_perm _).trans
    (buckets_perm_filter cid (range n) ncells)

def AlignSt.ofTriple (p : List Nat × Nat × Nat) : AlignSt := ⟨p.1, p.2.1, p.2.2⟩

theorem alignIndex_eq (tags : List Int) :
    alignIndex tags = .ofTriple (ArrayRows.alignPerm (tags.map (· == localTag))) := by
  rw [alignIndex, ArrayRows.alignPerm, foldl_map]
  refine foldl_hom AlignSt.ofTriple (g₂ := alignStep) (init := ([], 0, 0)) (fun p tag => ?_)
  rw [ArrayRows.alignStep, apply_ite AlignSt.ofTriple, apply_ite AlignSt.ofTriple]
  rfl

theorem alignIndex_inv (tags : List Int) : ArrayRows.AlignInv (tags.map (· == localTag))
    ((alignIndex tags).idx, (alignIndex tags).next, (alignIndex tags).moves) := by
  rw [alignIndex_eq]
  exact ArrayRows.alignInv _

theorem alignIndex_perm (tags : List Int) : (alignIndex tags).idx ~ range tags.length :=
  length_map (as := tags) (· == localTag) ▸ (alignIndex_inv tags).perm

theorem gather_one (idx : List Nat) (data : List α) (hl : idx.length = data.length) :
    gather idx 1 data = idx.map (fun i => data.getD i default) := by
  have h := ArrayRows.map_range_getD (gather idx 1 data) id (fun _ => default)
  rw [map_id, gather_length, ← hl] at h
  rw [← h, ← ArrayRows.map_range_getD idx (fun i => data.getD i default) id]
  refine map_congr_left fun i hi => ?_
  have := gather_getD idx 1 data i 0 (by rw [Nat.div_one, ← hl]; exact mem_range.mp hi)
    Nat.one_pos
  rwa [Nat.mul_one, Nat.add_zero, Nat.mul_one, Nat.add_zero] at this

theorem find?_tag_gatherAll (pa : PA) (idx : List Nat) :
    (pa.gatherAll idx).props.find? (fun c => c.name == "tag") =
      (pa.props.find? (fun c => c.name == "tag")).map (gatherCol idx) := by
  rw [PA.gatherAll, find?_map]
  rfl

theorem tags_gatherAll (pa : PA) (idx : List Nat) (hwf : pa.wf = true) :
    (pa.gatherAll idx).tags = gather idx 1 pa.tags := by
  unfold PA.wf at hwf
  simp only [Bool.and_eq_true] at hwf
  obtain ⟨_, h2⟩ := hwf
  unfold PA.tags
  rw [find?_tag_gatherAll]
  cases hf : pa.props.find? (fun c => c.name == "tag") with
  | none => rfl
  | some c =>
    rw [hf] at h2
    simp only [Option.any_some, beq_iff_eq] at h2
    simp [gatherCol, h2]

theorem n_gatherAll (pa : PA) (idx : List Nat) (hwf : pa.wf = true) :
    (pa.gatherAll idx).n = pa.n := by
  unfold PA.n; rw [tags_gatherAll pa idx hwf, gather_length]

theorem wf_gatherAll (pa : PA) (idx : List Nat) (hwf : pa.wf = true) :
    (pa.gatherAll idx).wf = true := by
  have hn := n_gatherAll pa idx hwf
  unfold PA.wf at hwf ⊢
  simp only [Bool.and_eq_true] at hwf ⊢
  obtain ⟨h1, h2⟩ := hwf
  refine ⟨?_, ?_⟩
  · rw [hn]
    simp only [PA.gatherAll, all_map, all_eq_true] at h1 ⊢
    intro c hc
    have := h1 c hc
    simpa [Function.comp, gatherCol, gather_length] using this
  · rw [find?_tag_gatherAll, Option.any_map]
    exact h2

theorem wf_setNReal (pa : PA) (k : Nat) (hwf : pa.wf = true) : ({ pa with nReal := k } : PA).wf = true :=
  hwf

theorem PA.wf_col {pa : PA} (hwf : pa.wf = true) {c : Col} (hc : c ∈ pa.props) :
    0 < c.stride ∧ c.data.length = pa.n * c.stride := by
  unfold PA.wf at hwf
  simp only [Bool.and_eq_true, all_eq_true, decide_eq_true_eq, beq_iff_eq] at hwf
  exact hwf.1 c hc

theorem particles_gatherAll (pa : PA) (idx : List Nat) (hwf : pa.wf = true) (hl : idx.length = pa.n) :
    (pa.gatherAll idx).particles = idx.map pa.particle := by
  rw [PA.particles, n_gatherAll pa idx hwf, ← ArrayRows.map_range_getD idx pa.particle id, hl]
  refine map_congr_left fun i hi => ?_
  unfold PA.particle PA.gatherAll
  rw [map_map]
  refine map_congr_left fun c hc => ?_
  obtain ⟨hs, hlen⟩ := PA.wf_col hwf hc
  exact row_gather idx c.stride c.data i
    (by rw [hlen, Nat.mul_div_cancel _ hs]; exact mem_range.mp hi)

theorem particles_gatherAll_perm (pa : PA) (idx : List Nat) (hwf : pa.wf = true)
    (hp : idx ~ range pa.n) : (pa.gatherAll idx).particles ~ pa.particles := by
  rw [particles_gatherAll pa idx hwf (by simpa using hp.length_eq)]
  exact hp.map _

theorem particles_setNReal (pa : PA) (k : Nat) : ({ pa with nReal := k } : PA).particles = pa.particles :=
  rfl

theorem realFirst_of_split {pa : PA} {A B : List Int} (ht : pa.tags = A ++ B)
    (hn : pa.nReal = A.length) (hA : ∀ t ∈ A, (t == localTag) = true)
    (hB : ∀ t ∈ B, (t == localTag) = false) : pa.realFirst = true := by
  unfold PA.realFirst PA.n
  rw [hn, ht, take_left, drop_left]
  simp only [Bool.and_eq_true, all_eq_true, decide_eq_true_eq, length_append]
  exact ⟨⟨hA, fun t ht => congrArg not (hB t ht)⟩, Nat.le_add_right _ _⟩

theorem tags_align (pa : PA) (hwf : pa.wf = true) :
    (align pa).tags = ArrayRows.gather (alignIndex pa.tags).idx pa.tags := by
  have hperm := alignIndex_perm pa.tags
  unfold align
  simp only
  split
  · rw [tags_gatherAll _ _ (wf_setNReal pa _ hwf)]
    change gather (alignIndex pa.tags).idx 1 pa.tags = _
    rw [gather_one _ _ (hperm.length_eq.trans length_range)]
    exact (ArrayRows.gather_eq_map _ _ _ fun x hx => mem_range.mp (hperm.mem_iff.mp hx)).symm
  · rename_i hm
    have := (alignIndex_inv pa.tags).ident (Nat.eq_zero_of_not_pos hm)
    dsimp only at this
    rw [this, length_map, ArrayRows.gather_range]
    rfl

theorem nReal_align_eq (pa : PA) : (align pa).nReal = (alignIndex pa.tags).next := by
  unfold align; simp only; split <;> rfl

theorem realFirst_align (pa : PA) (hwf : pa.wf = true) : (align pa).realFirst = true := by
  obtain ⟨A, B, hAB, hA, hloc, hnon⟩ := ArrayRows.gather_alignPerm (· == localTag) pa.tags
  have hn : (align pa).nReal = A.length := by rw [nReal_align_eq, alignIndex_eq]; exact hA.symm
  have ht : (align pa).tags = A ++ B := by rw [tags_align pa hwf, alignIndex_eq]; exact hAB
  exact realFirst_of_split ht hn hloc hnon

theorem wf_align (pa : PA) (hwf : pa.wf = true) : (align pa).wf = true := by
  unfold align; simp only
  split
  · exact wf_gatherAll _ _ hwf
  · exact hwf

theorem n_align (pa : PA) (hwf : pa.wf = true) : (align pa).n = pa.n := by
  unfold align; simp only
  split
  · rw [n_gatherAll _ _ (wf_setNReal pa _ hwf)]; rfl
  · rfl

theorem particles_align_perm (pa : PA) (hwf : pa.wf = true) : (align pa).particles ~ pa.particles := by
  unfold align; simp only
  split
  · exact particles_gatherAll_perm _ _ hwf (alignIndex_perm pa.tags)
  · exact Perm.refl _

def countLocal (tags : List Int) : Nat := tags.count localTag

theorem alignIndex_next (tags : List Int) : (alignIndex tags).next = countLocal tags := by
  rw [alignIndex_eq, countLocal, count_eq_countP]
  exact ArrayRows.alignPerm_next (· == localTag) tags

theorem wf_fixed (idx : List Nat) (pa : PA) (hwf : pa.wf = true) :
    (spatiallyOrder idx pa).wf = true := wf_align _ (wf_gatherAll pa idx hwf)

theorem n_fixed (idx : List Nat) (pa : PA) (hwf : pa.wf = true) :
    (spatiallyOrder idx pa).n = pa.n :=
  (n_align _ (wf_gatherAll pa idx hwf)).trans (n_gatherAll pa idx hwf)

theorem realFirst_fixed (idx : List Nat) (pa : PA) (hwf : pa.wf = true) :
    (spatiallyOrder idx pa).realFirst = true := realFirst_align _ (wf_gatherAll pa idx hwf)

theorem particles_fixed_perm (idx : List Nat) (pa : PA) (hwf : pa.wf = true)
    (hp : idx ~ range pa.n) : (spatiallyOrder idx pa).particles ~ pa.particles :=
  (particles_align_perm _ (wf_gatherAll pa idx hwf)).trans (particles_gatherAll_perm pa idx hwf hp)

/-- `Solver.solve` calls `reorder_particles` again and again: one array's history -/
def reorderStep (pa : PA) (idx : List Nat) : PA := spatiallyOrder idx pa

def reorderHistory (idxs : List (List Nat)) (pa : PA) : PA := idxs.foldl reorderStep pa

/-! Histories on ONE search structure, the array being edited between the re-orderings.
`spatiallyOrder idx pa` is a function of the array as it is when the re-order runs; the model has
no state of the NNPS object in which a property list or a particle count of construction time
could survive. -/

/-- one event in the life of an array a search structure was built on -/
inductive Event where
  /-- `spatially_order_particles` with the ordered index list of that moment -/
  | reorder (idx : List Nat)
  /-- anything else: `add_particles`, `remove_particles`, ghosts made by the
  domain manager, `add_property`, `ensure_properties`, `remove_property`, motion … -/
  | edit (f : PA → PA)

def Event.apply (pa : PA) : Event → PA
  | .reorder idx => spatiallyOrder idx pa
  | .edit f => f pa

def runEvents (pa : PA) (evs : List Event) : PA := evs.foldl Event.apply pa

def PA.names (pa : PA) : List String := pa.props.map (fun c => c.name)

/-- every edit leaves a well-formed array (any number of particles, any
property set), every re-order is handed a permutation of the slots the array
has *at that time* -/
def Admissible : PA → List Event → Prop
  | _, [] => True
  | pa, .reorder idx :: r => idx ~ range pa.n ∧ Admissible (spatiallyOrder idx pa) r
  | pa, .edit f :: r => (f pa).wf = true ∧ Admissible (f pa) r

/-- what C17 demands of one re-order: same whole particles over the properties
the array has now, same property list, same count, real particles first -/
def ReorderGood (before after : PA) : Prop :=
  after.particles ~ before.particles ∧ after.names = before.names ∧ after.n = before.n ∧
    after.wf = true ∧ after.realFirst = true

def EveryReorderGood : PA → List Event → Prop
  | _, [] => True
  | pa, .reorder idx :: r =>
      ReorderGood pa (spatiallyOrder idx pa) ∧ EveryReorderGood (spatiallyOrder idx pa) r
  | pa, .edit f :: r => EveryReorderGood (f pa) r

theorem names_gatherAll (pa : PA) (idx : List Nat) : (pa.gatherAll idx).names = pa.names := by
  simp [PA.names, PA.gatherAll, gatherCol, Function.comp_def]

theorem names_align (pa : PA) : (align pa).names = pa.names := by
  unfold align
  simp only []
  split
  · rw [names_gatherAll]; rfl
  · rfl

theorem names_fixed (idx : List Nat) (pa : PA) : (spatiallyOrder idx pa).names = pa.names := by
  unfold spatiallyOrder spatiallyOrderOrig
  rw [names_align, names_gatherAll]

theorem reorderGood_fixed (idx : List Nat) (pa : PA) (hwf : pa.wf = true) (hp : idx ~ range pa.n) :
    ReorderGood pa (spatiallyOrder idx pa) :=
  ⟨particles_fixed_perm idx pa hwf hp, names_fixed idx pa, n_fixed idx pa hwf, wf_fixed idx pa hwf,
    realFirst_fixed idx pa hwf⟩

theorem everyReorderGood_of_admissible (evs : List Event) (pa : PA) (hwf : pa.wf = true)
    (h : Admissible pa evs) : EveryReorderGood pa evs ∧ (runEvents pa evs).wf = true := by
  induction evs generalizing pa with
  | nil => exact ⟨trivial, hwf⟩
  | cons ev rest ih =>
    cases ev with
    | reorder idx =>
      obtain ⟨hp, hr⟩ := h
      obtain ⟨a, b⟩ := ih (spatiallyOrder idx pa) (wf_fixed idx pa hwf) hr
      exact ⟨⟨reorderGood_fixed idx pa hwf hp, a⟩, b⟩
    | edit f =>
      obtain ⟨hw, hr⟩ := h
      exact ih (f pa) hw hr

/-- NOT the code: a re-order that gathers only the properties in a list remembered from
construction time (the defect seeded as C17-B2, DESIGN §12.2); the subject of
`stale_property_list_counterexample` -/
def spatiallyOrderCached (cached : List String) (idx : List Nat) (pa : PA) : PA :=
  align { pa with props := pa.props.map (fun c => if cached.contains c.name then gatherCol idx c else c) }

/-- `add_property(name, stride)` with a value per particle -/
def addProp (name : String) (stride : Nat) (data : List Int) (pa : PA) : PA :=
  { pa with props := pa.props ++ [⟨name, stride, data⟩] }

end PysphVerif.Reorder
