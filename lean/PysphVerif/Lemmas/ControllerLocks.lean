import PysphVerif.Lemmas.ControllerWait
import PysphVerif.Lemmas.ControllerSafe
/-!
C18: ownership of the dispatch lock, `res_lock` and `qlock` as instances of `Owned`, and `COwn`, who
holds a per-command lock: step lemmas for every variant `cfg`, given `PW s`; `QS`, the facts about
`qlock`'s wait set that make the solver's wake-up by `dispatch` impossible to lose, where `dispatch`
notifies (interface steps) and `wait_for_cmd` runs the queue before it waits (solver steps).  Of
reachable states: `reachable_cown` where `PW` is known (`reachable_w`), the rest for `Cfg.fixed`
(`reachable_locks`).
-/
namespace PysphVerif.Controller

def ownsD : IPc → Bool
  | IPc.gRelD _ | IPc.sRelD | IPc.qAcqC _ _ | IPc.qAcqQ _ _ | IPc.qNtaQ _ | IPc.qRelQ _
  | IPc.qRelD _ => true
  | _ => false

def ownsRes : IPc → Bool
  | IPc.rRelRes _ _ => true
  | _ => false

def sOwnsRes : SPc → Bool
  | SPc.runRelC _ _ | SPc.runRelRes _ => true
  | _ => false

def ownsQ : IPc → Bool
  | IPc.qNtaQ _ | IPc.qRelQ _ | IPc.cNtaQ | IPc.cRelQ => true
  | _ => false

def sOwnsQ : SPc → Bool
  | SPc.relQ1 | SPc.acqP | SPc.ntaP | SPc.relP | SPc.waitQ | SPc.relQ2
  | SPc.runAcqRes _ _ _ | SPc.runRelC _ _ | SPc.runRelRes _ => true
  | _ => false

/-- the dispatching thread is about to `qlock.notify_all()` -/
def isQNta : IPc → Bool
  | IPc.qNtaQ _ => true
  | _ => false

theorem entry_owns {pc : IPc} (h : isEntry pc = true) :
    ownsD pc = false ∧ ownsRes pc = false ∧ ownsQ pc = false ∧ isQNta pc = false := by
  cases pc <;> simp [isEntry, ownsD, ownsRes, ownsQ, isQNta] at h ⊢

theorem Next.owns {cfg : Cfg} {s : State} {k : Entry} {pc : SPc} {q : List Nat}
    (h : Next cfg s k pc q) (hal : pc ≠ SPc.crashed) : sOwnsRes pc = false ∧ sOwnsQ pc = true := by
  induction h with
  | crash => exact absurd rfl hal
  | recheck _ _ _ ih => exact ih hal
  | _ => exact ⟨rfl, rfl⟩

/-- the dispatch lock; the solver never takes it -/
abbrev LD (s : State) : Prop := OwnedAt ownsD (fun _ => False) s.dlock s

theorem ld_stepIface {cfg : Cfg} {s s' : State} {t : Tid} (h : LD s)
    (hw : PW s) (hq : QW s) (ht : t ≠ 0)
    (hs : IfaceStep cfg s t s') : LD s' := by
  obtain ⟨hpc, he⟩ := hs
  obtain ⟨keep, acquire, release⟩ :=
    Owned.iface ownsD (fun _ => False) (o' := (setPc _ t _).dlock) h hpc he hw hq ht rfl rfl
  cases he with
  | start => exact keep rfl (entry_owns (firstPc_entry ..)).1
  | gAcqD hfree | sAcqD hfree | qAcqD hfree => exact acquire hfree rfl
  | gRelD | sRelD | qRelD => exact release rfl nofun
  | _ => exact keep rfl rfl

theorem ld_stepSolver {cfg : Cfg} {s s' : State} (h : LD s)
    (hw : PW s) (hs : SolverStep cfg s s') : LD s' :=
  h.keep (by cases hs <;> rfl) (fun u => by rw [hs.classify ownsD hw rfl u]) Iff.rfl

abbrev LR (s : State) : Prop := OwnedAt ownsRes (sOwnsRes · = true) s.resLock s

theorem lr_stepIface {cfg : Cfg} {s s' : State} {t : Tid} (h : LR s)
    (hw : PW s) (hq : QW s) (ht : t ≠ 0) (hs : IfaceStep cfg s t s') : LR s' := by
  obtain ⟨hpc, he⟩ := hs
  obtain ⟨keep, acquire, release⟩ :=
    Owned.iface ownsRes (sOwnsRes · = true) (o' := (setPc _ t _).resLock) h hpc he hw hq ht rfl rfl
  cases he with
  | start => exact keep rfl (entry_owns (firstPc_entry ..)).2.1
  | rAcqRes hfree | rAcqRes_none hfree => exact acquire hfree rfl
  | rRelRes => exact release rfl nofun
  | _ => exact keep rfl rfl

theorem lr_stepSolver {cfg : Cfg} {s s' : State} (h : LR s)
    (hw : PW s) (hz : (s.th 0).pc = IPc.idle)
    (hal : s'.spc ≠ SPc.crashed) (hs : SolverStep cfg s s') : LR s' := by
  obtain ⟨keep, acquire, release⟩ :=
    Owned.solver ownsRes (sOwnsRes · = true) (o' := s'.resLock) h hs hw rfl (by rw [hz]; nofun)
  cases hs with
  | runAcqRes _ hfree => exact acquire hfree rfl
  | runRelC hspc => exact keep rfl (by rw [hspc]; exact Iff.rfl)
  | runRelRes hspc ho =>
    exact release (by rw [hspc]; rfl) (by rw [(ho.owns hal).1]; nofun)
  | acqQ1 hspc _ ho | relP hspc _ ho | reacqQ_orig hspc _ _ ho | acqQ2 hspc _ ho
  | reacqQ hspc _ _ ho =>
    exact keep rfl (by rw [hspc, (ho.owns hal).1]; exact Iff.rfl)
  | runRelC_crash => exact absurd rfl hal
  | _ => exact keep rfl (by rw [‹s.spc = _›]; exact Iff.rfl)

abbrev LQ (s : State) : Prop := OwnedAt ownsQ (sOwnsQ · = true) s.qOwner s

theorem lq_stepIface {cfg : Cfg} {s s' : State} {t : Tid} (h : LQ s)
    (hw : PW s) (hq : QW s) (ht : t ≠ 0) (hs : IfaceStep cfg s t s') : LQ s' := by
  obtain ⟨hpc, he⟩ := hs
  obtain ⟨keep, acquire, release⟩ :=
    Owned.iface ownsQ (sOwnsQ · = true) (o' := (setPc _ t _).qOwner) h hpc he hw hq ht rfl rfl
  cases he with
  | start => exact keep rfl (entry_owns (firstPc_entry ..)).2.2.1
  | qAcqQ hfree | qAcqQ_orig hfree | cAcqQ hfree => exact acquire hfree rfl
  | qRelQ | cRelQ | cRelQ_orig => exact release rfl nofun
  | _ => exact keep rfl rfl

theorem lq_stepSolver {cfg : Cfg} {s s' : State} (h : LQ s)
    (hw : PW s) (hz : (s.th 0).pc = IPc.idle)
    (hal : s'.spc ≠ SPc.crashed) (hs : SolverStep cfg s s') : LQ s' := by
  obtain ⟨keep, acquire, release⟩ :=
    Owned.solver ownsQ (sOwnsQ · = true) (o' := s'.qOwner) h hs hw rfl (by rw [hz]; nofun)
  cases hs with
  | acqQ1 _ hfree ho | reacqQ_orig _ hfree _ ho | acqQ2 _ hfree ho | reacqQ _ hfree _ ho =>
    exact acquire hfree (ho.owns hal).2
  | relQ1 hspc | waitQ hspc | relQ2 hspc =>
    exact release (by rw [hspc]; rfl) nofun
  | runRelRes hspc ho | relP hspc _ ho =>
    exact keep rfl (by rw [hspc, (ho.owns hal).2]; exact Iff.rfl)
  | runRelC_crash => exact absurd rfl hal
  | _ => exact keep rfl (by rw [‹s.spc = _›]; exact Iff.rfl)

/-- the wake-up of the sleeping solver by `dispatch` cannot be lost -/
structure QS (s : State) : Prop where
  bw : s.spc = SPc.blocked → s.qWaiting = true
  wq : s.spc = SPc.waitQ → s.queue = []
  rq : s.spc = SPc.relQ1 → s.queue = []
  /-- whoever appends to the queue of a sleeping solver is about to notify it -/
  nq : s.spc = SPc.blocked → (∀ u, s.qOwner = some u → isQNta (s.th u).pc = false) → s.queue = []

theorem qs_init (progs : Tid → List Op) : QS (init progs) := by
  constructor <;> simp [init]

/-- `e1`: `qlock` stays with its owner unless that owner is not about to notify -/
theorem QS.frame {cfg : Cfg} {s D : State} {t : Tid} {old new : IPc} (h : QS s)
    (hpc : (s.th t).pc = old) (he : Edge cfg s t old new D) (hw : PW s)
    (e1 : ∀ u, s.qOwner = some u → D.qOwner = some u ∨ isQNta (s.th u).pc = false)
    (e2 : D.spc = s.spc) (e3 : D.qWaiting = s.qWaiting) (e4 : D.queue = s.queue)
    (hn : isQNta new = isQNta old) : QS (setPc D t new) := by
  refine ⟨fun hb => e3 ▸ h.bw (e2 ▸ hb), fun hb => e4 ▸ h.wq (e2 ▸ hb),
    fun hb => e4 ▸ h.rq (e2 ▸ hb), fun hb hq => e4 ▸ h.nq (e2 ▸ hb) fun u hu => ?_⟩
  exact (e1 u hu).elim (fun e => Edge.classify isQNta hpc he hw rfl hn u ▸ hq u e) id

theorem QS.of_spc {s : State} (hb : s.spc ≠ SPc.blocked) (hw : s.spc = SPc.waitQ → s.queue = [])
    (hr : s.spc = SPc.relQ1 → s.queue = []) : QS s :=
  ⟨fun h => absurd h hb, hw, hr, fun h => absurd h hb⟩

theorem qs_stepIface {cfg : Cfg} {s s' : State} {t : Tid} (hd : cfg.dispatchNotifies = true)
    (h : QS s) (hl : LQ s) (hw : PW s) (hs : IfaceStep cfg s t s') : QS s' := by
  obtain ⟨hpc, he⟩ := hs
  have frame := h.frame hpc he hw
  cases he with
  | start => exact frame (fun _ h => Or.inl h) rfl rfl rfl (entry_owns (firstPc_entry ..)).2.2.2
  | qAcqQ_orig _ h => rw [hd] at h; cases h
  | qAcqQ hfree =>
    -- `qlock` was free, so the solver is not in a critical section; `t` is about to notify
    have hns : ∀ {pc}, s.spc = pc → sOwnsQ pc ≠ true := fun e hso => by
      have := hl.sfwd (e ▸ hso); rw [hfree] at this; cases this
    refine ⟨h.bw, fun e => absurd rfl (hns e), fun e => absurd rfl (hns e), fun _ hn => ?_⟩
    have := hn t rfl
    rw [setPc_th_same] at this; cases this
  | qNtaQ_wake | cNtaQ_wake => exact .of_spc nofun nofun nofun
  | qNtaQ hqw =>
    exact .of_spc (fun e => by have := h.bw e; rw [hqw] at this; cases this) h.wq h.rq
  | qRelQ | cRelQ | cRelQ_orig =>
    -- the owner of `qlock` was `t`, past its notification
    refine frame (fun u hu => Or.inr ?_) rfl rfl rfl rfl
    cases (hl.fwd t (by rw [hpc]; rfl)).symm.trans hu
    rw [hpc]; rfl
  | cAcqQ hfree => exact frame (fun u hu => by rw [hfree] at hu; cases hu) rfl rfl rfl rfl
  | _ => exact frame (fun _ h => Or.inl h) rfl rfl rfl rfl

theorem Next.qs {cfg : Cfg} {s : State} {k : Entry} {pc : SPc} {q : List Nat}
    (h : Next cfg s k pc q) :
    pc ≠ SPc.blocked ∧ (pc = SPc.waitQ → q = []) ∧ (pc = SPc.relQ1 → q = []) := by
  induction h with
  | first hq | sleep hq => exact ⟨nofun, fun _ => hq, fun _ => hq⟩
  | recheck _ _ _ ih => exact ih
  | _ => exact ⟨nofun, nofun, nofun⟩

theorem qs_stepSolver {cfg : Cfg} {s s' : State} (hb : cfg.runBeforeWait = true) (h : QS s)
    (hs : SolverStep cfg s s') : QS s' := by
  cases hs with
  | waitQ hspc => exact ⟨fun _ => rfl, nofun, nofun, fun _ _ => h.wq hspc⟩
  | acqQ1 _ _ ho | runRelRes _ ho | relP _ _ ho | reacqQ_orig _ _ _ ho | acqQ2 _ _ ho
  | reacqQ _ _ _ ho =>
    exact .of_spc ho.qs.1 ho.qs.2.1 ho.qs.2.2
  | relP_orig _ h => rw [hb] at h; cases h
  | _ => exact .of_spc nofun nofun nofun

/-- A held per-command lock belongs to the dispatching thread that is about to queue the task, or to
the task itself while it is queued / in flight / being released by the solver, or to a `get_result`
call that has got past it. -/
structure COwn (s : State) : Prop where
  cown : ∀ k ∈ s.cLocked, (∀ v c, (s.th v).pc ≠ IPc.qAcqQ c k) →
      (∀ v, holding (s.th v).pc ≠ some k) →
      k ∈ s.queuedLog ∧ (k ∉ execIds s ∨ relcId s.spc = some k)

theorem cown_init (progs : Tid → List Op) : COwn (init progs) := by
  constructor; simp [init]

theorem COwn.frame {cfg : Cfg} {s D : State} {t : Tid} {old new : IPc} (h : COwn s)
    (hpc : (s.th t).pc = old) (he : Edge cfg s t old new D) (hq : QW s) (hw : PW s)
    (e1 : ∀ k ∈ D.cLocked, k ∈ s.cLocked ∨ (∃ c, new = IPc.qAcqQ c k) ∨ holding new = some k)
    (e2 : ∀ k ∈ s.queuedLog, k ∈ D.queuedLog)
    (hpend : ∀ c k, old = IPc.qAcqQ c k → k ∈ D.queuedLog ∧ k ∉ execIds s)
    (hh : ∀ k, holding old = some k → holding new = some k ∨ k ∉ D.cLocked) :
    COwn (setPc D t new) := by
  have hs : IfaceStep cfg s t _ := ⟨hpc, he⟩
  have hn : ((setPc D t new).th t).pc = new := setPc_th_same ..
  refine ⟨fun k hk h1 h2 => ?_⟩
  rw [hs.execIds_eq, hs.spc_class relcId hq rfl]
  by_cases hat : ∃ c, old = IPc.qAcqQ c k
  · obtain ⟨c, hc⟩ := hat
    exact (hpend c k hc).imp id Or.inl
  have hk0 : k ∈ s.cLocked := (e1 k hk).elim id fun h =>
    h.elim (fun ⟨c, e⟩ => absurd (hn.trans e) (h1 t c)) fun e => absurd (by rw [hn]; exact e) (h2 t)
  -- a woken thread is at neither kind of program counter, before or after
  refine (h.cown k hk0 (fun v c hv => ?_) (fun v hv => ?_)).imp (e2 k) id
  · by_cases hvt : v = t
    · exact hat ⟨c, hpc.symm.trans (hvt ▸ hv)⟩
    · exact h1 v c (hs.classify_others (· = IPc.qAcqQ c k) hw (by simp) v hvt ▸ hv)
  · by_cases hvt : v = t
    · subst hvt; exact (hh k (hpc ▸ hv)).elim (fun e => h2 v (by rw [hn]; exact e)) (· hk)
    · exact h2 v (hs.classify_others holding hw rfl v hvt ▸ hv)

theorem cown_stepIface {cfg : Cfg} {s s' : State} {t : Tid} (h : COwn s)
    (hi : Inv s) (hq : QW s)
    (hw : PW s) (hs : IfaceStep cfg s t s') : COwn s' := by
  obtain ⟨hpc, he⟩ := hs
  have frame := h.frame hpc he hq hw
  cases he with
  | start => exact frame (fun _ h => Or.inl h) (fun _ h => h) nofun nofun
  | @qAcqC c id =>
    refine frame (fun k hk => ?_) (fun _ h => h) nofun nofun
    rcases List.mem_append.mp hk with hk | hk
    · exact Or.inl hk
    · exact Or.inr (Or.inl ⟨c, by rw [List.mem_singleton.mp hk]⟩)
  | qAcqQ | qAcqQ_orig =>
    -- the id was allocated but not yet queued, so it has not run
    refine frame (fun _ h => Or.inl h) (fun _ h => List.mem_append_left _ h) (fun c k e => ?_) nofun
    cases e
    exact ⟨List.mem_append_right _ (List.mem_singleton_self _),
      fun hx => (hi.pend t _ (by rw [hpc]; rfl)).2 (execIds_sub_queued hi hx)⟩
  | rAcqC =>
    refine frame (fun k hk => ?_) (fun _ h => h) nofun nofun
    rcases List.mem_append.mp hk with hk | hk
    · exact Or.inl hk
    · exact Or.inr (Or.inr (by rw [List.mem_singleton.mp hk]; rfl))
  | rRelC =>
    refine frame (fun k hk => Or.inl (List.mem_filter.mp hk).1) (fun _ h => h) nofun ?_
    rintro _ ⟨⟩
    exact Or.inr fun hk => by simpa using (List.mem_filter.mp hk).2
  | _ => exact frame (fun _ h => Or.inl h) (fun _ h => h) nofun (fun _ h => Or.inl h)

theorem COwn.sframe {cfg : Cfg} {s s' : State} (h : COwn s) (hs : SolverStep cfg s s')
    (hw : PW s)
    (e1 : s'.cLocked = s.cLocked) (e2 : s'.queuedLog = s.queuedLog) (e3 : execIds s' = execIds s)
    (hr : relcId s.spc = none) : COwn s' := by
  refine ⟨fun k hk h1 h2 => ?_⟩
  have := h.cown k (e1 ▸ hk)
    (fun v c hv => h1 v c (hs.classify (· = IPc.qAcqQ c k) hw (by simp) v ▸ hv))
    (fun v hv => h2 v (hs.classify holding hw rfl v ▸ hv))
  rw [e2, e3]
  exact ⟨this.1, Or.inl (this.2.resolve_right (by rw [hr]; nofun))⟩

theorem cown_stepSolver {cfg : Cfg} {s s' : State} (h : COwn s)
    (hw : PW s) (hal : s'.spc ≠ SPc.crashed)
    (hs : SolverStep cfg s s') : COwn s' := by
  have frame := h.sframe hs hw
  cases hs with
  | @runAcqRes _ id _ hspc =>
    -- the command that has just run is the one whose lock the solver releases next
    refine ⟨fun k hk h1 h2 => ?_⟩
    obtain ⟨hq, hx⟩ := h.cown k hk h1 h2
    refine ⟨hq, ?_⟩
    by_cases e : k = id
    · exact Or.inr (e ▸ rfl)
    · exact Or.inl fun hm =>
        (mem_execIds_append.mp hm).elim (hx.resolve_right (by rw [hspc]; nofun)) e
  | runRelC hspc =>
    refine ⟨fun k hk h1 h2 => ?_⟩
    obtain ⟨hk, hne⟩ := List.mem_filter.mp hk
    refine (h.cown k hk h1 h2).imp_right fun hx => Or.inl (hx.resolve_right ?_)
    rw [hspc]; rintro ⟨⟩; simp at hne
  | runRelC_crash => exact absurd rfl hal
  | _ => exact frame rfl rfl rfl (by rw [‹s.spc = _›]; rfl)

theorem reachable_cown {cfg : Cfg} {progs : Tid → List Op} {s : State}
    (hwp : cfg.waitPred = true) (hn : cfg.contNested = false)
    (hr : Reachable cfg progs s) : COwn s :=
  hr.induct (cown_init progs)
    (fun hr hr' ih hs => cown_stepSolver ih (reachable_w hwp hn hr).waiting (reachable_safe hr').alive hs)
    fun hr _ ih _ hs =>
      cown_stepIface ih (reachable_inv hr).1 (reachable_inv hr).2 (reachable_w hwp hn hr).waiting hs

/-- the lock invariants of a reachable state of `Cfg.fixed`, as `ControllerFull` and `Props/C18.lean`
(`lock_ownership`, `command_lock_ownership`, `dispatch_wakeup_not_lost`) take them -/
structure Locks (s : State) : Prop where
  ld : LD s
  lr : LR s
  lq : LQ s
  qs : QS s
  lp : LP s
  co : COwn s

theorem reachable_locks {progs : Tid → List Op} {s : State}
    (hr : Reachable Cfg.fixed progs s) : Locks s := by
  refine hr.induct ⟨ownedAt_init progs rfl nofun, ownedAt_init progs rfl nofun,
    ownedAt_init progs rfl nofun, qs_init progs, ownedAt_init progs rfl nofun, cown_init progs⟩
    (fun hr hr' ih hs => ?_) fun hr hr' ih ht hs => ?_
  all_goals
    have hW := reachable_w (cfg := Cfg.fixed) rfl rfl hr
    have hw := hW.waiting
    have hlp := (reachable_wl (cfg := Cfg.fixed) rfl rfl hr').2
    have hco := reachable_cown (cfg := Cfg.fixed) rfl rfl hr'
  · have hal := (reachable_safe hr').alive
    exact ⟨ld_stepSolver ih.ld hw hs, lr_stepSolver ih.lr hw hW.zero hal hs,
      lq_stepSolver ih.lq hw hW.zero hal hs, qs_stepSolver rfl ih.qs hs, hlp, hco⟩
  · have hq := (reachable_inv hr).2
    exact ⟨ld_stepIface ih.ld hw hq ht hs, lr_stepIface ih.lr hw hq ht hs,
      lq_stepIface ih.lq hw hq ht hs, qs_stepIface rfl ih.qs ih.lq hw hs, hlp, hco⟩

end PysphVerif.Controller
