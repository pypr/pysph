import Mathlib.Algebra.Order.Ring.Cast
import Mathlib.Algebra.Order.Ring.Abs
import Mathlib.Tactic.Linarith
import PysphVerif.Lemmas.Domain
import PysphVerif.Lemmas.FoldSelect
set_option linter.unusedSectionVars false
/-!
Helper lemmas for C07, coverage part: a lattice image `q + k·L` that comes
within the layer thickness of a point of the box has `k ∈ {−1, 0, 1}` and `q`
lies in the corresponding ghost layer.  Also: the cell size dominates
`radius_scale · h` of every particle.
-/
namespace PysphVerif.Domain
open scoped PysphVerif.OrderChain
variable {α : Type} [Field α] [LinearOrder α] [IsStrictOrderedRing α]

theorem axis_cover (lo hi δ p q : α) (k : ℤ) (hp : lo ≤ p ∧ p ≤ hi) (hq : lo ≤ q ∧ q ≤ hi)
    (hδ : δ < hi - lo) (hnear : |q + (k : α) * (hi - lo) - p| ≤ δ) :
    k = 0 ∨ (k = 1 ∧ q - lo ≤ δ) ∨ (k = -1 ∧ hi - q ≤ δ) := by
  have hL : 0 < hi - lo := lt_of_le_of_lt (le_trans (abs_nonneg _) hnear) hδ
  obtain ⟨h1, h2⟩ := abs_le.mp hnear
  -- `q - p` is within one period and `δ` below one period, so `|k| < 2`
  have hk2 : (k : α) < 2 := lt_of_mul_lt_mul_right (by linarith [hp.2, hq.1]) hL.le
  have hk1 : ((-2 : ℤ) : α) < k :=
    lt_of_mul_lt_mul_right (by push_cast; linarith [hp.1, hq.2]) hL.le
  obtain rfl | rfl | rfl : k = 0 ∨ k = 1 ∨ k = -1 := by
    have : k < 2 := by exact_mod_cast hk2
    have : -2 < k := Int.cast_lt.mp hk1
    omega
  · exact .inl rfl
  · rw [Int.cast_one, one_mul] at h2
    exact .inr (.inl ⟨rfl, by linarith [hp.2]⟩)
  · rw [Int.cast_neg, Int.cast_one, neg_one_mul] at h1
    exact .inr (.inr ⟨rfl, by linarith [hp.1]⟩)

theorem carrayMax_ge (l : List α) (x : α) (hx : x ∈ l) : x ≤ carrayMax l := by
  cases l with
  | nil => cases hx
  | cons a as => exact (foldl_max_spec (fun _ _ => rfl) as a).2 x hx

theorem hmax_fold_ge (arrs : List (List (Particle α))) (m0 : α) :
    ∀ arr ∈ arrs, ∀ p ∈ arr, p.h ≤ arrs.foldl hmaxStep m0 := fun arr harr p hp =>
  le_trans (carrayMax_ge _ _ (List.mem_map.mpr ⟨p, hp, rfl⟩))
    ((foldl_max_key_spec (key := fun arr : List (Particle α) => carrayMax (arr.map (·.h)))
      (fun _ _ => rfl) arrs m0).2.2 arr harr)

/-- `heps`: where `radius_scale · hmax` is below `eps` (the `1e-6` guard) the cell size is `1` -/
theorem le_cellSize (c : Config α) (heps : c.eps ≤ 1) (arrs : List (List (Particle α))) :
    c.radiusScale * arrs.foldl hmaxStep (-1) ≤ cellSize c arrs ∧ c.eps ≤ cellSize c arrs := by
  unfold cellSize
  simp only
  split
  · rename_i h; exact ⟨h.le.trans heps, heps⟩
  · rename_i h; exact ⟨le_rfl, not_lt.mp h⟩

/-- so with `n_layers ≥ 1` the ghost layer is at least as thick as any interaction radius
`radius_scale · max(h_i, h_j)` -/
theorem cellSize_ge (c : Config α) (hrs : 0 ≤ c.radiusScale) (heps : c.eps ≤ 1)
    (arrs : List (List (Particle α))) (arr : List (Particle α)) (harr : arr ∈ arrs)
    (p : Particle α) (hp : p ∈ arr) : c.radiusScale * p.h ≤ cellSize c arrs :=
  (mul_le_mul_of_nonneg_left (hmax_fold_ge arrs (-1) arr harr p hp) hrs).trans
    (le_cellSize c heps arrs).1

end PysphVerif.Domain
