import PysphVerif.Model.KernelWrapper
import PysphVerif.Lemmas.Kernel
/-!
C08 — histories of calls on one compiled kernel wrapper (`Model/KernelWrapper.lean`).

A wrapper whose methods return VALUES (numbers, tuples of new floats) hands out results that no
later call can change — for every kernel, even one that leaves stale components in the scratch
buffer (`observe_eq_observeNow`).  For the template as `canonical` records it and a kernel whose
`gradient` stores all three components, every retained result of every history is a function of
that call's own arguments (`observe_canonical`).
-/
namespace PysphVerif.KernelWrapper

section
variable {α : Type}

theorem retObj_read (o : Ops α) (c : Call α) (f : Frame α) {r : Ret} (h : r.isValue = true)
    (s s' : St α) : (retObj o c f r).read s = (retObj o c f r).read s' := by
  cases r
  · rfl
  · rfl
  · cases h

theorem observe_eq_observeNow (o : Ops α) (code : Code)
    (hk : code.kernel.ret.isValue = true) (hg : code.gradient.ret.isValue = true) :
    ∀ (cs : List (Call α)) (s : St α), observe o code s cs = observeNow o code s cs := by
  intro cs
  induction cs with
  | nil => intro s; rfl
  | cons c cs ih =>
    intro s
    have ih' := ih (step o code s c).1
    unfold observe at ih' ⊢
    simp only [run, observeNow, List.map_cons]
    rw [ih']
    congr 1
    exact retObj_read o c _ (by unfold Code.method; split <;> assumption) _ _

theorem arg0 (c : Call α) : c.arg 0 = c.xi.x := rfl
theorem arg1 (c : Call α) : c.arg 1 = c.xi.y := rfl
theorem arg2 (c : Call α) : c.arg 2 = c.xi.z := rfl
theorem arg3 (c : Call α) : c.arg 3 = c.xj.x := rfl
theorem arg4 (c : Call α) : c.arg 4 = c.xj.y := rfl
theorem arg5 (c : Call α) : c.arg 5 = c.xj.z := rfl

theorem step_canonical_read (o : Ops α)
    (hfull : ∀ x r h b b', o.gradient x r h b = o.gradient x r h b')
    (z : V3 α) (s s' : St α) (c : Call α) :
    (step o canonical s c).2.read s' = pureResult o z c := by
  unfold step callMethod Code.method pureResult
  cases hc : c.isGrad
  · simp [canonical, sepAll, execBody, execStmt, retObj, Obj.read, St.getBuf, St.setBuf, V3.set,
      arg0, arg1, arg2, arg3, arg4, arg5, sepOf, normOf]
  · simp [canonical, sepAll, execBody, execStmt, retObj, Obj.read, St.getBuf, St.setBuf, V3.set,
      V3.get, V3.toList, arg0, arg1, arg2, arg3, arg4, arg5, sepOf, normOf]
    rw [hfull _ _ _ s.grad z]
    simp

theorem canonical_isValue : canonical.kernel.ret.isValue = true ∧
    canonical.gradient.ret.isValue = true := by decide

theorem observeNow_canonical (o : Ops α)
    (hfull : ∀ x r h b b', o.gradient x r h b = o.gradient x r h b') (z : V3 α) :
    ∀ (cs : List (Call α)) (s : St α), observeNow o canonical s cs = cs.map (pureResult o z) := by
  intro cs
  induction cs with
  | nil => intro s; rfl
  | cons c cs ih =>
    intro s
    simp only [observeNow, List.map_cons]
    rw [ih, step_canonical_read o hfull z]

theorem observe_canonical (o : Ops α)
    (hfull : ∀ x r h b b', o.gradient x r h b = o.gradient x r h b') (z : V3 α)
    (cs : List (Call α)) (s : St α) : observe o canonical s cs = cs.map (pureResult o z) := by
  rw [observe_eq_observeNow o canonical canonical_isValue.1 canonical_isValue.2,
    observeNow_canonical o hfull z]

end

open PysphVerif.Kernel

/-- the kernel object is the table `K` (`Lemmas/Kernel.lean`: `W`, `gradient`), whose `gradient`
stores all three components whatever the buffer held -/
noncomputable def realOps (K : KTable) : Ops ℝ :=
  { sub := fun a b => a - b, add := fun a b => a + b, mul := fun a b => a * b,
    sqrt := Real.sqrt,
    kernel := fun _ r h => W K r h,
    gradient := fun x r h _ => ⟨gradient K 0 x.x x.y x.z r h, gradient K 1 x.x x.y x.z r h,
      gradient K 2 x.x x.y x.z r h⟩,
    undef := 0 }

def sepR (c : Call ℝ) : V3 ℝ := ⟨c.xi.x - c.xj.x, c.xi.y - c.xj.y, c.xi.z - c.xj.z⟩
noncomputable def distR (c : Call ℝ) : ℝ :=
  Real.sqrt ((sepR c).x * (sepR c).x + (sepR c).y * (sepR c).y + (sepR c).z * (sepR c).z)

/-- what a call on the wrapper of table `K` must show, now and later -/
noncomputable def wrapperSpec (K : KTable) (c : Call ℝ) : List ℝ :=
  if c.isGrad then
    [gradient K 0 (sepR c).x (sepR c).y (sepR c).z (distR c) c.h,
     gradient K 1 (sepR c).x (sepR c).y (sepR c).z (distR c) c.h,
     gradient K 2 (sepR c).x (sepR c).y (sepR c).z (distR c) c.h]
  else [W K (distR c) c.h]

theorem pureResult_realOps (K : KTable) (z : V3 ℝ) (c : Call ℝ) :
    pureResult (realOps K) z c = wrapperSpec K c := by
  unfold pureResult wrapperSpec
  cases c.isGrad <;> simp [realOps, sepOf, normOf, sepR, distR, V3.toList]

end PysphVerif.KernelWrapper
