import Mathlib.Algebra.Order.Field.Basic
import PysphVerif.Lemmas.FoldInv
import PysphVerif.Model.GaussJordan
set_option linter.unusedSectionVars false
/-!
C13, the flat row-major arrays of `Model/GaussJordan.lean` read as matrices: `get2 nt m i j =
m[nt*i + j]`, and what a loop of writes leaves when read back through it (`row_fold`, `col_fold`:
one row, or one column per step, where a step may read the array; `fill_row_fold`, `fill_fold`,
`fill_grid`: cells filled with values that do not depend on the array written).  Nothing here knows
of `gj_solve`: `GaussJordan.lean` and `LinalgHelpers.lean` stand side by side on this module.
-/
namespace PysphVerif.GaussJordan
variable {K : Type} [Field K] [LinearOrder K] [IsStrictOrderedRing K]

theorem size_wr (a : Array K) (i : Nat) (v : K) : (wr a i v).size = a.size :=
  Array.size_setIfInBounds

theorem rd_wr (a : Array K) (i j : Nat) (v : K) :
    rd (wr a i v) j = if i = j ∧ i < a.size then v else rd a j := by
  simp only [rd, wr, Array.getD_eq_getD_getElem?, Array.getElem?_setIfInBounds]
  by_cases h : i = j
  · subst h
    by_cases h2 : i < a.size <;> simp [h2]
  · simp [h]

theorem wr_rd_self (a : Array K) (p : Nat) : wr a p (rd a p) = a := by
  unfold wr rd
  rw [Array.setIfInBounds_def]
  split
  · simp only [Array.getInternal_eq_getElem, Array.set_getElem_self]
  · rfl

def get2 (nt : Nat) (m : Array K) (i j : Nat) : K := rd m (nt*i + j)

theorem flat_inj {nt i j i' j' : Nat} (hj : j < nt) (hj' : j' < nt)
    (h : nt*i + j = nt*i' + j') : i = i' ∧ j = j' := by
  have hjj : j = j' := by
    have := congrArg (· % nt) h
    simpa [Nat.mul_add_mod, Nat.mod_eq_of_lt hj, Nat.mod_eq_of_lt hj'] using this
  subst hjj
  exact ⟨Nat.eq_of_mul_eq_mul_left (by omega) (Nat.add_right_cancel h), rfl⟩

theorem get2_wr {n nt : Nat} (m : Array K) (r c i j : Nat) (v : K) (hr : r < n) (hc : c < nt)
    (hj : j < nt) (hsz : n*nt ≤ m.size) :
    get2 nt (wr m (nt*r + c) v) i j = if i = r ∧ j = c then v else get2 nt m i j := by
  have hb : nt*r + c < m.size := lt_of_lt_of_le (Nat.mul_add_lt_mul_of_lt_of_lt hr hc) hsz
  unfold get2
  rw [rd_wr]
  exact if_congr ⟨fun h => (flat_inj hc hj h.1).imp Eq.symm Eq.symm,
    fun h => ⟨by rw [h.1, h.2], hb⟩⟩ rfl rfl

/-- a loop that writes the cells `c a, c (a+1), …` of row `r`; each step may use that the cells
written before hold `g` and everything else is as in `m` -/
theorem row_fold {n nt : Nat} (m : Array K) (r : Nat) (hr : r < n) (hsz : n*nt ≤ m.size)
    (g : Nat → K) (c : Nat → Nat) (step : Array K → Nat → Array K) (a t : Nat)
    (hc : ∀ s, s < t → c (a+s) < nt)
    (hstep : ∀ s m', s < t → m'.size = m.size →
      (∀ i k, k < nt → get2 nt m' i k =
        if i = r ∧ ∃ s', s' < s ∧ c (a+s') = k then g k else get2 nt m i k) →
      step m' (a+s) = wr m' (nt*r + c (a+s)) (g (c (a+s)))) :
    ((List.range' a t).foldl step m).size = m.size ∧
    ∀ i k, k < nt → get2 nt ((List.range' a t).foldl step m) i k =
      if i = r ∧ ∃ s, s < t ∧ c (a+s) = k then g k else get2 nt m i k := by
  induction t with
  | zero => exact ⟨rfl, fun i k _ => by rw [if_neg (by rintro ⟨_, s, h, _⟩; omega)]; rfl⟩
  | succ t ih =>
    obtain ⟨hs, hg⟩ := ih (fun s h => hc s (by omega)) (fun s m' h => hstep s m' (by omega))
    rw [List.range'_concat, List.foldl_append]
    simp only [List.foldl_cons, List.foldl_nil, Nat.one_mul]
    generalize (List.range' a t).foldl step m = m' at hs hg
    have hct := hc t (by omega)
    rw [hstep t m' (by omega) hs hg]
    refine ⟨by rw [size_wr, hs], fun i k hk => ?_⟩
    rw [get2_wr m' r _ i k _ hr hct hk (hs ▸ hsz), hg i k hk]
    simp only [Nat.exists_lt_succ_right]
    by_cases h1 : i = r ∧ k = c (a+t)
    · rw [if_pos h1, if_pos ⟨h1.1, Or.inr h1.2.symm⟩, h1.2]
    · rw [if_neg h1]
      exact if_congr ⟨fun h => ⟨h.1, Or.inl h.2⟩,
        fun h => ⟨h.1, h.2.resolve_right fun e => h1 ⟨h.1, e.symm⟩⟩⟩ rfl rfl

/-- a loop over the columns whose step `j` touches column `j` only and makes it `f · j`, given
that it finds that column as it was in `m` -/
theorem col_fold {nt : Nat} (m : Array K) (f : Nat → Nat → K) (step : Array K → Nat → Array K)
    (hstep : ∀ j m', j < nt → m'.size = m.size → (∀ i, get2 nt m' i j = get2 nt m i j) →
      (step m' j).size = m'.size ∧ ∀ i j', j' < nt →
        get2 nt (step m' j) i j' = if j' = j then f i j else get2 nt m' i j') :
    ((List.range nt).foldl step m).size = m.size ∧
    ∀ i j, j < nt → get2 nt ((List.range nt).foldl step m) i j = f i j := by
  obtain ⟨hs, hg⟩ := foldl_range_inv step (fun m' t => m'.size = m.size ∧
      ∀ i j, j < nt → get2 nt m' i j = if j < t then f i j else get2 nt m i j) nt m
    ⟨rfl, fun i j _ => rfl⟩ fun m' t ht ⟨hs, hg⟩ => by
      obtain ⟨hs', hg'⟩ := hstep t m' ht hs fun i => by rw [hg i t ht, if_neg (lt_irrefl t)]
      refine ⟨hs'.trans hs, fun i j hj => ?_⟩
      rw [hg' i j hj, hg i j hj]
      by_cases hjt : j = t
      · rw [if_pos hjt, if_pos (by omega), hjt]
      · rw [if_neg hjt]
        exact if_congr (by omega) rfl rfl
  exact ⟨hs, fun i j hj => by rw [hg i j hj, if_pos hj]⟩

theorem fill_row_fold {w rows : Nat} (g : Nat → K) (step : Array K → Nat → Array K)
    (i off : Nat) (hstep : ∀ r j, step r j = wr r (w*i + (off + j)) (g j)) (r0 : Array K)
    (hsz : rows*w ≤ r0.size) (hi : i < rows) (t : Nat) (ht : off + t ≤ w) :
    ((List.range t).foldl step r0).size = r0.size ∧
    ∀ i' j', j' < w → get2 w ((List.range t).foldl step r0) i' j' =
      if i' = i ∧ off ≤ j' ∧ j' < off + t then g (j' - off) else get2 w r0 i' j' := by
  obtain ⟨hs, hg⟩ := row_fold r0 i hi hsz (fun k => g (k - off)) (fun j => off + j) step 0 t
    (fun s h => by omega) (fun s m' _ _ _ => by
      show _ = wr m' _ (g (off + (0 + s) - off))
      rw [hstep, Nat.add_sub_cancel_left])
  rw [List.range_eq_range']
  refine ⟨hs, fun i' j' hj => ?_⟩
  rw [hg i' j' hj]
  by_cases h : i' = i ∧ off ≤ j' ∧ j' < off + t
  · rw [if_pos ⟨h.1, j' - off, by omega, by omega⟩, if_pos h]
  · rw [if_neg (by rintro ⟨h1, s, h2, h3⟩; exact h ⟨h1, by omega, by omega⟩), if_neg h]

theorem fill_fold {w : Nat} (g : Nat → Nat → K) (rowstep : Array K → Nat → Array K)
    (r0 : Array K) (t : Nat)
    (hrow : ∀ r i, i < t → r.size = r0.size → (rowstep r i).size = r0.size ∧
      ∀ i' j', j' < w → get2 w (rowstep r i) i' j' = if i' = i then g i j' else get2 w r i' j') :
    ((List.range t).foldl rowstep r0).size = r0.size ∧
    ∀ i' j', j' < w → get2 w ((List.range t).foldl rowstep r0) i' j' =
      if i' < t then g i' j' else get2 w r0 i' j' :=
  foldl_range_inv rowstep (fun r k => r.size = r0.size ∧
      ∀ i' j', j' < w → get2 w r i' j' = if i' < k then g i' j' else get2 w r0 i' j') t r0
    ⟨rfl, fun i' j' hj => rfl⟩ fun r k hk ⟨hs, hg⟩ => by
      obtain ⟨h1, h2⟩ := hrow r k hk hs
      refine ⟨h1, fun i' j' hj => ?_⟩
      rw [h2 i' j' hj, hg i' j' hj]
      by_cases h : i' = k
      · rw [if_pos h, if_pos (by omega), h]
      · rw [if_neg h]
        exact if_congr (by omega) rfl rfl

theorem fill_grid {w rows : Nat} (g : Nat → Nat → K) (cell : Nat → Array K → Nat → Array K)
    (hcell : ∀ i r j, cell i r j = wr r (w*i + j) (g i j)) (r0 : Array K)
    (hsz : rows*w ≤ r0.size) :
    ((List.range rows).foldl (fun r i => (List.range w).foldl (cell i) r) r0).size = r0.size ∧
    ∀ i j, j < w →
      get2 w ((List.range rows).foldl (fun r i => (List.range w).foldl (cell i) r) r0) i j =
        if i < rows then g i j else get2 w r0 i j := by
  refine fill_fold g _ r0 rows fun r i hi hr => ?_
  obtain ⟨h1, h2⟩ := fill_row_fold (g i) (cell i) i 0 (fun r j => by rw [hcell, Nat.zero_add]) r
    (by rw [hr]; exact hsz) hi w (by omega)
  refine ⟨by rw [h1, hr], fun i' j' hj => ?_⟩
  rw [h2 i' j' hj]
  by_cases h : i' = i
  · rw [if_pos ⟨h, by omega, by omega⟩, if_pos h, Nat.sub_zero]
  · rw [if_neg (fun h' => h h'.1), if_neg h]

end PysphVerif.GaussJordan
