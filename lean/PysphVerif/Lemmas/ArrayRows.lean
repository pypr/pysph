import PysphVerif.Lemmas.FoldInv
/-!
The row operations every model of `ParticleArray` shares, away from any one
model: cyarray's swap-remove and gather through an index array, and the index
loop of `align_particles` as a function of the `tag == Local` flags alone.
Each model shows that its own loop computes `alignPerm` of its flags and that
its rows are gathered through the result.  Core Lean only.
-/
namespace PysphVerif.ArrayRows
open List

variable {β γ : Type}

theorem map_range_getD (l : List γ) (f : γ → β) (g : Nat → γ) :
    (range l.length).map (fun i => f (l.getD i (g i))) = l.map f := by
  apply ext_getElem
  · rw [length_map, length_map, length_range]
  · intro i h1 _
    rw [length_map, length_range] at h1
    rw [getElem_map, getElem_map, getElem_range, getD_eq_getElem?_getD, getElem?_eq_getElem h1]
    rfl

/-- `c_align_array` / `copy_values` on a list of rows: row `k` of the result is row `src[k]` -/
def gather (src : List Nat) (l : List β) : List β :=
  src.filterMap (fun i => l[i]?)

theorem gather_append (s t : List Nat) (l : List β) : gather (s ++ t) l = gather s l ++ gather t l :=
  filterMap_append

theorem gather_range_le (l : List β) (n : Nat) (h : n ≤ l.length) :
    gather (range n) l = l.take n := by
  induction n with
  | zero => rfl
  | succ n ih =>
    rw [range_succ, gather_append, ih (Nat.le_of_succ_le h), take_add_one]
    simp [gather, getElem?_eq_getElem (show n < l.length from h)]

theorem gather_range (l : List β) : gather (range l.length) l = l :=
  (gather_range_le l l.length (Nat.le_refl _)).trans take_length

theorem gather_perm (idx : List Nat) (l : List β) (h : idx ~ range l.length) : gather idx l ~ l := by
  have := h.filterMap (fun i => l[i]?)
  rwa [← gather, ← gather, gather_range] at this

theorem gather_eq_map (src : List Nat) (l : List β) (d : β) (h : ∀ i ∈ src, i < l.length) :
    gather src l = src.map (fun i => l.getD i d) := by
  induction src with
  | nil => rfl
  | cons i src ih =>
    have hi : i < l.length := h i mem_cons_self
    rw [gather, filterMap_cons, getElem?_eq_getElem hi, map_cons, getD_eq_getElem?_getD,
      getElem?_eq_getElem hi]
    exact congrArg (l[i] :: ·) (ih fun j hj => h j (mem_cons_of_mem _ hj))

theorem gather_getElem? (idx : List Nat) (l : List β) (h : ∀ v ∈ idx, v < l.length) (k : Nat) :
    (gather idx l)[k]? = idx[k]?.bind (fun i => l[i]?) := by
  cases hk : idx[k]? with
  | none =>
    rw [Option.bind_none, getElem?_eq_none_iff]
    exact Nat.le_trans (length_filterMap_le _ _) (getElem?_eq_none_iff.mp hk)
  | some i =>
    have hi : i < l.length := h i (mem_of_getElem? hk)
    rw [gather_eq_map idx l l[i] h, getElem?_map, hk, Option.map_some, Option.bind_some,
      getD_eq_getElem?_getD, getElem?_eq_getElem hi]
    rfl

theorem gather_length (idx : List Nat) (l : List β) (h : ∀ v ∈ idx, v < l.length) :
    (gather idx l).length = idx.length := by
  cases idx with
  | nil => rfl
  -- any row serves as the default that is never read
  | cons v idx => rw [gather_eq_map _ l (l[v]'(h v mem_cons_self)) h, length_map]

theorem gather_congr (src : List Nat) (l l' : List β) (h : ∀ j ∈ src, l[j]? = l'[j]?) :
    gather src l = gather src l' := by
  induction src with
  | nil => rfl
  | cons a src ih =>
    simp only [gather, filterMap_cons, h a mem_cons_self]
    rw [← gather, ← gather, ih fun x hx => h x (mem_cons_of_mem _ hx)]

/-- one index of cyarray `remove` -/
def swapRemove (l : List β) (i : Nat) : List β :=
  if i < l.length then
    match l.getLast? with
    | some last => (l.set i last).dropLast
    | none => l
  else l

/-- `remove(sorted_indices, input_sorted=1, stride)`: from the largest index down -/
def removeRows (sortedIdx : List Nat) (l : List β) : List β :=
  sortedIdx.reverse.foldl swapRemove l

theorem swapRemove_eq (l : List β) (i : Nat) (h : i < l.length) (hne : l ≠ []) :
    swapRemove l i = (l.set i (l.getLast hne)).dropLast := by
  unfold swapRemove
  rw [if_pos h, List.getLast?_eq_some_getLast hne]

theorem swapRemove_length (l : List β) (i : Nat) (h : i < l.length) :
    (swapRemove l i).length = l.length - 1 := by
  rw [swapRemove_eq l i h (List.ne_nil_of_length_pos (Nat.zero_lt_of_lt h))]; simp

theorem swapRemove_getElem?_lt (l : List β) (i j : Nat) (h : i < l.length) (hj : j < i) :
    (swapRemove l i)[j]? = l[j]? := by
  rw [swapRemove_eq l i h (List.ne_nil_of_length_pos (Nat.zero_lt_of_lt h))]
  simp only [List.dropLast_eq_take, List.length_set]
  rw [List.getElem?_take_of_lt (by omega), List.getElem?_set]
  have : i ≠ j := by omega
  simp [this]

theorem set_append_perm (l : List β) (i : Nat) (a : β) (hi : i < l.length) :
    (l.set i a ++ [l[i]]).Perm (l ++ [a]) := by
  induction l generalizing i with
  | nil => simp at hi
  | cons b l ih =>
    cases i with
    | zero =>
      exact (List.perm_append_comm (l₁ := a :: l) (l₂ := [b])).trans
        (List.Perm.cons b (List.perm_append_comm (l₁ := [a])))
    | succ i => exact List.Perm.cons b (ih i (Nat.lt_of_succ_lt_succ hi))

theorem swapRemove_concat (l : List β) (a : β) (i : Nat) :
    swapRemove (l ++ [a]) i =
      if i < l.length then l.set i a else if i = l.length then l else l ++ [a] := by
  unfold swapRemove
  by_cases h1 : i < l.length
  · have : i < (l ++ [a]).length := by simp; omega
    simp only [this, if_true, List.getLast?_append, List.getLast?_singleton, h1]
    simp [h1]
  · by_cases h2 : i = l.length
    · subst h2
      simp
    · have : ¬ i < (l ++ [a]).length := by simp; omega
      rw [if_neg this, if_neg h1, if_neg h2]

theorem swapRemove_perm (l : List β) (i : Nat) (h : i < l.length) :
    (swapRemove l i ++ [l[i]]).Perm l := by
  obtain ⟨init, last, rfl⟩ : ∃ init last, l = init ++ [last] :=
    ⟨l.dropLast, l.getLast (List.ne_nil_of_length_pos (Nat.zero_lt_of_lt h)),
      (List.dropLast_concat_getLast _).symm⟩
  rw [swapRemove_concat]
  rw [List.length_append, List.length_singleton] at h
  by_cases hi : i < init.length
  · rw [if_pos hi, List.getElem_append_left hi]
    exact set_append_perm init i last hi
  · obtain rfl : i = init.length := by omega
    rw [if_neg hi, if_pos rfl, List.getElem_concat_length rfl]

theorem foldl_swapRemove_perm (ridx : List Nat) (l : List β)
    (hs : ridx.Pairwise (· > ·)) (hb : ∀ i ∈ ridx, i < l.length) :
    (ridx.foldl swapRemove l ++ gather ridx l).Perm l := by
  induction ridx generalizing l with
  | nil => simp [gather]
  | cons i rest ih =>
    have hi : i < l.length := hb i (by simp)
    have hs' : rest.Pairwise (· > ·) := (List.pairwise_cons.mp hs).2
    have hlt : ∀ j ∈ rest, j < i := fun j hj => (List.pairwise_cons.mp hs).1 j hj
    have hb' : ∀ j ∈ rest, j < (swapRemove l i).length := by
      intro j hj
      rw [swapRemove_length l i hi]
      have := hlt j hj; omega
    have e2 : gather rest (swapRemove l i) = gather rest l :=
      gather_congr _ _ _ fun j hj => swapRemove_getElem?_lt l i j hi (hlt j hj)
    have e3 : gather (i :: rest) l = l[i] :: gather rest l := by
      simp [gather, List.getElem?_eq_getElem hi]
    have ih' := ih (swapRemove l i) hs' hb'
    rw [e2] at ih'
    rw [List.foldl_cons, e3]
    refine List.perm_middle.trans ?_
    refine (List.Perm.cons _ ih').trans ?_
    exact (List.perm_append_comm (l₁ := [l[i]])).trans (swapRemove_perm l i hi)

theorem removeRows_perm (idx : List Nat) (l : List β)
    (hs : idx.Pairwise (· < ·)) (hb : ∀ i ∈ idx, i < l.length) :
    (removeRows idx l ++ gather idx l).Perm l := by
  have h1 := foldl_swapRemove_perm idx.reverse l
    (by simpa [List.pairwise_reverse] using hs) (by simpa using hb)
  have h2 : (gather idx.reverse l).Perm (gather idx l) :=
    List.Perm.filterMap _ (List.reverse_perm idx)
  exact (List.Perm.append_left _ h2.symm).trans h1

theorem swapRemove_subset (l : List β) (i : Nat) : ∀ x ∈ swapRemove l i, x ∈ l := by
  intro x hx
  by_cases h : i < l.length
  · exact (swapRemove_perm l i h).subset (mem_append_left _ hx)
  · rwa [swapRemove, if_neg h] at hx

theorem swapRemove_map (f : β → γ) (l : List β) (i : Nat) :
    (swapRemove l i).map f = swapRemove (l.map f) i := by
  unfold swapRemove
  rw [length_map, getLast?_map]
  split
  · cases l.getLast? with
    | none => rfl
    | some last => exact map_dropLast.trans (congrArg dropLast map_set)
  · rfl

theorem removeRows_subset (idx : List Nat) (l : List β) : ∀ x ∈ removeRows idx l, x ∈ l :=
  foldlRecOn (motive := fun r => ∀ x ∈ r, x ∈ l) _ swapRemove (fun _ h => h)
    fun r hr i _ x hx => hr x (swapRemove_subset r i x hx)

/-- the slot permutation depends on the index list and the length only, so every column undergoes the same one -/
theorem removeRows_map (f : β → γ) (idx : List Nat) (l : List β) :
    (removeRows idx l).map f = removeRows idx (l.map f) :=
  (foldl_hom (map f) fun l i => (swapRemove_map f l i).symm).symm

/-- one iteration of `align_particles`: state = (index_array so far, next_insert, num_moves); the
running index is the length of the index array -/
def alignStep (st : List Nat × Nat × Nat) (b : Bool) : List Nat × Nat × Nat :=
  if b then
    if st.1.length != st.2.1 then
      (st.1.set st.2.1 st.1.length ++ [st.1.getD st.2.1 0], st.2.1 + 1, st.2.2 + 1)
    else (st.1 ++ [st.1.length], st.2.1 + 1, st.2.2)
  else (st.1 ++ [st.1.length], st.2.1, st.2.2)

/-- (index_array, num_real_particles, num_moves) from the `tag == Local` flags -/
def alignPerm (fl : List Bool) : List Nat × Nat × Nat := fl.foldl alignStep ([], 0, 0)

theorem alignStep_false (idx : List Nat) (next m : Nat) :
    alignStep (idx, next, m) false = (idx ++ [idx.length], next, m) := rfl

theorem alignStep_true_nil (L : List Nat) (m : Nat) :
    alignStep (L, L.length, m) true = (L ++ [L.length], L.length + 1, m) := by
  simp only [alignStep, bne_self_eq_false, if_true, Bool.false_eq_true, if_false]

theorem alignStep_true_cons (L G : List Nat) (g m : Nat) :
    alignStep (L ++ g :: G, L.length, m) true =
      (L ++ (L ++ g :: G).length :: (G ++ [g]), L.length + 1, m + 1) := by
  have hne : ((L ++ g :: G).length != L.length) = true := by
    rw [length_append, length_cons]; exact bne_iff_ne.mpr (by omega)
  have hset : (L ++ g :: G).set L.length (L ++ g :: G).length = L ++ (L ++ g :: G).length :: G := by
    rw [set_append_right _ _ (Nat.le_refl _), Nat.sub_self, set_cons_zero]
  have hget : (L ++ g :: G).getD L.length 0 = g := by
    rw [getD_eq_getElem?_getD, getElem?_append_right (Nat.le_refl _), Nat.sub_self]; rfl
  simp only [alignStep, if_true, hne, hset, hget, append_assoc, cons_append]

/-- the loop invariant after the flags `fl`; `L` are the Local rows seen, `G` the others -/
structure AlignInv (fl : List Bool) (st : List Nat × Nat × Nat) : Prop where
  perm : st.1 ~ range fl.length
  count : st.2.1 = fl.count true
  ident : st.2.2 = 0 → st.1 = range fl.length
  split : ∃ L G, st.1 = L ++ G ∧ L.length = st.2.1 ∧
    (∀ x ∈ L, fl[x]? = some true) ∧ (∀ x ∈ G, fl[x]? = some false)

/-- With the index array split as `L ++ G`: a non-Local row goes to the end of `G`; a Local row goes
to the end of `L` if `G` is empty, else into the place of the first entry `g` of `G`, which moves to
the end. -/
theorem AlignInv.step {fl : List Bool} {st : List Nat × Nat × Nat} (h : AlignInv fl st) (b : Bool) :
    AlignInv (fl ++ [b]) (alignStep st b) := by
  obtain ⟨idx, next, moves⟩ := st
  obtain ⟨hperm, hcount, hid, L, G, hidx, hL, hloc, hnon⟩ := h
  dsimp only at hperm hcount hid hidx hL
  subst hidx hL
  -- the running index, as the loop knows it
  have hlen : fl.length = (L ++ G).length := (hperm.length_eq.trans length_range).symm
  have hrange : range (fl ++ [b]).length = range fl.length ++ [(L ++ G).length] := by
    rw [length_append, length_singleton, range_succ, hlen]
  have hsucc : L ++ G ++ [(L ++ G).length] ~ range (fl ++ [b]).length :=
    hrange ▸ hperm.append_right _
  have hold : ∀ {v : Bool} {l : List Nat}, (∀ x ∈ l, fl[x]? = some v) →
      ∀ x ∈ l, (fl ++ [b])[x]? = some v := fun hl x hx => by
    rw [getElem?_append_left (List.getElem?_eq_some_iff.mp (hl x hx)).1]; exact hl x hx
  have hnew : ∀ {l : List Nat}, (∀ x ∈ l, fl[x]? = some b) →
      ∀ x ∈ l ++ [(L ++ G).length], (fl ++ [b])[x]? = some b := fun hl x hx =>
    (mem_append.mp hx).elim (hold hl x) fun h =>
      mem_singleton.mp h ▸ hlen ▸ getElem?_concat_length
  cases b with
  | false =>
    rw [alignStep_false]
    exact ⟨hsucc, by rw [count_append, hcount]; rfl, fun hm => by rw [hrange, ← hid hm], L,
      G ++ [(L ++ G).length], append_assoc .., rfl, hold hloc, hnew hnon⟩
  | true =>
    have hc : L.length + 1 = (fl ++ [true]).count true := by rw [count_append, ← hcount]; rfl
    cases G with
    | nil =>
      rw [append_nil] at hid hsucc hnew hrange
      rw [append_nil, alignStep_true_nil]
      exact ⟨hsucc, hc, fun hm => by rw [hrange, ← hid hm], L ++ [L.length], [], (append_nil _).symm,
        length_append, hnew hloc, fun _ h => nomatch h⟩
    | cons g G =>
      -- a move was counted, so `ident` is void
      rw [alignStep_true_cons]
      refine ⟨Perm.trans ?_ hsucc, hc, fun hm => absurd hm (Nat.succ_ne_zero _),
        L ++ [(L ++ g :: G).length], G ++ [g], by rw [append_assoc]; rfl, length_append, hnew hloc,
        fun x hx => hold hnon x ((perm_append_singleton g G).mem_iff.mp hx)⟩
      rw [append_assoc]
      exact (((perm_append_singleton g G).cons _).trans
        (perm_append_singleton _ (g :: G)).symm).append_left L

theorem alignInv (fl : List Bool) : AlignInv fl (alignPerm fl) :=
  foldl_prefix_inv alignStep (fun st seen => AlignInv seen st) fl _
    ⟨Perm.refl _, rfl, fun _ => rfl, [], [], rfl, rfl, (fun _ h => nomatch h), fun _ h => nomatch h⟩
    fun _ _ b _ _ h => h.step b

theorem alignPerm_perm (fl : List Bool) : (alignPerm fl).1 ~ range fl.length := (alignInv fl).perm

theorem alignPerm_flag (fl : List Bool) {k v : Nat} (h : (alignPerm fl).1[k]? = some v) :
    fl[v]? = some (decide (k < (alignPerm fl).2.1)) := by
  obtain ⟨L, G, hidx, hL, hloc, hnon⟩ := (alignInv fl).split
  rw [hidx, getElem?_append] at h
  rw [← hL]
  split at h
  · rename_i hk; rw [decide_eq_true hk]; exact hloc v (mem_of_getElem? h)
  · rename_i hk; rw [decide_eq_false hk]; exact hnon v (mem_of_getElem? h)

theorem alignPerm_of_sorted (k : Nat) (rest : List Bool) (h : ∀ b ∈ rest, b = false) :
    alignPerm (replicate k true ++ rest) = (range (k + rest.length), k, 0) := by
  have h1 : ∀ k, alignPerm (replicate k true) = (range k, k, 0) := by
    intro k
    induction k with
    | zero => rfl
    | succ k ih =>
      rw [alignPerm, replicate_succ', foldl_append, ← alignPerm, ih, foldl_cons, foldl_nil]
      have := alignStep_true_nil (range k) 0
      rwa [length_range, ← range_succ] at this
  have h2 : ∀ (rest : List Bool) (m : Nat), (∀ b ∈ rest, b = false) →
      rest.foldl alignStep (range m, k, 0) = (range (m + rest.length), k, 0) := by
    intro rest
    induction rest with
    | nil => intro m _; rfl
    | cons b rest ih =>
      intro m hb
      rw [hb b mem_cons_self, foldl_cons, alignStep_false, length_range, ← range_succ,
        ih _ fun b' hb' => hb b' (mem_cons_of_mem _ hb'), length_cons,
        Nat.succ_add_eq_add_succ]
  rw [alignPerm, foldl_append, ← alignPerm, h1, h2 rest k h]

theorem alignStep_length (st : List Nat × Nat × Nat) (b : Bool) :
    (alignStep st b).1.length = st.1.length + 1 := by
  unfold alignStep
  split
  · split
    · rw [length_append, length_set]; rfl
    · exact length_append
  · exact length_append

theorem foldl_zip_range_eq_alignPerm {τ : Type}
    (step : List Nat × Nat × Nat → Nat × τ → List Nat × Nat × Nat) (flag : τ → Bool)
    (h : ∀ st t, step st (st.1.length, t) = alignStep st (flag t)) (ts : List τ) :
    (zip (range ts.length) ts).foldl step ([], 0, 0) = alignPerm (ts.map flag) := by
  have key : ∀ (ts : List τ) (st : List Nat × Nat × Nat),
      (zip (range' st.1.length ts.length) ts).foldl step st = (ts.map flag).foldl alignStep st := by
    intro ts
    induction ts with
    | nil => intro st; rfl
    | cons t ts ih =>
      intro st
      rw [length_cons, range'_succ, zip_cons_cons, foldl_cons, map_cons, foldl_cons, h,
        ← alignStep_length st (flag t)]
      exact ih _
  rw [range_eq_range']
  exact key ts ([], 0, 0)

theorem alignPerm_next (f : β → Bool) (l : List β) : (alignPerm (l.map f)).2.1 = l.countP f := by
  rw [(alignInv _).count, count_eq_countP, countP_map]
  exact countP_congr fun x _ => by simp

theorem gather_alignPerm (f : β → Bool) (l : List β) :
    ∃ A B, gather (alignPerm (l.map f)).1 l = A ++ B ∧ A.length = (alignPerm (l.map f)).2.1 ∧
      (∀ a ∈ A, f a = true) ∧ (∀ b ∈ B, f b = false) := by
  obtain ⟨L, G, hidx, hL, hloc, hnon⟩ := (alignInv (l.map f)).split
  have hlt : ∀ v ∈ L ++ G, v < l.length := fun v hv =>
    length_map (as := l) f ▸ mem_range.mp ((hidx ▸ alignPerm_perm (l.map f)).mem_iff.mp hv)
  have hflag : ∀ {S : List Nat} {v : Bool}, (∀ x ∈ S, (l.map f)[x]? = some v) →
      ∀ a ∈ gather S l, f a = v := fun hS a ha => by
    obtain ⟨i, hi, hia⟩ := mem_filterMap.mp ha
    have := hS i hi
    rw [getElem?_map, hia] at this
    exact Option.some.inj this
  exact ⟨gather L l, gather G l, by rw [hidx, gather_append],
    (gather_length L l fun v hv => hlt v (mem_append_left _ hv)).trans hL, hflag hloc, hflag hnon⟩

end PysphVerif.ArrayRows
