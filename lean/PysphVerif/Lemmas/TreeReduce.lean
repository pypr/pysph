import PysphVerif.Lemmas.Determinism
import PysphVerif.Model.TreeReduce
import PysphVerif.Lemmas.FoldSelect
import PysphVerif.Lemmas.FoldInv
import Mathlib.Algebra.Order.Field.Basic
import PysphVerif.Lemmas.OrderChain
/-!
Helper lemmas for the level-1 reduction of the parallel octree build and for the
pruning test (`Model/TreeReduce.lean`), used by `Props/C05.lean`.
-/
namespace PysphVerif.TreeReduce
open PysphVerif.Determinism

variable {α : Type}

/-- it reads particle rows only, and particle rows are never changed -/
theorem absorbPart_discipline [Max α] : Discipline (absorbPart (α := α)) TRow.rd where
  reads_only_rd r s s' h := by
    have hrd : ∀ s : TRow α, absorbPart r s =
        match r, s.rd with
        | .tab t, some (o, hh) => .tab (bump t o hh)
        | r, _ => r := fun s => by cases r <;> cases s <;> rfl
    rw [hrd s, hrd s', h]
  keeps_rd r s := by cases r <;> cases s <;> rfl

def octMax [Max α] (oct : Nat → Nat) (h : Nat → α) (o : Nat) (z : α) (ps : List Nat) : α :=
  ((ps.filter fun p => oct p = o).map h).foldl max z

theorem foldl_serialStep_apply [Max α] (oct : Nat → Nat) (h : Nat → α) (ps : List Nat)
    (tab : Nat → α) (o : Nat) :
    (ps.foldl (serialStep oct h) tab) o = octMax oct h o (tab o) ps :=
  (foldl_update_slot oct (fun a p => max a (h p)) o ps tab).trans List.foldl_map.symm

theorem serialHmax_apply [Max α] (zero : α) (oct : Nat → Nat) (h : Nat → α) (ps : List Nat)
    (o : Nat) : serialHmax zero oct h ps o = octMax oct h o zero ps :=
  foldl_serialStep_apply oct h ps _ o

section OctMax
variable (oct : Nat → Nat) (h : Nat → α) (o : Nat)

theorem octMax_append [Max α] (z : α) (a b : List Nat) :
    octMax oct h o z (a ++ b) = octMax oct h o (octMax oct h o z a) b := by
  simp only [octMax, List.filter_append, List.map_append, List.foldl_append]

theorem octMax_max [LinearOrder α] (a b : α) (ps : List Nat) :
    octMax oct h o (max a b) ps = max a (octMax oct h o b ps) :=
  List.foldl_assoc

theorem octMax_perm [LinearOrder α] (z : α) {l₁ l₂ : List Nat} (hp : l₁.Perm l₂) :
    octMax oct h o z l₁ = octMax oct h o z l₂ :=
  ((hp.filter _).map h).foldl_eq' (fun _ _ _ _ a => max_right_comm a _ _) z

theorem le_octMax_of_mem [LinearOrder α] (z : α) (ps : List Nat) (p : Nat) (hp : p ∈ ps)
    (ho : oct p = o) : h p ≤ octMax oct h o z ps :=
  (foldl_max_spec max_def_lt _ z).2 _ <| List.mem_cons_of_mem _ <|
    List.mem_map_of_mem (List.mem_filter.mpr ⟨hp, decide_eq_true ho⟩)

end OctMax

theorem initState_tab (zero : α) (oct : Nat → Nat) (h : Nat → α) (T n t : Nat) (ht : t < T) :
    (initState zero oct h T n)[t]? = some (TRow.tab (fun _ => zero)) := by
  unfold initState
  rw [List.getElem?_append_left (by simpa using ht)]
  simp [ht]

theorem initState_part (zero : α) (oct : Nat → Nat) (h : Nat → α) (T n p : Nat) (hp : p < n) :
    (initState zero oct h T n)[p + T]? = some (TRow.part (oct p) (h p)) := by
  unfold initState partRows
  rw [List.getElem?_append_right (by simp)]
  simp [hp]

theorem evalRow_tab [Max α] (zero : α) (oct : Nat → Nat) (h : Nat → α) (T n : Nat)
    (tab : Nat → α) (chunk : List Nat) (hc : ∀ p ∈ chunk, p < n) :
    evalRow absorbPart (initState zero oct h T n) (TRow.tab tab) (chunk.map (· + T)) =
      TRow.tab (chunk.foldl (serialStep oct h) tab) := by
  unfold evalRow
  induction chunk generalizing tab with
  | nil => rfl
  | cons p ps ih =>
    have hp : p < n := hc p (List.mem_cons_self ..)
    simp only [List.map_cons, List.foldl_cons]
    have : absorb absorbPart (initState zero oct h T n) (TRow.tab tab) (p + T) =
        TRow.tab (serialStep oct h tab p) := by
      unfold absorb
      rw [initState_part zero oct h T n p hp]
      rfl
    rw [this]
    exact ih _ (fun q hq => hc q (List.mem_cons_of_mem _ hq))

theorem parTables_take [Max α] (zero : α) (oct : Nat → Nat) (h : Nat → α) (n : Nat)
    (chunks : List (List Nat)) (sched : List Nat)
    (hc : ∀ c ∈ chunks, ∀ p ∈ c, p < n) :
    (parTables zero oct h n chunks sched).take chunks.length =
      chunks.map (fun c => TRow.tab (serialHmax zero oct h c)) := by
  unfold parTables
  -- one destination per thread: the threads' own table rows `0 .. T-1`
  have hparts : ((List.range chunks.length).map fun t => [t]).flatten = List.range chunks.length := by
    rw [← List.flatMap_def, List.flatMap_singleton']
  rw [runLoop_eq_evalAll absorbPart_discipline _ _ sched _ (hparts.symm ▸ List.nodup_range), hparts]
  apply List.ext_getElem?
  intro t
  rw [List.getElem?_take, List.getElem?_map]
  by_cases ht : t < chunks.length
  · rw [if_pos ht, evalAll_getElem?, initState_tab zero oct h _ n t ht, Option.map_some,
      List.getElem?_eq_getElem ht, Option.map_some, evalAt, if_pos (List.mem_range.mpr ht),
      chunkRows, List.getElem?_eq_getElem ht, Option.getD_some,
      evalRow_tab zero oct h _ n _ _ (hc _ (List.getElem_mem ht))]
    rfl
  · simp only [ht, if_false]
    rw [List.getElem?_eq_none (by omega)]
    rfl

/-- `hacc` (the merged table starts at or above `zero`) lets the `zero` each thread's table
started from be absorbed -/
theorem merge_chunks [LinearOrder α] (zero : α) (oct : Nat → Nat) (h : Nat → α)
    (cs : List (List Nat)) (acc : Nat → α) (hacc : ∀ o, zero ≤ acc o) (o : Nat) :
    ((cs.map (fun c => TRow.tab (serialHmax zero oct h c))).foldl (mergeStep zero) acc) o =
      octMax oct h o (acc o) cs.flatten := by
  induction cs generalizing acc with
  | nil => rfl
  | cons c cs ih =>
    simp only [List.map_cons, List.foldl_cons, List.flatten_cons, octMax_append]
    rw [ih]
    · congr 1
      show max (serialHmax zero oct h c o) (acc o) = _
      rw [serialHmax_apply, max_comm, ← octMax_max, max_eq_left (hacc o)]
    · intro o'
      exact le_trans (hacc o') (le_max_right _ _)

/-- one thread: every micro-step is that thread's, so the projection is the whole order -/
theorem interleave_single (prog : List Op) (sched : List Nat) :
    interleave [prog] sched = prog := by
  have h := filter_interleave (fun _ => true) [prog] sched (List.pairwise_singleton ..)
  rwa [List.filter_eq_self.mpr fun _ _ => rfl, List.filter_eq_self.mpr fun _ _ => rfl,
    List.flatten_singleton] at h

theorem racy_fold_single [Max α] (oct : Nat → Nat) (h : Nat → α) (c : List Nat) (s : Racy α) :
    ((racyProg 0 c).foldl (racyStep oct h) s).shared = c.foldl (serialStep oct h) s.shared := by
  rw [racyProg, List.foldl_flatMap]
  -- a load and the store that follows it at once are one step of the serial loop
  refine (List.foldl_hom Racy.shared fun s p => ?_).symm
  funext o
  simp only [List.foldl_cons, List.foldl_nil, racyStep, serialStep, bump]
  by_cases ho : o = oct p
  · subst ho; simp
  · simp [ho]

section field
open scoped PysphVerif.OrderChain
variable [Field α] [LinearOrder α] [IsStrictOrderedRing α]

theorem mul_self_le_of_le_abs {a b : α} (h0 : 0 ≤ a) (h : a ≤ |b|) : a * a ≤ b * b :=
  abs_mul_abs_self b ▸ mul_self_le_mul_self h0 h

theorem not_isNbr_of_pruned_axis (half k hq hj hmax c q x d2 : α) (hk : 0 ≤ k) (hhq : 0 ≤ hq)
    (hhj : 0 ≤ hj) (hle : hj ≤ hmax) (hin : |x - c| ≤ half)
    (hp : prunedOnAxis half k hq hmax c q) (hd : (x - q) * (x - q) ≤ d2) :
    ¬ isNbr k d2 hq hj := by
  -- every particle of the node is at least the pruning radius away from `q` on this axis:
  -- `|c − q| ≤ |c − x| + |x − q|`
  have h1 : |c - q| ≤ |x - c| + |x - q| := abs_sub_comm c x ▸ abs_sub_le c x q
  have hR : max (k * hq) (k * hmax) ≤ |x - q| :=
    le_of_add_le_add_left ((hp.trans h1).trans (add_le_add_left hin _))
  have hq' : k * hq ≤ |x - q| := (le_max_left _ _).trans hR
  have hj' : k * hj ≤ |x - q| :=
    ((mul_le_mul_of_nonneg_left hle hk).trans (le_max_right _ _)).trans hR
  exact not_or.mpr
    ⟨not_lt.mpr ((mul_self_le_of_le_abs (mul_nonneg hk hhq) hq').trans hd),
      not_lt.mpr ((mul_self_le_of_le_abs (mul_nonneg hk hhj) hj').trans hd)⟩

theorem dist2_ge_axes (a b : α × α × α) :
    (a.1 - b.1) * (a.1 - b.1) ≤ dist2 a b ∧ (a.2.1 - b.2.1) * (a.2.1 - b.2.1) ≤ dist2 a b ∧
      (a.2.2 - b.2.2) * (a.2.2 - b.2.2) ≤ dist2 a b :=
  have h1 := mul_self_nonneg (a.1 - b.1)
  have h2 := mul_self_nonneg (a.2.1 - b.2.1)
  have h3 := mul_self_nonneg (a.2.2 - b.2.2)
  ⟨(le_add_of_nonneg_right h2).trans (le_add_of_nonneg_right h3),
    (le_add_of_nonneg_left h1).trans (le_add_of_nonneg_right h3),
    le_add_of_nonneg_left (add_nonneg h1 h2)⟩

end field

end PysphVerif.TreeReduce
