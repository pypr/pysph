import PysphVerif.Lemmas.RiemannVanLeer
/-!
# C15 — `van_leer`: whole runs

`van_leer` on data that pass its sign test is `vlFrom` (everything after the two Lagrangian sound
speeds, with the pressure floor as a parameter).  The floor `smallp` is an absolute pressure and
does not scale: scaling is exact if the floor is scaled with the data (`vlFrom_scale_floor`), and
on runs on which neither floor is ever applied (`vlFloorInactive`) one may stand for the other
(`vlFrom_floor`).
-/
namespace PysphVerif.Riemann
open PysphVerif.Gen.Riemann
open scoped PysphVerif.OrderChain

variable {K : Type} [Field K] [LinearOrder K] [IsStrictOrderedRing K]

/-- the `smallp` literal of `van_leer` (the double `1e-25`) -/
def vlSmallp : K := 8711228593176025 / 87112285931760246646623899502532662132736

theorem vlSmallp_pos : (0 : K) < vlSmallp := by unfold vlSmallp; positivity

def vlFrom (o : Ops K) (cl cr rhol rhor pl pr ul ur gamma : K) (niter : Int) (tol sp : K) : Res K :=
  vlFinish ul ur pl pr
    (van_leer_loop o (1 / rhol) (1 / rhor) cl cr (1 / 2 * (1 + gamma) / gamma) (1 + gamma) niter pl pr
      sp tol ul ur niter.toNat
      ⟨false, 0, max (pl + (pr - pl - cr * (ur - ul)) * cl / (cl + cr)) sp, 0, 0⟩)

theorem van_leer_eq (o : Ops K) (rhol rhor pl pr ul ur gamma : K) (niter : Int) (tol r0 r1 : K) :
    van_leer o rhol rhor pl pr ul ur gamma niter tol r0 r1 =
      if rhol < 0 ∨ rhor < 0 ∨ pl < 0 ∨ pr < 0 then ⟨1, 0, 0⟩
      else vlFrom o (o.sqrt (gamma * pl * rhol)) (o.sqrt (gamma * pr * rhor)) rhol rhor pl pr ul ur
        gamma niter tol vlSmallp := by
  unfold van_leer vlFrom vlFinish vlSmallp
  simp only [Nat.cast_ofNat, Nat.cast_one, Nat.cast_zero, pymax_eq_max]

theorem van_leer_eq_of_nonneg (o : Ops K) {rhol rhor pl pr : K} (hrl : 0 ≤ rhol) (hrr : 0 ≤ rhor)
    (hpl : 0 ≤ pl) (hpr : 0 ≤ pr) (ul ur gamma : K) (niter : Int) (tol r0 r1 : K) :
    van_leer o rhol rhor pl pr ul ur gamma niter tol r0 r1 =
      vlFrom o (o.sqrt (gamma * pl * rhol)) (o.sqrt (gamma * pr * rhor)) rhol rhor pl pr ul ur
        gamma niter tol vlSmallp := by
  rw [van_leer_eq, if_neg]
  exact fun h => h.elim hrl.not_gt fun h => h.elim hrr.not_gt fun h => h.elim hpl.not_gt hpr.not_gt

theorem vlFrom_mirror (o : Ops K) (cl cr rhol rhor pl pr ul ur gamma : K) (niter : Int) (tol sp : K)
    (hc : cl + cr ≠ 0) :
    Res.Rel id Neg.neg (vlFrom o cr cl rhor rhol pr pl (-ur) (-ul) gamma niter tol sp)
      (vlFrom o cl cr rhol rhor pl pr ul ur gamma niter tol sp) := by
  unfold vlFrom
  have h0 : pr + (pl - pr - cl * (-ul - -ur)) * cr / (cr + cl)
      = pl + (pr - pl - cr * (ur - ul)) * cl / (cl + cr) := by
    rw [add_comm cr cl]; field_simp; ring
  rw [h0, van_leer_loop_eq, van_leer_loop_eq]
  refine .loop vlSwap (fun _ => Iff.rfl) (fun s => ?_) (fun S => ?_) _ rfl
  · -- one pass: the Newton update is its own mirror image, the impedances change places
    simp only [van_leer_body_eq, vlSwap, vlNext, vlNewP_mirror]
    rfl
  · exact vlFinish_rel rfl rfl (by simp only [vlSwap]; ring)

theorem vlFrom_shift (o : Ops K) (cl cr rhol rhor pl pr ul ur gamma : K) (niter : Int) (tol sp c : K) :
    Res.Rel id (· + c) (vlFrom o cl cr rhol rhor pl pr (ul + c) (ur + c) gamma niter tol sp)
      (vlFrom o cl cr rhol rhor pl pr ul ur gamma niter tol sp) := by
  unfold vlFrom
  rw [add_sub_add_right_eq_sub, van_leer_loop_eq, van_leer_loop_eq]
  refine .loop id (fun _ => Iff.rfl) (fun s => ?_) (fun S => ?_) _ rfl
  · -- one pass: the velocities enter the Newton update through `ur - ul` only
    simp only [van_leer_body_eq, id]
    unfold vlNext
    rw [vlNewP_shift]
  · exact vlFinish_rel rfl rfl (by simp only [id]; ring)

/-- along the run from `s` (floor `sp`) neither floor is ever applied.  The impedances are written
out (`cl * o.sqrt (1 + g1 * (s.pstar - pl) / pl)` is `vlW o cl g1 s.pstar pl`): this predicate is what
the hypothesis `VanLeerFloorInactive` of `scaling_van_leer` unfolds to. -/
def vlFloorFree (o : Ops K) (Vl Vr cl cr g1 g2 : K) (niter : Int) (pl pr sp sp' tol ul ur : K) :
    Nat → van_leer_loopSt K → Prop
  | 0, _ => True
  | fuel + 1, s =>
    van_leer_loop_cond niter s →
      (sp ≤ vlNewP Vl Vr g2 pl pr ul ur s.pstar (cl * o.sqrt (1 + g1 * (s.pstar - pl) / pl))
          (cr * o.sqrt (1 + g1 * (s.pstar - pr) / pr)) ∧
       sp' ≤ vlNewP Vl Vr g2 pl pr ul ur s.pstar (cl * o.sqrt (1 + g1 * (s.pstar - pl) / pl))
          (cr * o.sqrt (1 + g1 * (s.pstar - pr) / pr))) ∧
      ((van_leer_loop_body o Vl Vr cl cr g1 g2 niter pl pr sp tol ul ur s).1 = false →
        vlFloorFree o Vl Vr cl cr g1 g2 niter pl pr sp sp' tol ul ur fuel
          (van_leer_loop_body o Vl Vr cl cr g1 g2 niter pl pr sp tol ul ur s).2)

theorem van_leer_loop_floor (o : Ops K) (Vl Vr cl cr g1 g2 : K) (niter : Int)
    (pl pr sp sp' tol ul ur : K) (fuel : Nat) (s : van_leer_loopSt K)
    (hf : vlFloorFree o Vl Vr cl cr g1 g2 niter pl pr sp sp' tol ul ur fuel s) :
    van_leer_loop o Vl Vr cl cr g1 g2 niter pl pr sp' tol ul ur fuel s
      = van_leer_loop o Vl Vr cl cr g1 g2 niter pl pr sp tol ul ur fuel s := by
  induction fuel generalizing s with
  | zero => rfl
  | succ n ih =>
    simp only [van_leer_loop]
    by_cases h : van_leer_loop_cond niter s
    · obtain ⟨⟨h1, h2⟩, h3⟩ := hf h
      have hb : van_leer_loop_body o Vl Vr cl cr g1 g2 niter pl pr sp' tol ul ur s
          = van_leer_loop_body o Vl Vr cl cr g1 g2 niter pl pr sp tol ul ur s := by
        simp only [van_leer_body_eq, vlNext, vlW, max_eq_right h1, max_eq_right h2]
      rw [if_pos h, if_pos h, hb]
      split
      · rfl
      · rename_i hb1; exact ih _ (h3 (Bool.not_eq_true _ ▸ hb1))
    · rw [if_neg h, if_neg h]

def vlFloorInactive (o : Ops K) (cl cr rhol rhor pl pr ul ur gamma : K) (niter : Int)
    (tol sp sp' : K) : Prop :=
  (sp ≤ pl + (pr - pl - cr * (ur - ul)) * cl / (cl + cr) ∧
   sp' ≤ pl + (pr - pl - cr * (ur - ul)) * cl / (cl + cr)) ∧
  vlFloorFree o (1 / rhol) (1 / rhor) cl cr (1 / 2 * (1 + gamma) / gamma) (1 + gamma) niter pl pr
    sp sp' tol ul ur niter.toNat ⟨false, 0, pl + (pr - pl - cr * (ur - ul)) * cl / (cl + cr), 0, 0⟩

theorem vlFrom_scale_floor (sqrt : K → K) (pow : K → K → K) {l : K} (hl : 0 < l)
    (cl cr rhol rhor pl pr ul ur gamma : K) (niter : Int) (tol sp : K) :
    Res.Rel (l * ·) id
      (vlFrom (fieldOps sqrt pow) (l * cl) (l * cr) (l * rhol) (l * rhor) (l * pl) (l * pr) ul ur gamma
        niter tol sp)
      (vlFrom (fieldOps sqrt pow) cl cr rhol rhor pl pr ul ur gamma niter tol (l⁻¹ * sp)) := by
  nth_rw 1 [← mul_inv_cancel_left₀ hl.ne' sp]
  unfold vlFrom
  have eP : l * pl + (l * pr - l * pl - l * cr * (ur - ul)) * (l * cl) / (l * cl + l * cr)
      = l * (pl + (pr - pl - cr * (ur - ul)) * cl / (cl + cr)) := by
    rw [show (l * pr - l * pl - l * cr * (ur - ul)) * (l * cl)
        = l * (l * ((pr - pl - cr * (ur - ul)) * cl)) by ring, ← mul_add,
      mul_div_mul_left _ _ hl.ne', mul_div_assoc, mul_add]
  have eV (x : K) : 1 / (l * x) = l⁻¹ * (1 / x) := by rw [one_div, one_div, mul_inv]
  rw [eP, ← mul_max_of_nonneg _ _ hl.le, eV, eV, van_leer_loop_eq, van_leer_loop_eq]
  refine .loop (vlScale l) (fun _ => Iff.rfl) (fun s => ?_) (fun S => ?_) _ ?_
  · -- one pass; the convergence test is a relative change: `|l q - l p| / (l q) = |q - p| / q`
    have hcv (q p : K) : |l * q - l * p| / (l * q) = |q - p| / q := by
      rw [← mul_sub, abs_mul, abs_of_pos hl, mul_div_mul_left _ _ hl.ne']
    simp only [van_leer_body_eq, vlScale, vlNext, vlW_scale _ hl, vlNewP_scale hl,
      ← mul_max_of_nonneg _ _ hl.le, fieldOps_abs, hcv]
    rfl
  · exact vlFinish_rel rfl rfl (by simp only [vlScale, ← mul_sub, mul_div_mul_left _ _ hl.ne']; rfl)
  · simp only [vlScale, mul_zero]

/-- used in `scaling_van_leer` with `sp' = l⁻¹ sp`, whose scaled run has floor `sp` again -/
theorem vlFrom_floor (o : Ops K) (cl cr rhol rhor pl pr ul ur gamma : K) (niter : Int) (tol sp sp' : K)
    (hf : vlFloorInactive o cl cr rhol rhor pl pr ul ur gamma niter tol sp sp') :
    vlFrom o cl cr rhol rhor pl pr ul ur gamma niter tol sp'
      = vlFrom o cl cr rhol rhor pl pr ul ur gamma niter tol sp := by
  unfold vlFrom
  rw [max_eq_left hf.1.1, max_eq_left hf.1.2, van_leer_loop_floor _ _ _ _ _ _ _ _ _ _ _ _ _ _ _ _ _ hf.2]

theorem vlFrom_equal (sqrt : K → K) (pow : K → K → K) (c rho p u gamma : K) (niter : Int)
    (tol sp : K) (hsp : sp ≤ p) (htol : 0 < tol) (hn : 1 ≤ niter) :
    vlFrom (fieldOps sqrt pow) c c rho rho p p u u gamma niter tol sp = ⟨0, p, u⟩ := by
  unfold vlFrom
  have e0 : p + (p - p - c * (u - u)) * c / (c + c) = p := by
    rw [show p - p - c * (u - u) = 0 by ring, zero_mul, zero_div, add_zero]
  have hk : 0 < niter.toNat := by omega
  have hc : van_leer_loop_cond niter (⟨false, 0, p, 0, 0⟩ : van_leer_loopSt K) :=
    show (0 : Int) < niter by omega
  rw [e0, max_eq_left hsp, van_leer_loop_eq, fuelLoop_break hk hc]
  all_goals simp only [van_leer_body_eq, vlNext, vlNewP_equal, max_eq_right hsp, sub_self, fieldOps_abs,
    abs_zero, zero_div, htol, decide_true]
  simp only [vlFinish, if_true]
  congr 1
  ring

/-- every pass leaves `p*` at or above the floor, and success needs at least one pass -/
theorem vlFrom_success_floor (o : Ops K) (cl cr rhol rhor pl pr ul ur gamma : K) (niter : Int)
    (tol sp : K) :
    (vlFrom o cl cr rhol rhor pl pr ul ur gamma niter tol sp).code = 0 →
      sp ≤ (vlFrom o cl cr rhol rhor pl pr ul ur gamma niter tol sp).r0 := by
  unfold vlFrom
  rw [van_leer_loop_eq]
  generalize hS : fuelLoop (van_leer_loop_cond niter) _ _ _ = S
  have h : S.converged = true → sp ≤ S.pstar := by
    rw [← hS]
    refine fuelLoop_induction (fun s : van_leer_loopSt K => s.converged = true → sp ≤ s.pstar)
      (fun s _ _ _ => ?_) _ _ (fun h => Bool.noConfusion h)
    rw [van_leer_body_eq]
    exact le_max_left _ _
  unfold vlFinish
  split
  · rename_i hS; exact fun _ => h hS
  · exact fun h1 => absurd h1 (show (1 : Int) ≠ 0 by decide)

end PysphVerif.Riemann
