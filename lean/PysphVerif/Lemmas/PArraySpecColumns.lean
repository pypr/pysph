import PysphVerif.Lemmas.PArrayAddProperty
import PysphVerif.Lemmas.PArrayView
/-!
Refinement of the operations that touch the schema or one whole column:
`remove_property`, `set_tag`, `set`.  Writing a column is setting a
field in every record: `PA.setCol` replaces or appends by name exactly as
`setKey` does (`map_setColL`), whence `InvP.setCol_abs`; its two uses on a coherent array are a
column rewritten whole (`setColData_abs`: `set_tag`, `set`) and a column that keeps its first `m`
rows (`setColTail_abs`: the new slots of `append_parray`).
-/
namespace PysphVerif.PArray

theorem eraseKey_map_props {β : Type} (P : List Col) (g : Col → β) (nm : String) :
    eraseKey (P.map (fun (c : Col) => (c.name, g c))) nm =
      (P.filter (fun (c : Col) => !(c.name == nm))).map (fun (c : Col) => (c.name, g c)) := by
  unfold eraseKey
  rw [List.filter_map]
  rfl

theorem removeProperty_refines {pa : PA} (h : Inv pa) (nm : String) (hn : nm ≠ "tag") :
    absPA (pa.removeProperty nm) = specRemoveProperty nm (absPA pa) := by
  have hnn := (inv_removeProperty h nm hn).2
  rw [removeProperty_eq h] at hnn ⊢
  -- off `nm` nothing is seen to change
  have hstr : ∀ x, x ≠ nm → lookupD (eraseKey pa.stride nm) x 1 = pa.strideOf x :=
    fun x hx => lookupD_eraseKey_ne _ _ _ _ hx
  have hdef : ∀ x, x ≠ nm → lookupD (eraseKey pa.defaults nm) x 0 = pa.defaultOf x :=
    fun x hx => lookupD_eraseKey_ne _ _ _ _ hx
  have hcn : ∀ c ∈ pa.props.filter (fun (c : Col) => !(c.name == nm)), c.name ≠ nm :=
    fun c hc => by simpa using (List.mem_filter.mp hc).2
  unfold absPA specRemoveProperty
  congr 1
  · unfold defaultParticle
    rw [eraseKey_map_props]
    refine List.map_congr_left (fun c hc => ?_)
    unfold defaultRow PA.strideOf PA.defaultOf
    rw [hstr _ (hcn c hc), hdef _ (hcn c hc)]; rfl
  · unfold particles
    rw [hnn, List.map_map]
    refine List.map_congr_left (fun k _ => ?_)
    simp only [Function.comp]
    unfold particleAt
    rw [eraseKey_map_props]
    refine List.map_congr_left (fun c hc => ?_)
    unfold PA.strideOf
    rw [hstr _ (hcn c hc)]; rfl

theorem foldl_set_getD (idx : List Nat) (t : Int) (d : List Int) (j : Nat) (hj : j < d.length) :
    (idx.foldl (fun d i => d.set i t) d).getD j 0 = if idx.contains j then t else d.getD j 0 := by
  induction idx generalizing d with
  | nil => simp
  | cons i idx ih =>
    rw [List.foldl_cons, ih (d.set i t) (by simpa using hj), List.contains_cons,
      List.getD_eq_getElem?_getD, List.getD_eq_getElem?_getD, List.getElem?_set]
    by_cases hij : i = j
    · subst hij; simp [hj]
    · simp [hij, Ne.symm hij]

theorem setKey_map_props {β : Type} (P : List Col) (g : Col → β) (nm : String) (v : β)
    (h : nm ∈ P.map Col.name) :
    setKey (P.map (fun (c : Col) => (c.name, g c))) nm v =
      P.map (fun (c : Col) => (c.name, if c.name == nm then v else g c)) := by
  rw [setKey_of_mem _ nm v (by rw [List.map_map]; exact h), List.map_map]
  apply List.map_congr_left
  intro c _
  simp only [Function.comp]
  by_cases hc : c.name = nm
  · simp [hc]
  · simp [hc]

theorem zipIdx_map_range {β γ : Type} (f : Nat → β) (n : Nat) (g : β × Nat → γ) :
    ((List.range n).map f).zipIdx.map g = (List.range n).map (fun k => g (f k, k)) := by
  apply List.ext_getElem
  · simp
  · intro i h1 h2
    simp

theorem zipWith_range_map {β γ δ : Type} (f : β → γ → δ) (g : Nat → β) (R : List γ) (d : γ)
    (n : Nat) (hR : R.length = n) :
    List.zipWith f ((List.range n).map g) R =
      (List.range n).map (fun k => f (g k) (R.getD k d)) := by
  subst hR
  apply List.ext_getElem
  · simp
  · intro i h1 h2
    have hi : i < R.length := by simpa using h2
    simp [List.getD_eq_getElem?_getD, List.getElem?_eq_getElem hi]

theorem map_setColL {β : Type} (P : List Col) (c : Col) (g : Col → β) :
    (setColL P c).map (fun (c' : Col) => (c'.name, g c')) =
      setKey (P.map (fun (c' : Col) => (c'.name, g c'))) c.name (g c) := by
  have hany : (P.map (fun (c' : Col) => (c'.name, g c'))).any (fun p => p.1 == c.name) =
      P.any (fun (c' : Col) => c'.name == c.name) := by rw [List.any_map]; rfl
  unfold setColL setKey
  rw [hany]
  split
  · rw [List.map_map, List.map_map]
    apply List.map_congr_left
    intro c' _
    by_cases e : c'.name = c.name <;> simp [e]
  · rw [List.map_append]; rfl

theorem setKey_setKey {β : Type} (l : List (String × β)) (k : String) (v w : β) :
    setKey (setKey l k v) k w = setKey l k w := by
  by_cases hm : k ∈ l.map Prod.fst
  · rw [setKey_of_mem _ k w (by rw [keys_setKey, if_pos hm]; exact hm), setKey_of_mem l k v hm,
      setKey_of_mem l k w hm, List.map_map]
    apply List.map_congr_left
    intro p _
    show (if (if p.1 == k then (k, v) else p).1 == k then (k, w) else _) = _
    by_cases e : (p.1 == k) = true
    · rw [if_pos e, if_pos e, if_pos (beq_self_eq_true k)]
    · rw [if_neg e, if_neg e]
  · rw [setKey_new l k v hm, setKey_new l k w hm,
      setKey_of_mem _ k w (by rw [List.map_append]; exact List.mem_append_right _ (List.mem_singleton.mpr rfl)),
      List.map_append]
    congr 1
    · rw [List.map_congr_left (g := id), List.map_id]
      intro p hp
      have : ¬ (p.1 == k) = true := fun e => hm ((beq_iff_eq.mp e : p.1 = k) ▸ List.mem_map_of_mem hp)
      exact if_neg this
    · exact congrArg (· :: []) (if_pos (beq_self_eq_true k))

theorem setKey_map_congr {β : Type} (P : List Col) (g g' : Col → β) (k : String) (v : β)
    (h : ∀ c ∈ P, c.name ≠ k → g c = g' c) :
    setKey (P.map (fun (c : Col) => (c.name, g c))) k v =
      setKey (P.map (fun (c : Col) => (c.name, g' c))) k v := by
  by_cases hm : k ∈ P.map Col.name
  · rw [setKey_map_props _ _ _ _ hm, setKey_map_props _ _ _ _ hm]
    apply List.map_congr_left
    intro c hc
    by_cases e : c.name = k
    · simp [e]
    · simp [e, h c hc e]
  · rw [List.map_congr_left (fun c hc => by rw [h c hc (fun e => hm (e ▸ List.mem_map_of_mem hc))])]

theorem setKey_own {β : Type} (P : List Col) (hnd : (P.map Col.name).Nodup) (g : Col → β) {c : Col}
    (hc : c ∈ P) :
    setKey (P.map (fun (c : Col) => (c.name, g c))) c.name (g c) =
      P.map (fun (c : Col) => (c.name, g c)) := by
  rw [setKey_map_props _ _ _ _ (List.mem_map_of_mem hc)]
  refine List.map_congr_left (fun c' hc' => ?_)
  split
  · rename_i e
    rw [List.inj_on_of_nodup_map hnd hc' hc (by simpa using e)]
  · rfl

theorem InvP.setCol_abs {q : PA} {pend : String} {m : Nat}
    (h : InvP q.props q.stride q.defaults pend m) (c : Col) (hc : c.name = pend)
    (hl : c.data.length = m * q.strideOf pend) :
    Inv (q.setCol c) ∧ (q.setCol c).n = m ∧
      absPA (q.setCol c) = ⟨setKey (defaultParticle q) pend (defaultRow q pend),
        List.zipWith (fun r row => setField r pend row) (particles q)
          (rowsOf (q.strideOf pend) c.data)⟩ := by
  have hF := h.inv_setCol c hc hl
  obtain ⟨hrl, _⟩ := rowsOf_uniform _ h.pendStride m c.data hl
  refine ⟨hF.toInv, hF.n_eq, ?_⟩
  unfold absPA
  congr 1
  · unfold defaultParticle defaultRow PA.strideOf PA.defaultOf
    rw [setCol_props, setCol_stride, setCol_defaults, ← hc]
    exact map_setColL q.props c _
  · unfold particles particleAt PA.strideOf
    rw [hF.n_eq, h.n_eq, setCol_props, setCol_stride, zipWith_range_map _ _ _ [] m hrl]
    apply List.map_congr_left
    intro k _
    rw [← hc]
    exact map_setColL q.props c (fun c' => (rowsOf (lookupD q.stride c'.name 1) c'.data).getD k [])

theorem setColData_abs {pa : PA} (h : Inv pa) (c : Col) (hc : c ∈ pa.props) (nd : List Int)
    (hl : nd.length = c.data.length) :
    absPA (pa.setCol { c with data := nd }) =
      ⟨(absPA pa).dflt, List.zipWith (fun r row => setField r c.name row) (absPA pa).recs
        (rowsOf (pa.strideOf c.name) nd)⟩ := by
  rw [((h.toF.toP c.name (List.mem_map_of_mem hc)).setCol_abs (q := pa) { c with data := nd } rfl
    (by show nd.length = _; rw [hl]; exact (h.len c hc).2)).2.2]
  exact congrArg (RA.mk · _) (setKey_own pa.props h.nodup _ hc)

theorem setField_snoc (r : Rec) (nm : String) (v w : List Int) (h : nm ∉ r.map Prod.fst) :
    setField (r ++ [(nm, v)]) nm w = setField r nm w := by
  unfold setField
  rw [← setKey_new r nm v h, setKey_setKey]

theorem flat_take (s m : Nat) (R : List (List Int)) (hR : ∀ r ∈ R, r.length = s) (hm : m ≤ R.length) :
    (flat R).take (m * s) = flat (R.take m) := by
  conv_lhs => rw [← List.take_append_drop m R, flat_append]
  exact List.take_left' (by
    rw [flat_length s _ (fun r hr => hR r (List.mem_of_mem_take hr)), List.length_take,
      Nat.min_eq_left hm])

theorem setField_particleAt_self {pa : PA} (h : Inv pa) (c : Col) (hc : c ∈ pa.props) (k : Nat) :
    setField (particleAt pa k) c.name ((rowsOf (pa.strideOf c.name) c.data).getD k []) =
      particleAt pa k :=
  setKey_own pa.props h.nodup (fun c => (rowsOf (pa.strideOf c.name) c.data).getD k []) hc

theorem setColTail_abs {pa : PA} (h : Inv pa) (c : Col) (hc : c ∈ pa.props) (m : Nat)
    (tail : List Int) (hm : m ≤ pa.n) (hl : tail.length = (pa.n - m) * pa.strideOf c.name) :
    Inv (pa.setCol { c with data := c.data.take (m * pa.strideOf c.name) ++ tail }) ∧
    (pa.setCol { c with data := c.data.take (m * pa.strideOf c.name) ++ tail }).n = pa.n ∧
    absPA (pa.setCol { c with data := c.data.take (m * pa.strideOf c.name) ++ tail }) =
      ⟨(absPA pa).dflt, (absPA pa).recs.take m ++
        List.zipWith (fun r row => setField r c.name row) ((absPA pa).recs.drop m)
          (rowsOf (pa.strideOf c.name) tail)⟩ := by
  have hs := (h.len c hc).1
  obtain ⟨hrl, hru⟩ := h.rows hc
  have htk : c.data.take (m * pa.strideOf c.name) =
      flat ((rowsOf (pa.strideOf c.name) c.data).take m) := by
    conv_lhs => rw [← flat_rowsOf _ hs c.data]
    exact flat_take _ m _ hru (by rw [hrl]; exact hm)
  have hR : ∀ r ∈ (rowsOf (pa.strideOf c.name) c.data).take m, r.length = pa.strideOf c.name :=
    fun r hr => hru r (List.mem_of_mem_take hr)
  have hfl : (flat ((rowsOf (pa.strideOf c.name) c.data).take m)).length =
      m * pa.strideOf c.name := by
    rw [flat_length _ _ hR, List.length_take, hrl, Nat.min_eq_left hm]
  have hlen : (c.data.take (m * pa.strideOf c.name) ++ tail).length = c.data.length := by
    rw [htk, List.length_append, hfl, hl, ← Nat.add_mul, Nat.add_sub_cancel' hm, (h.len c hc).2]
  obtain ⟨hi', hn'⟩ := inv_setCol_sameLen h c hc _ hlen
  refine ⟨hi', hn', ?_⟩
  rw [setColData_abs h c hc _ hlen, htk, rowsOf_append _ hs _ _ m (pa.n - m) hfl hl,
    rowsOf_flat _ hs _ hR]
  congr 1
  conv_lhs => rw [← List.take_append_drop m (absPA pa).recs]
  rw [List.zipWith_append (by
    show ((particles pa).take m).length = _
    rw [List.length_take, List.length_take, particles_length, hrl])]
  congr 1
  -- the first `m` records get their own values back
  rw [← List.take_zipWith]
  congr 1
  show List.zipWith _ (particles pa) _ = particles pa
  unfold particles
  rw [zipWith_range_map _ _ _ [] pa.n hrl]
  exact List.map_congr_left (fun k _ => setField_particleAt_self h c hc k)

/-- `set_tag(t, idx)`: the tag column is rewritten in place, so the listed
records get the field `tag = [t]` and the others their own tag back -/
theorem setTag_refines {pa : PA} (h : Inv pa) (t : Int) (idx : List Nat) :
    absPA (pa.setTag t idx) = specSetTag t idx (absPA pa) := by
  obtain ⟨tc, rest, hp, htn, hc, hn, htags⟩ := n_of_tagFirst pa h.tagFirst
  have htm : tc ∈ pa.props := by rw [hp]; simp
  have hlen := foldl_set_length idx t tc.data
  unfold PA.setTag specSetTag
  rw [hc]
  simp only []
  rw [setColData_abs h tc htm _ hlen, htn, h.tagStride, rowsOf_one]
  congr 1
  show List.zipWith _ (particles pa) _ = (particles pa).zipIdx.map _
  unfold particles
  rw [zipIdx_map_range, zipWith_range_map _ _ _ [] pa.n (by rw [List.length_map, hlen, hn])]
  apply List.map_congr_left
  intro k hk
  have hk : k < tc.data.length := by rw [← hn]; simpa using hk
  rw [map_getD_of_lt _ _ k 0 [] (by rw [hlen]; exact hk), foldl_set_getD idx t tc.data k hk]
  split
  · rfl
  · have := setField_particleAt_self h tc htm k
    rw [htn, h.tagStride, rowsOf_one, map_getD_of_lt _ _ k 0 [] hk] at this
    exact this

theorem column_of_particles {pa : PA} (h : Inv pa) (c : Col) (hc : c ∈ pa.props) :
    (particles pa).map (fun r => lookupD r c.name []) = rowsOf (pa.strideOf c.name) c.data := by
  have e := range_map_getD (rowsOf (pa.strideOf c.name) c.data) [] id
  rw [List.map_id, (h.rows hc).1] at e
  unfold particles
  rw [List.map_map, ← e]
  exact List.map_congr_left (fun k _ => field_particleAt pa k c.name c (col?_of_mem h c hc))

theorem specSetProp_not_prop (pa : PA) (nm : String) (d : List Int) (h : pa.hasProp nm = false) :
    specSetProp nm d (absPA pa) = absPA pa := by
  unfold specSetProp
  rw [hasProp_keys, h]
  rfl

theorem setProp_refines {pa : PA} (h : Inv pa) (nm : String) (d : List Int) :
    (∀ pa', pa.setProp nm d = some pa' → absPA pa' = specSetProp nm d (absPA pa)) ∧
    (pa.setProp nm d = none → specSetProp nm d (absPA pa) = absPA pa) := by
  cases hcol : pa.col? nm with
  | none =>
    rw [specSetProp_not_prop pa nm d ((hasProp_false_iff pa nm).mpr (col?_none pa nm hcol))]
    refine ⟨fun pa' hr => ?_, fun _ => rfl⟩
    rcases setProp_some hr with ⟨c, _, hc, _⟩ | ⟨_, cs, rfl⟩
    · rw [hcol] at hc; cases hc
    · exact absPA_congr_fields rfl rfl rfl
  | some c =>
    obtain ⟨hcm, hcn⟩ := col?_some pa nm c hcol
    have hmem : nm ∈ pa.props.map Col.name := hcn ▸ List.mem_map_of_mem hcm
    have hkeys : (recKeys (absPA pa).dflt).contains nm = true := by
      rw [hasProp_keys]; exact (hasProp_iff pa nm).mpr hmem
    have hcolumn : ((absPA pa).recs.map (fun r => lookupD r nm [])).flatten = c.data := by
      show ((particles pa).map _).flatten = _
      rw [← hcn, column_of_particles h c hcm]
      exact flat_rowsOf _ (h.len c hcm).1 _
    have hsl := length_lookupD_absPA_dflt nm hmem
    unfold specSetProp
    simp only [hkeys, if_true, hcolumn, hsl]
    unfold PA.setProp
    rw [hcol]
    simp only []
    unfold setData
    by_cases hle : d.length ≤ c.data.length
    · rw [if_pos hle, if_pos hle]
      refine ⟨fun pa' hr => ?_, fun hr => by simp at hr⟩
      simp only [Option.some.injEq] at hr
      subst hr
      rw [setColData_abs h c hcm _ (by simp; omega), hcn]
    · rw [if_neg hle, if_neg hle]
      exact ⟨fun pa' hr => by simp at hr, fun _ => rfl⟩

end PysphVerif.PArray
