import PysphVerif.Lemmas.ControllerRank
/-!
C18, repaired protocol: termination under strong fairness (`fair_terminates`).  The wait-loop
component of the rank is refined to one that no step of the SOLVER increases (`muWait2`: a waiter
whose request has been honoured counts 0), so that the pair (`muIface`, `muWait2`) never increases
and strictly decreases with every step of an interface thread.  Schedules are infinite,
`σ : Nat → Tid`; an entry naming a thread that is not enabled is a no-op.
-/
namespace PysphVerif.Controller

def wp2 (s : State) (u : Tid) : Nat := if mustWait s u = true then waitPos (s.th u).pc else 0

def muWait2 (n : Nat) (s : State) : Nat := sumTo (wp2 s) n

theorem wp2_le {s s' : State} {j : Tid}
    (h : mustWait s' j = true → mustWait s j = true ∧ (s'.th j).pc = (s.th j).pc) :
    wp2 s' j ≤ wp2 s j := by
  unfold wp2
  split
  · rw [if_pos (h ‹_›).1, (h ‹_›).2]; exact Nat.le_refl _
  · exact Nat.zero_le _

theorem solver_wp2 {s s' : State} (hw : W s) (hj : LiveJ s) (hs : SolverStep Cfg.fixed s s')
    (j : Tid) : wp2 s' j ≤ wp2 s j := by
  cases hs with
  | acqP =>
    -- `paused` only grows
    refine wp2_le fun hm => ⟨?_, rfl⟩
    rw [mustWait_iff] at hm ⊢
    exact ⟨hm.1, fun hp => hm.2 (mem_unionSet.mpr (Or.inl hp))⟩
  | ntaP hspc =>
    -- a waiter woken by `notify_all` has just been honoured
    refine wp2_le fun (hm : mustWait s j = true) => ⟨hm, ?_⟩
    have hnw : j ∉ s.pWait := fun hp =>
      (mustWait_iff.mp hm).2 (hj.np (Or.inl hspc) j (hw.kept j hp).1)
    simp [wakeAllP, hnw]
  | _ => exact Nat.le_refl _

def trace (ps : List (List Op)) (σ : Nat → Tid) : Nat → State
  | 0 => init (progsOf ps)
  | i + 1 =>
    match step Cfg.fixed (trace ps σ i) (σ i) with
    | some (s', _) => s'
    | none => trace ps σ i

/-- a thread (solver included) that is enabled at infinitely many positions of the run is scheduled
at infinitely many positions at which it is enabled -/
def StronglyFair (ps : List (List Op)) (σ : Nat → Tid) : Prop :=
  ∀ t, t ≤ ps.length →
    (∀ i, ∃ j, i ≤ j ∧ enabled Cfg.fixed (trace ps σ j) t = true) →
    ∀ i, ∃ j, i ≤ j ∧ σ j = t ∧ enabled Cfg.fixed (trace ps σ j) t = true

theorem trace_reachable (ps : List (List Op)) (σ : Nat → Tid) :
    ∀ i, Reachable Cfg.fixed (progsOf ps) (trace ps σ i)
  | 0 => Reachable.init
  | i + 1 => by
    have ih := trace_reachable ps σ i
    unfold trace
    split
    · rename_i s' evs h; exact Reachable.step ih h
    · exact ih

theorem trace_succ_some {ps : List (List Op)} {σ : Nat → Tid} {i : Nat} {s' : State}
    {evs : List Ev} (h : step Cfg.fixed (trace ps σ i) (σ i) = some (s', evs)) :
    trace ps σ (i + 1) = s' := by
  rw [trace, h]

theorem trace_succ_none {ps : List (List Op)} {σ : Nat → Tid} {i : Nat}
    (h : step Cfg.fixed (trace ps σ i) (σ i) = none) :
    trace ps σ (i + 1) = trace ps σ i := by
  rw [trace, h]

theorem eventually_const {α : Type} {r : α → α → Prop} (wf : WellFounded r) (x : Nat → α) :
    ∀ i0, (∀ i, i0 ≤ i → r (x (i + 1)) (x i) ∨ x (i + 1) = x i) →
      ∃ i1, i0 ≤ i1 ∧ ∀ i, i1 ≤ i → x i = x i1 := by
  intro i0
  generalize ha : x i0 = a
  induction a using wf.induction generalizing i0 with | _ a ih
  intro h
  -- the sequence stays at `a`, or its first step down starts from `a`
  have hfirst : ∀ i, i0 ≤ i → x i = a ∨ ∃ j, i0 ≤ j ∧ r (x (j + 1)) a := by
    intro i hi
    induction hi with
    | refl => exact Or.inl ha
    | @step k hk ihk =>
      rcases ihk with e | hj
      · exact (h k hk).elim (fun hr => Or.inr ⟨k, hk, e ▸ hr⟩) fun e' => Or.inl (e'.trans e)
      · exact Or.inr hj
  by_cases hall : ∀ i, i0 ≤ i → x i = a
  · exact ⟨i0, Nat.le_refl _, fun i hi => (hall i hi).trans ha.symm⟩
  · obtain ⟨i, hi⟩ := Classical.not_forall.mp hall
    obtain ⟨hi0, hne⟩ := Classical.not_imp.mp hi
    obtain ⟨j, hj, hr⟩ := (hfirst i hi0).resolve_left hne
    obtain ⟨i1, h1, h2⟩ := ih _ hr (j + 1) rfl fun i hi => h i (by omega)
    exact ⟨i1, by omega, h2⟩

theorem common_bound (P : Nat → Nat → Prop) : ∀ n,
    (∀ t, 1 ≤ t → t ≤ n → ∃ b, ∀ j, b ≤ j → P j t) →
    ∃ B, ∀ t, 1 ≤ t → t ≤ n → ∀ j, B ≤ j → P j t
  | 0, _ => ⟨0, fun t h1 h2 => by omega⟩
  | n + 1, h => by
    obtain ⟨B, hB⟩ := common_bound P n (fun t h1 h2 => h t h1 (by omega))
    obtain ⟨b, hb⟩ := h (n + 1) (by omega) (Nat.le_refl _)
    refine ⟨max B b, ?_⟩
    intro t h1 h2 j hj
    by_cases ht : t = n + 1
    · subst ht; exact hb j (by omega)
    · exact hB t h1 (by omega) j (by omega)

section
variable {ps : List (List Op)} (hwf : ∀ p ∈ ps, WF false p = true) (σ : Nat → Tid)
include hwf

theorem trace_iface_step {i : Nat} {s' : State} {evs : List Ev} (ht0 : σ i ≠ 0)
    (h : step Cfg.fixed (trace ps σ i) (σ i) = some (s', evs)) :
    muIface ps.length (trace ps σ (i + 1)) < muIface ps.length (trace ps σ i) ∨
    (muIface ps.length (trace ps σ (i + 1)) = muIface ps.length (trace ps σ i) ∧
      muWait2 ps.length (trace ps σ (i + 1)) < muWait2 ps.length (trace ps σ i)) := by
  have hg := reachable_good hwf (trace_reachable ps σ i)
  rw [trace_succ_some h]
  have hst : stepIface Cfg.fixed (trace ps σ i) (σ i) = some (s', evs) := by
    simpa [step, ht0] using h
  have htn : σ i ≤ ps.length := Nat.le_of_not_lt fun hc => by
    rw [hg.live.c.inert_none hc] at hst; cases hst
  have ht1 : 1 ≤ σ i := Nat.pos_of_ne_zero ht0
  obtain ⟨hoth, hcase⟩ := iface_rank hg.w (stepIface_cases hst)
  rcases hcase with hlt | ⟨heq, hwlt, hsame, -, e1, e2, hm⟩
  · exact Or.inl (sumTo_lt_of_drop ht1 htn hlt hoth)
  · -- once round the loop of `wait()`: `pause` and `paused` stay, so the predicate holds as before
    have hmw : ∀ j, mustWait s' j = mustWait (trace ps σ i) j := fun j => by
      simp only [mustWait, e1, e2]
    refine Or.inr ⟨sumTo_eq_of_eq heq hoth, sumTo_lt_of_drop ht1 htn ?_ fun j hj => ?_⟩
    · simp only [wp2, hmw, hm, if_true]; exact hwlt
    · simp only [wp2, hmw, hsame j hj]

theorem trace_pair (i : Nat) :
    muIface ps.length (trace ps σ (i + 1)) < muIface ps.length (trace ps σ i) ∨
    (muIface ps.length (trace ps σ (i + 1)) = muIface ps.length (trace ps σ i) ∧
      muWait2 ps.length (trace ps σ (i + 1)) ≤ muWait2 ps.length (trace ps σ i)) := by
  cases h : step Cfg.fixed (trace ps σ i) (σ i) with
  | none => right; rw [trace_succ_none h]; exact ⟨rfl, Nat.le_refl _⟩
  | some x =>
    obtain ⟨s', evs⟩ := x
    by_cases ht0 : σ i = 0
    · have hg := reachable_good hwf (trace_reachable ps σ i)
      rw [trace_succ_some h]
      have hs := stepSolver_cases (show stepSolver Cfg.fixed (trace ps σ i) = some (s', evs) by
        simpa [step, ht0] using h)
      exact Or.inr ⟨solver_muIface hg.w.waiting hs _,
        sumTo_le _ fun j _ _ => solver_wp2 hg.w hg.live.j hs j⟩
    · exact (trace_iface_step hwf σ ht0 h).imp_right fun h => ⟨h.1, Nat.le_of_lt h.2⟩

theorem fair_terminates (hfair : StronglyFair ps σ) :
    ∃ i, Final ps.length (trace ps σ i) := by
  apply Classical.byContradiction
  intro hnf
  have hnf : ∀ i, ¬ Final ps.length (trace ps σ i) := fun i hf => hnf ⟨i, hf⟩
  -- (1) interface threads take only finitely many steps
  obtain ⟨i0, -, hconst⟩ := eventually_const (Prod.lex Nat.lt_wfRel Nat.lt_wfRel).wf
    (fun i => (muIface ps.length (trace ps σ i), muWait2 ps.length (trace ps σ i))) 0 fun i _ => by
      rcases trace_pair hwf σ i with h | ⟨e, h⟩
      · exact Or.inl (Prod.lex_def.mpr (Or.inl h))
      · exact (Nat.lt_or_eq_of_le h).imp (fun h => Prod.lex_def.mpr (Or.inr ⟨e, h⟩)) (Prod.ext e)
  have hquiet : ∀ i, i0 ≤ i → σ i ≠ 0 → step Cfg.fixed (trace ps σ i) (σ i) = none := by
    intro i hi ht0
    cases h : step Cfg.fixed (trace ps σ i) (σ i) with
    | none => rfl
    | some x =>
      have h1 := hconst i hi
      have h2 := hconst (i + 1) (by omega)
      simp only [Prod.mk.injEq] at h1 h2
      rcases trace_iface_step hwf σ ht0 h with hlt | ⟨_, hlt⟩ <;> omega
  -- (2) infinitely often some interface thread is enabled
  have hinf : ∃ t, 1 ≤ t ∧ t ≤ ps.length ∧
      ∀ i, ∃ j, i ≤ j ∧ enabled Cfg.fixed (trace ps σ j) t = true := by
    apply Classical.byContradiction
    intro hc
    obtain ⟨B, hB⟩ := common_bound (fun j t => ¬ enabled Cfg.fixed (trace ps σ j) t = true) ps.length
      fun t h1 h2 =>
        let ⟨i, hi⟩ := Classical.not_forall.mp fun hio => hc ⟨t, h1, h2, hio⟩
        ⟨i, fun j hj hen => hi ⟨j, hj, hen⟩⟩
    -- from `B` on no interface thread is ever enabled, so the solver is, and its step decreases
    -- `muSolver`; every other entry of the schedule is a no-op
    have hnone : ∀ j, B ≤ j → ∀ v, v ≠ 0 → step Cfg.fixed (trace ps σ j) v = none := by
      intro j hj v hv
      by_cases hvn : v ≤ ps.length
      · exact Option.not_isSome_iff_eq_none.mp (hB v (Nat.pos_of_ne_zero hv) hvn j hj)
      · simp [step, hv, (reachable_good hwf (trace_reachable ps σ j)).live.c.inert_none
          (Nat.lt_of_not_le hvn)]
    have hsol : ∀ j, B ≤ j → ∃ s' evs, step Cfg.fixed (trace ps σ j) 0 = some (s', evs) ∧
        muSolver s' < muSolver (trace ps σ j) := by
      intro j hj
      obtain ⟨s', evs, h1, h2⟩ := stuck_solver_step (reachable_good hwf (trace_reachable ps σ j))
        (fun v hv _ => by simpa [step, Nat.ne_of_gt hv] using hnone j hj v (Nat.ne_of_gt hv)) (hnf j)
      exact ⟨s', evs, by simp [step, h1], h2⟩
    have hdec : ∀ j, B ≤ j →
        (σ j = 0 → muSolver (trace ps σ (j + 1)) < muSolver (trace ps σ j)) ∧
        muSolver (trace ps σ (j + 1)) ≤ muSolver (trace ps σ j) := by
      intro j hj
      by_cases ht0 : σ j = 0
      · obtain ⟨s', evs, hs0, hlt⟩ := hsol j hj
        rw [trace_succ_some (ht0 ▸ hs0)]
        exact ⟨fun _ => hlt, Nat.le_of_lt hlt⟩
      · rw [trace_succ_none (hnone j hj _ ht0)]
        exact ⟨fun h => absurd h ht0, Nat.le_refl _⟩
    obtain ⟨i1, hB1, hm⟩ := eventually_const Nat.lt_wfRel.wf (fun j => muSolver (trace ps σ j)) B
      fun j hj => Nat.lt_or_eq_of_le (hdec j hj).2
    obtain ⟨j, hj, hσ, -⟩ := hfair 0 (Nat.zero_le _)
      (fun i => ⟨max i B, by omega, by
        obtain ⟨s', evs, hs0, -⟩ := hsol (max i B) (by omega)
        simp [enabled, hs0]⟩) i1
    have h1 := (hdec j (by omega)).1 hσ
    have h2 := hm j hj
    have h3 := hm (j + 1) (by omega)
    omega
  -- (3) strong fairness gives that thread a step, which (1) excludes
  obtain ⟨t, ht1, htn, hio⟩ := hinf
  obtain ⟨j, hj, hσ, hen⟩ := hfair t htn hio i0
  have ht0 : σ j ≠ 0 := by rw [hσ]; exact Nat.ne_of_gt ht1
  have := hquiet j hj ht0
  rw [hσ] at this
  simp [enabled, this] at hen

end

theorem trace_run (ps : List (List Op)) (σ : Nat → Tid) : ∀ (sched : List Tid) (k : Nat),
    (∀ i, (h : i < sched.length) → σ (k + i) = sched[i]) →
    runs Cfg.fixed (trace ps σ k) sched = true →
    trace ps σ (k + sched.length) = run Cfg.fixed (trace ps σ k) sched
  | [], k, _, _ => rfl
  | t :: ts, k, hσ, hruns => by
    unfold runs at hruns
    unfold run
    cases hstep : step Cfg.fixed (trace ps σ k) t with
    | none => rw [hstep] at hruns; cases hruns
    | some x =>
      obtain ⟨s', evs⟩ := x
      simp only [hstep] at hruns ⊢
      have hk1 : trace ps σ (k + 1) = s' :=
        trace_succ_some (by rw [show σ k = t from hσ 0 (Nat.succ_pos _)]; exact hstep)
      rw [← hk1] at hruns ⊢
      have := trace_run ps σ ts (k + 1)
        (fun i h => by rw [Nat.add_right_comm]; exact hσ (i + 1) (Nat.succ_lt_succ h)) hruns
      rwa [Nat.add_right_comm] at this

theorem strongly_fair_exists {ps : List (List Op)} (hwf : ∀ p ∈ ps, WF false p = true) :
    ∃ σ, StronglyFair ps σ := by
  obtain ⟨sched, -, hruns, hfin⟩ := can_finish hwf (init (progsOf ps)) Reachable.init
  -- the finishing schedule, then the solver for ever
  obtain ⟨σ, hσ1, hσ2⟩ : ∃ σ : Nat → Tid,
      (∀ i, (h : i < sched.length) → σ (0 + i) = sched[i]) ∧ ∀ i, sched.length ≤ i → σ i = 0 :=
    ⟨fun i => sched.getD i 0,
      fun i h => by simp [List.getD_eq_getElem?_getD, List.getElem?_eq_getElem h],
      fun i h => by simp [List.getD_eq_getElem?_getD, List.getElem?_eq_none h]⟩
  refine ⟨σ, ?_⟩
  have hL : trace ps σ (0 + sched.length) = run Cfg.fixed (init (progsOf ps)) sched :=
    trace_run ps σ sched 0 hσ1 hruns
  rw [Nat.zero_add] at hL
  have hdone : ∀ j, sched.length ≤ j → ∀ t, 1 ≤ t → t ≤ ps.length →
      ((trace ps σ j).th t).pc = IPc.idle ∧ ((trace ps σ j).th t).prog = [] := by
    intro j hj
    induction hj with
    | refl => rw [hL]; exact hfin.1
    | @step m hm ih =>
      intro t h1 h2
      have hprev := ih t h1 h2
      cases hstep : step Cfg.fixed (trace ps σ m) (σ m) with
      | none => rw [trace_succ_none hstep]; exact hprev
      | some x =>
        obtain ⟨s', evs⟩ := x
        rw [trace_succ_some hstep]
        rw [hσ2 m hm] at hstep
        have hs : stepSolver Cfg.fixed (trace ps σ m) = some (s', evs) := by
          simpa [step] using hstep
        have hW := reachable_w (cfg := Cfg.fixed) rfl rfl (trace_reachable ps σ m)
        -- the solver wakes only threads blocked in `plock.wait()`
        rw [((stepSolver_cases hs).th t).resolve_right fun hm => by
          have := hW.waiting t hm.1; rw [hprev.1] at this; cases this]
        exact hprev
  intro t htn hio i
  by_cases ht0 : t = 0
  · subst ht0
    obtain ⟨j, hj, hen⟩ := hio (max i sched.length)
    exact ⟨j, by omega, hσ2 j (by omega), hen⟩
  · exfalso
    obtain ⟨j, hj, hen⟩ := hio sched.length
    have := hdone j hj t (Nat.pos_of_ne_zero ht0) htn
    rw [enabled, step, if_neg ht0, stepIface_done this.1 this.2] at hen
    cases hen

end PysphVerif.Controller
