import PysphVerif.Lemmas.PArrayParticles
import PysphVerif.Lemmas.PArrayView
/-!
`extract_particles` into an existing array at the record level; `copyFields`, the record it
writes into a new slot, read back field by field and grown by one copied name (the latter for
`append_parray`, which copies the source records the same way).  `remove_particles` on records as
a permutation statement; with `project_copyFields` it is one of the two halves that
`extract_then_remove_conserves` puts together.
-/
namespace PysphVerif.PArray

/-- the rows `extract_particles` puts into the new slots of property `c` of the destination -/
def extractRows (pa dest : PA) (names : List String) (idx : List Nat) (c : Col) :
    List (List Int) :=
  idx.map (fun i => if names.contains c.name then lookupD ((particles pa).getD i []) c.name []
    else defaultRow dest c.name)

theorem extractCol_data {pa dest : PA} (h : Inv pa) (hd : Inv dest) (names : List String)
    (idx : List Nat) (hss : ∀ nm ∈ names, pa.strideOf nm = dest.strideOf nm)
    (hin : ∀ i ∈ idx, i < pa.n) (hpa : ∀ nm ∈ names, nm ∈ pa.props.map Col.name)
    (c : Col) (hc : c ∈ dest.props) :
    (extractCol pa names idx dest.n (extendCol dest idx.length c)).data =
      flat (rowsOf (dest.strideOf c.name) c.data ++ extractRows pa dest names idx c) ∧
    (extractRows pa dest names idx c).length = idx.length ∧
    ∀ r ∈ extractRows pa dest names idx c, r.length = dest.strideOf c.name := by
  have hs := (hd.len c hc).1
  have hdef : ∀ r ∈ List.replicate idx.length (defaultRow dest c.name),
      r.length = dest.strideOf c.name :=
    fun r hr => by rw [(List.mem_replicate.mp hr).2]; exact defaultRow_length dest c.name
  have hplain := extendCol_data hd idx.length c hc
  unfold extractCol extractRows
  rw [show (extendCol dest idx.length c).name = c.name from rfl]
  by_cases hcont : names.contains c.name = true
  · have hnm : c.name ∈ names := by simpa using hcont
    obtain ⟨sc, hsc⟩ := col?_isSome_of_mem pa c.name (hpa _ hnm)
    obtain ⟨hscm, hscn⟩ := col?_some pa _ sc hsc
    have hus := h.rows hscm
    rw [hscn] at hus
    -- the gathered rows of the source column are the fields of the source records
    have hg : gather idx (rowsOf (pa.strideOf c.name) sc.data) =
        idx.map (fun i => lookupD ((particles pa).getD i []) c.name []) := by
      rw [gather_eq_map idx _ [] (by rw [hus.1]; exact hin)]
      exact List.map_congr_left (fun i hi => by
        rw [particles_getD pa i (hin i hi), field_particleAt pa i c.name sc hsc])
    simp only [if_pos hcont, hsc]
    rw [← hg]
    rw [hss _ hnm] at hus ⊢
    have hgl : (gather idx (rowsOf (dest.strideOf c.name) sc.data)).length = idx.length :=
      gather_length idx _ (by rw [hus.1]; exact hin)
    have hgu : ∀ r ∈ gather idx (rowsOf (dest.strideOf c.name) sc.data),
        r.length = dest.strideOf c.name := fun r hr => hus.2 r (mem_gather idx _ r hr)
    refine ⟨?_, hgl, hgu⟩
    -- the copied block replaces exactly the `idx.length` default rows of the extension
    have hcl : c.data.length = dest.strideOf c.name * dest.n := by
      rw [(hd.len c hc).2, Nat.mul_comm]
    rw [hplain, flat_append, flat_rowsOf _ hs, flat_append, flat_rowsOf _ hs,
      List.take_left' hcl, List.drop_of_length_le (by
        rw [List.length_append, flat_length _ _ hgu, flat_length _ _ hdef, hgl,
          List.length_replicate, hcl]),
      List.append_nil]
  · simp only [if_neg hcont, List.map_const']
    exact ⟨hplain, List.length_replicate, hdef⟩

theorem extractedPA_holds {pa dest : PA} (h : Inv pa) (hd : Inv dest) (names : List String)
    (idx : List Nat) (hss : ∀ nm ∈ names, pa.strideOf nm = dest.strideOf nm)
    (hin : ∀ i ∈ idx, i < pa.n)
    (hall : names.all (fun nm => pa.hasProp nm && dest.hasProp nm) = true) (hne : idx ≠ []) :
    Holds dest (extractedPA pa dest names idx) (dest.n + idx.length) (particles dest ++
      idx.map (fun i => copyFields names ((particles pa).getD i []) (defaultParticle dest))) := by
  have hk : idx.length ≠ 0 := fun e => hne (List.length_eq_zero_iff.mp e)
  have hpa : ∀ nm ∈ names, nm ∈ pa.props.map Col.name := by
    intro nm hnm
    have h2 : pa.hasProp nm = true ∧ dest.hasProp nm = true := by
      simpa using List.all_eq_true.mp hall nm hnm
    exact (hasProp_iff pa nm).mp h2.1
  have hq : (extractedPA pa dest names idx).props = dest.props.map
      (fun c => extractCol pa names idx dest.n (extendCol dest idx.length c)) := by
    show (dest.extend idx.length).props.map _ = _
    rw [extend_props dest _ hk, List.map_map]; rfl
  obtain ⟨hi, hn, hp, hdp⟩ := colwise (q := extractedPA pa dest names idx) hd _
    (fun c => rowsOf (dest.strideOf c.name) c.data ++ extractRows pa dest names idx c)
    (dest.n + idx.length) hq
    (extend_stride dest _) (extend_defaults dest _) (fun c _ => extractCol_name ..)
    (fun c hc => by
      obtain ⟨hdat, hl, hu⟩ := extractCol_data h hd names idx hss hin hpa c hc
      exact ⟨hdat, by rw [List.length_append, (hd.rows hc).1, hl],
        fun r hr => (List.mem_append.mp hr).elim ((hd.rows hc).2 r) (hu r)⟩)
  refine ⟨hi, hn, ?_, hdp⟩
  rw [hp, transposeCols_append dest.props Col.name _ _ _ dest.n idx.length rfl
    (fun c hc => (hd.rows hc).1), ← particles_eq_transpose]
  congr 1
  unfold extractRows
  rw [transposeCols_of_map]
  apply List.map_congr_left
  intro i _
  unfold copyFields defaultParticle
  rw [List.map_map]
  apply List.map_congr_left
  intro c _
  simp only [Function.comp]
  split <;> rfl

theorem extractInto_particles {pa dest dest' : PA} (h : Inv pa) (hd : Inv dest) (idx : List Nat)
    (props : Option (List String))
    (hss : ∀ nm ∈ cloneNames pa props, pa.strideOf nm = dest.strideOf nm)
    (hin : ∀ i ∈ idx, i < pa.n)
    (hr : pa.extractInto idx dest false props = some dest') :
    dest'.n = dest.n + idx.length ∧
    particles dest' = particles dest ++
      idx.map (fun i => copyFields (cloneNames pa props) ((particles pa).getD i [])
        (defaultParticle dest)) ∧
    defaultParticle dest' = defaultParticle dest := by
  rcases extractInto_some hr with ⟨rfl, rfl⟩ | ⟨hall, hne, rfl⟩
  · simp
  · obtain ⟨_, hn, hp, hdp⟩ := extractedPA_holds h hd _ idx hss hin hall hne
    exact ⟨hn, hp, hdp⟩

theorem lookupD_copyFields (names : List String) (src dflt : Rec) (nm : String)
    (h1 : nm ∈ names) (h2 : nm ∈ dflt.map Prod.fst) :
    lookupD (copyFields names src dflt) nm [] = lookupD src nm [] := by
  unfold copyFields
  induction dflt with
  | nil => simp at h2
  | cons f dflt ih =>
    rw [List.map_cons, lookupD_cons]
    by_cases hf : f.1 = nm
    · have hc : names.contains f.1 = true := by rw [hf]; simpa using h1
      rw [if_pos hc]
      simp only [hf, if_true]
    · have h2' : nm ∈ dflt.map Prod.fst := by
        rw [List.map_cons, List.mem_cons] at h2
        exact h2.resolve_left (fun e => hf e.symm)
      have : (if names.contains f.1 = true then (f.1, lookupD src f.1 []) else f).1 = f.1 := by
        split <;> rfl
      rw [this, if_neg hf]
      exact ih h2'

theorem project_copyFields (names : List String) (src dflt : Rec)
    (h : ∀ nm ∈ names, nm ∈ dflt.map Prod.fst) :
    project names (copyFields names src dflt) = project names src := by
  unfold project
  apply List.map_congr_left
  intro nm hnm
  rw [lookupD_copyFields names src dflt nm hnm (h nm hnm)]

theorem copyFields_keys (K : List String) (r D : Rec) :
    (copyFields K r D).map Prod.fst = D.map Prod.fst := by
  unfold copyFields
  rw [List.map_map]
  exact List.map_congr_left (fun g _ => by simp only [Function.comp]; split <;> rfl)

theorem setField_copyFields (K : List String) (r D : Rec) (nm : String)
    (h : nm ∈ D.map Prod.fst) :
    setField (copyFields K r D) nm (lookupD r nm []) = copyFields (K ++ [nm]) r D := by
  unfold setField
  rw [setKey_of_mem _ _ _ (by rw [copyFields_keys]; exact h)]
  unfold copyFields
  rw [List.map_map]
  apply List.map_congr_left
  intro g _
  have hk : (if K.contains g.1 = true then (g.1, lookupD r g.1 []) else g).1 = g.1 := by
    split <;> rfl
  simp only [Function.comp, hk]
  rw [List.contains_append]
  by_cases e : g.1 = nm
  · simp [e]
  · simp [e]

theorem copyFields_snoc_of_not_mem (K : List String) (r D : Rec) (nm : String)
    (h : nm ∉ D.map Prod.fst) : copyFields (K ++ [nm]) r D = copyFields K r D := by
  unfold copyFields
  apply List.map_congr_left
  intro g hg
  have e : g.1 ≠ nm := fun e => h (e ▸ List.mem_map_of_mem hg)
  rw [List.contains_append]
  simp [e]

/-- `remove(numpy.sort(indices))` -/
theorem removeRows_sortNat_perm {β : Type} (idx : List Nat) (l : List β) (hnd : idx.Nodup)
    (hin : ∀ i ∈ idx, i < l.length) :
    (removeRows (sortNat idx) l ++ gather (sortNat idx) l).Perm l :=
  removeRows_perm _ _ (sortNat_strict idx hnd) (fun i hi => hin i ((sortNat_perm idx).subset hi))

theorem removeParticles_perm_sorted {pa pa' : PA} (h : Inv pa) (idx : List Nat) (hnd : idx.Nodup)
    (hin : ∀ i ∈ idx, i < pa.n) (hr : pa.removeParticles idx false = some pa') :
    (particles pa' ++ gather (sortNat idx) (particles pa)).Perm (particles pa) := by
  rw [removeParticles_noalign pa idx pa' hr, mapRows_removeRows_particles h (sortNat idx)]
  exact removeRows_sortNat_perm idx _ hnd (by rw [particles_length]; exact hin)

theorem removeParticles_perm {pa pa' : PA} (h : Inv pa) (idx : List Nat) (hnd : idx.Nodup)
    (hin : ∀ i ∈ idx, i < pa.n) (hr : pa.removeParticles idx false = some pa') :
    (particles pa' ++ idx.map (particleAt pa)).Perm (particles pa) := by
  have hrm := removeParticles_perm_sorted h idx hnd hin hr
  rw [gather_particles pa _ (fun i hi => hin i ((sortNat_perm idx).subset hi))] at hrm
  exact (List.Perm.append_left _ ((sortNat_perm idx).map _).symm).trans hrm

theorem zip_range_eq {β : Type} (l : List β) (d : β) :
    List.zip (List.range l.length) l = (List.range l.length).map (fun i => (i, l.getD i d)) := by
  apply List.ext_getElem
  · simp
  · intro i h1 h2
    have hi : i < l.length := by simpa using h2
    simp [List.getD_eq_getElem?_getD, List.getElem?_eq_getElem hi]

theorem removeTagged_eq (pa : PA) (t : Int) (al : Bool) :
    pa.removeTagged t al = pa.removeParticles
      ((List.range pa.tags.length).filter (fun i => pa.tags.getD i 0 == t)) al := by
  unfold PA.removeTagged
  rw [zip_range_eq pa.tags 0, List.filterMap_map, ← List.filterMap_eq_filter]
  rfl

theorem tag_field {pa : PA} (h : Inv pa) (i : Nat) (hi : i < pa.n) :
    lookupD (particleAt pa i) "tag" [] = [pa.tags.getD i 0] := by
  obtain ⟨t, rest, hp, ht, hc, hn, htags⟩ := n_of_tagFirst pa h.tagFirst
  rw [field_particleAt pa i "tag" t hc, h.tagStride, rowsOf_one, htags,
    map_getD_of_lt t.data (fun x => [x]) i 0 [] (by rw [← hn]; exact hi)]

/-- The slots removed are those of the records that carry the tag (`hrem`), so both sides
complete the same list (`removeParticles_perm`).  `C06.removeTagged_particles` is this statement;
`removeTagged_refines` uses it for both values of `align`. -/
theorem removeTagged_particles' {pa pa' : PA} (h : Inv pa) (t : Int)
    (hr : pa.removeTagged t false = some pa') :
    (particles pa').Perm ((particles pa).filter (fun r => !(lookupD r "tag" [] == [t]))) := by
  rw [removeTagged_eq, h.tags_length] at hr
  generalize hidx : (List.range pa.n).filter (fun i => pa.tags.getD i 0 == t) = idx at hr
  have hsub : idx.Sublist (List.range pa.n) := by rw [← hidx]; exact List.filter_sublist
  have hnd : idx.Nodup := hsub.nodup List.nodup_range
  have hin : ∀ i ∈ idx, i < pa.n := fun i hi => List.mem_range.mp (hsub.subset hi)
  have hrem : idx.map (particleAt pa) =
      (particles pa).filter (fun r => lookupD r "tag" [] == [t]) := by
    unfold particles
    rw [List.filter_map, ← hidx]
    congr 1
    apply List.filter_congr
    intro i hi
    have hi : i < pa.n := List.mem_range.mp hi
    simp only [Function.comp]
    rw [tag_field h i hi]
    simp
  have hsplit : ((particles pa).filter (fun r => !(lookupD r "tag" [] == [t])) ++
      idx.map (particleAt pa)).Perm (particles pa) := by
    rw [hrem]
    exact List.perm_append_comm.trans (List.filter_append_perm _ _)
  exact (List.perm_append_right_iff _).mp
    ((removeParticles_perm h idx hnd hin hr).trans hsplit.symm)

end PysphVerif.PArray
