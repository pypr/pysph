import PysphVerif.Lemmas.PArrayColwise
/-!
The record-list view of an array (`absPA`: default record + list of records), of a pool
(`absState`, `poolEquiv`), and the record-list functions `specOp` in Props/C06.lean is made of.
Definitions and what the view says of names, default rows and fields; no operation is looked at here.
-/
namespace PysphVerif.PArray

theorem setKey_of_mem {β : Type} (l : List (String × β)) (k : String) (v : β)
    (h : k ∈ l.map Prod.fst) : setKey l k v = l.map (fun p => if p.1 == k then (k, v) else p) :=
  AssocList.set_of_mem l k v h

theorem Inv.stride_pos {pa : PA} (h : Inv pa) {nm : String} (hm : nm ∈ pa.props.map Col.name) :
    0 < pa.strideOf nm := by
  obtain ⟨c, hc, rfl⟩ := List.mem_map.mp hm
  exact (h.len c hc).1

theorem lookupD_map_col {β : Type} {pa : PA} {nm : String} {sc : Col} (h : pa.col? nm = some sc)
    (g : Col → β) (d : β) :
    lookupD (pa.props.map (fun (c : Col) => (c.name, g c))) nm d = g sc := by
  unfold PA.col? at h
  unfold lookupD
  simp only [List.find?_map, Function.comp_def, h, Option.map_some]

theorem field_particleAt (pa : PA) (i : Nat) (nm : String) (sc : Col) (h : pa.col? nm = some sc) :
    lookupD (particleAt pa i) nm [] = (rowsOf (pa.strideOf nm) sc.data).getD i [] := by
  unfold particleAt
  rw [lookupD_map_col h, (col?_some pa nm sc h).2]

/-- the record `extract_particles` writes into a new slot of the destination -/
def copyFields (names : List String) (src dflt : Rec) : Rec :=
  dflt.map (fun f => if names.contains f.1 then (f.1, lookupD src f.1 []) else f)

def project (names : List String) (r : Rec) : Rec :=
  names.map (fun nm => (nm, lookupD r nm []))

theorem defaultParticle_keys (pa : PA) : (defaultParticle pa).map Prod.fst = pa.props.map Col.name := by
  unfold defaultParticle
  rw [List.map_map]; rfl

/-- the record-list view of one array: its default record (property name ↦
default row, in property order) and its records -/
structure RA where
  dflt : Rec
  recs : List Rec
  deriving Repr, DecidableEq

def absPA (pa : PA) : RA := ⟨defaultParticle pa, particles pa⟩

def RA.equiv (a b : RA) : Prop := a.dflt = b.dflt ∧ a.recs.Perm b.recs

theorem RA.equiv_refl (a : RA) : a.equiv a := ⟨rfl, List.Perm.refl _⟩

theorem RA.equiv_of_eq {a b : RA} (h : a = b) : a.equiv b := h ▸ RA.equiv_refl a

theorem RA.equiv_symm {a b : RA} (h : a.equiv b) : b.equiv a := ⟨h.1.symm, h.2.symm⟩

theorem RA.equiv_trans {a b c : RA} (h1 : a.equiv b) (h2 : b.equiv c) : a.equiv c :=
  ⟨h1.1.trans h2.1, h1.2.trans h2.2⟩

/-- stated for variables: with a compound array in place of `p` the two components are slow to
recognise in `RA.equiv` -/
theorem absPA_equiv_of {p q : PA} (hd : defaultParticle p = defaultParticle q)
    (hp : (particles p).Perm (particles q)) : (absPA p).equiv (absPA q) := ⟨hd, hp⟩

theorem Holds.abs {pa q : PA} {m : Nat} {recs : List Rec} (H : Holds pa q m recs) :
    absPA q = ⟨(absPA pa).dflt, recs⟩ := by
  unfold absPA; rw [H.particles, H.dflt]

theorem absPA_congr {pa pa' : PA} (hp : pa'.props = pa.props)
    (hs : ∀ nm, pa'.strideOf nm = pa.strideOf nm) (hd : ∀ nm, pa'.defaultOf nm = pa.defaultOf nm) :
    absPA pa' = absPA pa := by
  have hn : pa'.n = pa.n := by
    unfold PA.n PA.col?
    simp only [hp, hs]
  unfold absPA defaultParticle particles particleAt defaultRow
  simp only [hp, hs, hd, hn]

theorem absPA_congr_fields {pa pa' : PA} (hp : pa'.props = pa.props) (hs : pa'.stride = pa.stride)
    (hd : pa'.defaults = pa.defaults) : absPA pa' = absPA pa :=
  absPA_congr hp (fun nm => by unfold PA.strideOf; rw [hs]) (fun nm => by unfold PA.defaultOf; rw [hd])

def recIsLocal (r : Rec) : Bool := lookupD r "tag" [] == [localTag]

def specAlign (a : RA) : RA :=
  { a with recs := a.recs.filter recIsLocal ++ a.recs.filter (fun r => !recIsLocal r) }

theorem specAlign_equiv (a : RA) : (specAlign a).equiv a :=
  ⟨rfl, List.filter_append_perm _ _⟩

def eraseIdxs {β : Type} (idx : List Nat) (l : List β) : List β :=
  gather ((List.range l.length).filter (fun i => !idx.contains i)) l

def specRemove (idx : List Nat) (a : RA) : RA := { a with recs := eraseIdxs idx a.recs }

def specRemoveTagged (t : Int) (a : RA) : RA :=
  { a with recs := a.recs.filter (fun r => !(lookupD r "tag" [] == [t])) }

def specExtend (k : Nat) (a : RA) : RA := { a with recs := a.recs ++ List.replicate k a.dflt }

/-- the records `add_particles(**given)` appends: `k` = number of rows of the last
given array (stride = length of the default row); record `j` carries row `j` of
the given data where given, the default row elsewhere -/
def specNewRecs (dflt : Rec) (given : List (String × List Int)) : List Rec :=
  match given.getLast? with
  | none => []
  | some (ln, ld) =>
    (List.range (ld.length / (lookupD dflt ln []).length)).map (fun j =>
      dflt.map (fun f =>
        match given.find? (fun (g : String × List Int) => g.1 == f.1) with
        | some g => (f.1, (rowsOf f.2.length g.2).getD j [])
        | none => f))

def specAddParticles (given : List (String × List Int)) (a : RA) : RA :=
  { a with recs := a.recs ++ specNewRecs a.dflt given }

theorem lookupD_defaultParticle {pa : PA} (nm : String) (hm : nm ∈ pa.props.map Col.name) :
    lookupD (defaultParticle pa) nm [] = defaultRow pa nm := by
  obtain ⟨c, hc⟩ := col?_isSome_of_mem pa nm hm
  unfold defaultParticle
  rw [lookupD_map_col hc, (col?_some pa nm c hc).2]

def specExtractInto (names : List String) (idx : List Nat) (src dst : RA) : RA :=
  { dst with recs := dst.recs ++ idx.map (fun i => copyFields names (src.recs.getD i []) dst.dflt) }

def absState (st : State) : List RA := st.map absPA

def poolEquiv (A B : List RA) : Prop := List.Forall₂ RA.equiv A B

def modifySlot (A : List RA) (s : Nat) (f : RA → RA) : List RA :=
  match A[s]? with
  | some a => A.set s (f a)
  | none => A

def recKeys (r : Rec) : List String := r.map Prod.fst

/-- the default record of `ParticleArray()` -/
def baseDflt : Rec := [("tag", [0]), ("pid", [0]), ("gid", [uintMax])]

def specResize (m : Nat) (a : RA) : RA :=
  { a with recs := a.recs.take m ++ List.replicate (m - a.recs.length) a.dflt }

def setField (r : Rec) (nm : String) (v : List Int) : Rec := setKey r nm v

def specSetTag (t : Int) (idx : List Nat) (a : RA) : RA :=
  { a with recs := a.recs.zipIdx.map (fun p => if idx.contains p.2 then setField p.1 "tag" [t] else p.1) }

def specRemoveProperty (nm : String) (a : RA) : RA :=
  { dflt := eraseKey a.dflt nm, recs := a.recs.map (fun r => eraseKey r nm) }

def specAddDv (a : RA) (nm : String) (dflt? : Option Int) : Int :=
  match dflt? with
  | some v => v
  | none => if (recKeys a.dflt).contains nm then (lookupD a.dflt nm []).headD 0 else 0

def specAddStride (a : RA) (nm : String) (stride : Nat) : Nat :=
  if (recKeys a.dflt).contains nm then (lookupD a.dflt nm []).length else stride

def specAddNoData (a : RA) (nm : String) (drow : List Int) : List Rec :=
  if (recKeys a.dflt).contains nm then a.recs else a.recs.map (fun r => r ++ [(nm, drow)])

/-- `add_property(nm, default, data, stride)`: the default row of `nm` is
(re)written; without data a new field is appended to every record; with data
the field of record `k` becomes row `k` of the data, and an array without
records gets one record per row of the data (the other fields at their defaults) -/
def specAddProperty (nm : String) (dflt? : Option Int) (data? : Option (List Int)) (stride : Nat)
    (a : RA) : RA :=
  let drow := List.replicate (specAddStride a nm stride) (specAddDv a nm dflt?)
  let dflt' := setKey a.dflt nm drow
  match data? with
  | none => ⟨dflt', specAddNoData a nm drow⟩
  | some [] => ⟨dflt', specAddNoData a nm drow⟩
  | some d =>
    if a.recs.length = 0 then
      ⟨dflt', (rowsOf (specAddStride a nm stride) d).map (fun row => setField dflt' nm row)⟩
    else ⟨dflt', List.zipWith (fun r row => setField r nm row) a.recs
      (rowsOf (specAddStride a nm stride) d)⟩

/-- `set(nm=data)` on a property: the leading part of the column is overwritten -/
def specSetProp (nm : String) (d : List Int) (a : RA) : RA :=
  if (recKeys a.dflt).contains nm then
    let col := (a.recs.map (fun r => lookupD r nm [])).flatten
    let rows := rowsOf (lookupD a.dflt nm []).length (d ++ col.drop d.length)
    if d.length ≤ col.length then
      { a with recs := List.zipWith (fun r row => setField r nm row) a.recs rows }
    else a
  else a

/-- one name of `empty_clone(props)` -/
def specCloneStep (a : RA) (acc : Rec) (nm : String) : Rec := setKey acc nm (lookupD a.dflt nm [])

/-- the names `extract_particles` / `empty_clone` copy -/
def specNames (props : Option (List String)) (a : RA) : List String :=
  match props with
  | some ps => ps
  | none => recKeys a.dflt

def specEmptyClone (props : Option (List String)) (a : RA) : RA :=
  ⟨(specNames props a).foldl (specCloneStep a) baseDflt, []⟩

def missingFields (a b : Rec) : Rec := b.filter (fun f => !(recKeys a).contains f.1)

/-- `append_parray(src)`: the old records (fields missing in self filled with
src's defaults) followed by src's records (fields missing in src filled with
self's defaults) -/
def specAppend (a b : RA) : RA :=
  if b.recs.length = 0 then a else
  let extra := missingFields a.dflt b.dflt
  let dflt' := a.dflt ++ extra
  ⟨dflt', a.recs.map (fun r => r ++ extra) ++
    b.recs.map (fun r => dflt'.map (fun f =>
      if (recKeys b.dflt).contains f.1 then (f.1, lookupD r f.1 []) else f))⟩

/-- one name of `ensure_properties(src, props)` -/
def specEnsureStep (b : RA) (acc : RA) (nm : String) : RA :=
  if (recKeys acc.dflt).contains nm then acc
  else ⟨acc.dflt ++ [(nm, lookupD b.dflt nm [])],
        acc.recs.map (fun r => r ++ [(nm, lookupD b.dflt nm [])])⟩

/-- `props if props else src.properties.keys()` -/
def specEnsureNames (props : Option (List String)) (b : RA) : List String :=
  match props with
  | some [] => recKeys b.dflt
  | some ps => ps
  | none => recKeys b.dflt

/-- `ensure_properties(src, props)` on self `a`, source `b` -/
def specEnsure (props : Option (List String)) (a b : RA) : RA :=
  (specEnsureNames props b).foldl (specEnsureStep b) a

theorem new_abs (nm : String) : absPA (PA.empty nm) = ⟨baseDflt, []⟩ := rfl

theorem absPA_dflt_keys (pa : PA) : recKeys (absPA pa).dflt = pa.props.map Col.name :=
  defaultParticle_keys pa

theorem lookupD_absPA_dflt {pa : PA} (nm : String) (hm : nm ∈ pa.props.map Col.name) :
    lookupD (absPA pa).dflt nm [] = List.replicate (pa.strideOf nm) (pa.defaultOf nm) :=
  lookupD_defaultParticle nm hm

/-- the view shows the stride of a property as the length of its default row -/
theorem length_lookupD_absPA_dflt {pa : PA} (nm : String) (hm : nm ∈ pa.props.map Col.name) :
    (lookupD (absPA pa).dflt nm []).length = pa.strideOf nm := by
  rw [lookupD_absPA_dflt nm hm, List.length_replicate]

theorem hasProp_keys (pa : PA) (name : String) :
    (recKeys (absPA pa).dflt).contains name = pa.hasProp name := by
  rw [absPA_dflt_keys]
  exact Bool.eq_iff_iff.mpr (List.contains_iff_mem.trans (hasProp_iff pa name).symm)

end PysphVerif.PArray
