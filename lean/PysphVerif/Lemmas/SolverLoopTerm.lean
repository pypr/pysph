import PysphVerif.Lemmas.SolverLoop
set_option linter.unusedSectionVars false
/-! Helper lemmas for C10's termination theorem: a second loop invariant (the
saved nominal step never drops below the integrator's lower bound; once the
solver aims at `tf` it keeps aiming at it) and the counting argument
(every pass takes a full step ≥ `umin·fmin`, or lands on a requested time that
is then behind, or lands on `tf`). -/
namespace PysphVerif.SolverLoop
open scoped PysphVerif.OrderChain
variable {α : Type} [Field α] [LinearOrder α] [IsStrictOrderedRing α]

/-- lower bounds under which the loop provably reaches `tf`; `damp_mono` is true of the documented sine ramp -/
structure Lower (c : Cfg α) (dt0 umin fmin : α) : Prop where
  umin_pos : 0 < umin
  fmin_pos : 0 < fmin
  fmin_le_one : fmin ≤ 1
  dt0_ge : umin ≤ dt0
  adapt_ge : ∀ k v, c.adapt k = some v → umin ≤ v
  damp_ge : ∀ k, fmin ≤ c.dampFac k
  damp_le_one : ∀ k, c.dampFac k ≤ 1
  damp_mono : ∀ k, c.dampFac k ≤ c.dampFac (k + 1)

section
variable {c : Cfg α} {dt0 umin fmin : α}

theorem dampAt_ge (L : Lower c dt0 umin fmin) (k : Nat) : fmin ≤ dampAt c k := by
  unfold dampAt
  split
  · exact L.damp_ge k
  · exact L.fmin_le_one

theorem dampAt_mono (L : Lower c dt0 umin fmin) (k : Nat) : dampAt c k ≤ dampAt c (k + 1) := by
  unfold dampAt
  split_ifs with h1 h2 h2
  · exact L.damp_mono k
  · exact L.damp_le_one k
  · exact absurd ⟨Nat.lt_of_succ_lt h2.1, h2.2⟩ h1
  · exact le_refl _

end

/-- what `Lower` adds to `Live` at a loop head that does not aim at `tf`: the remembered step
is a full one -/
structure Live2 (c : Cfg α) (dt0 umin : α) (s : St α) : Prop where
  und_ge : s.landed = false → umin * s.damp ≤ saved s
  fixed_saved : c.adaptive = false → s.landed = false → saved s = dt0 * s.damp
  adapt_saved : c.adaptive = true → s.landed = false →
    1 ≤ s.calls ∧ ∀ v, c.adapt (s.calls - 1) = some v → saved s = v * s.damp

/-- `hund`: the remembered step of `a` is a full one, or `a` aims at `tf` with a damping factor that has
not decreased, and then the landing branch is taken again -/
theorem Pass.live2 {c : Cfg α} {dt0 umin u : α} {a s : St α} (P : Pass c a u s)
    (I : Live c s) (hadapt : ∀ k v, c.adapt k = some v → umin ≤ v) (hd : 0 < a.damp)
    (hund : (umin * a.damp ≤ saved a ∧ (c.adaptive = false → saved a = dt0 * a.damp)) ∨
      (a.damp ≤ dampAt c a.count ∧ c.tf - a.t < saved a)) : Live2 c dt0 umin s := by
  -- unless it lands on `tf`, `_get_timestep` takes the full step `u·damp`, `u` bounded below
  have full : s.landed = false → umin ≤ u ∧ (c.adaptive = false → u = dt0) ∧
      saved s = u * s.damp := by
    intro hl
    have hsn := (I.rec_nom hl).trans P.nom
    have hcase : u = saved a / a.damp → umin ≤ u ∧ (c.adaptive = false → u = dt0) := by
      intro hu0
      rcases hund with ⟨hl, hfx⟩ | ⟨hd', hreach⟩
      · exact ⟨hu0 ▸ (le_div_iff₀ hd).mpr hl,
          fun hf => by rw [hu0, hfx hf]; exact mul_div_cancel_right₀ dt0 hd.ne'⟩
      · -- the remembered step would overshoot `tf`: the landing branch is taken
        have hroom : saved s ≤ c.tf - a.t := le_sub_iff_add_le'.mpr (P.t ▸ I.saved_within)
        have h3 : saved a ≤ saved s := by
          rw [hsn, hu0, div_mul_eq_mul_div, le_div_iff₀ hd, P.damp]
          exact mul_le_mul_of_nonneg_left hd' ((I.saved_pos.trans_le hroom).trans hreach).le
        exact absurd (lt_of_lt_of_le hreach (h3.trans hroom)) (lt_irrefl _)
    rcases P.src with h | h
    · exact ⟨(hcase h).1, (hcase h).2, hsn⟩
    · exact ⟨hadapt _ _ h, fun hf => (hcase (P.fixed hf)).2 hf, hsn⟩
  refine ⟨fun h => ?_, fun hf h => ?_, fun ha h => ?_⟩
  · rw [(full h).2.2]
    exact mul_le_mul_of_nonneg_right (full h).1 I.damp_pos.le
  · rw [(full h).2.2, (full h).2.1 hf]
  · rw [(full h).2.2]
    exact ⟨(P.adaptive ha).1, fun v hv => by rw [(P.adaptive ha).2 v hv]⟩

theorem Trace.live2 {c : Cfg α} {dt0 umin fmin : α} {n : Nat} (T : Trace c dt0 n) (G : Good c dt0)
    (L : Lower c dt0 umin fmin) {i : Nat} (hi : i ≤ n) (hr : Running c (head c dt0 i)) :
    Live2 c dt0 umin (head c dt0 i) := by
  induction i with
  | zero =>
    have I' := (T.inv G hi).live hr
    rw [head_zero] at hr I' ⊢
    obtain ⟨u, P⟩ := start_pass c dt0 hr G.hsorted
    refine P.live2 I' L.adapt_ge zero_lt_one (Or.inl ⟨?_, fun _ => ?_⟩)
    · show umin * 1 ≤ dt0
      rw [mul_one]; exact L.dt0_ge
    · show dt0 = dt0 * 1
      rw [mul_one]
  | succ i ih =>
    have J := ih (Nat.le_of_succ_le hi) (T.short hi)
    have I := T.live G hi
    have I' := (T.inv G hi).live hr
    rw [head_succ] at hr I' ⊢
    obtain ⟨u, P⟩ := iterSt_pass c _ hr G.hsorted
    refine P.live2 I' L.adapt_ge I.damp_pos ?_
    cases hl : (head c dt0 i).landed with
    | true =>
      refine Or.inr ⟨?_, ?_⟩
      · show (head c dt0 i).damp ≤ dampAt c ((head c dt0 i).count + 1)
        rw [I.damp_eq]; exact dampAt_mono L _
      · show c.tf - ((head c dt0 i).t + (head c dt0 i).dt) < saved (head c dt0 i)
        rw [← sub_sub, I.land_reach hl]
        exact sub_lt_self _ I.dt_pos
    | false => exact Or.inl ⟨J.und_ge hl, fun hf => J.fixed_saved hf hl⟩

def ahead (l : List α) (t : α) : Nat := l.countP (fun T => decide (t < T))

theorem ahead_mono (l : List α) (t t' : α) (h : t ≤ t') : ahead l t' ≤ ahead l t :=
  List.countP_mono_left (fun _ _ hT => decide_eq_true (lt_of_le_of_lt h (of_decide_eq_true hT)))

theorem ahead_lt (l : List α) (t T : α) (hT : T ∈ l) (h : t < T) : ahead l T < ahead l t := by
  -- count with `T` taken to the front: it is ahead of `t` and not of itself
  have hp := List.perm_cons_erase hT
  unfold ahead
  rw [hp.countP_eq, hp.countP_eq, List.countP_cons, List.countP_cons,
    if_neg (by simp), if_pos (decide_eq_true h)]
  exact Nat.lt_succ_of_le (ahead_mono _ t T h.le)

/-- one pass lowers the measure "full steps still needed to cover `tf - t`, plus requested times ahead" -/
theorem pass_measure (c : Cfg α) (dt0 umin fmin : α) (L : Lower c dt0 umin fmin) (s : St α)
    (I : Live c s) (J : Live2 c dt0 umin s) (n : Nat) (hn : c.tf - s.t ≤ n * (umin * fmin)) :
    ∃ n' : Nat, c.tf - (s.t + s.dt) ≤ n' * (umin * fmin) ∧
      n' + ahead c.outT (s.t + s.dt) < n + ahead c.outT s.t := by
  have hmono := ahead_mono c.outT s.t (s.t + s.dt) (le_add_of_nonneg_right I.dt_pos.le)
  have hn1 : 0 < n := by
    refine Nat.pos_of_ne_zero (fun h0 => ?_)
    rw [h0, Nat.cast_zero, zero_mul] at hn
    exact absurd (lt_of_lt_of_le I.dt_pos (le_sub_iff_add_le'.mpr I.within_tf)) (not_lt.mpr hn)
  rcases I.shape with hpn | ⟨T, hT, hdtT, hlt⟩
  · have hsv : saved s = s.dt := by unfold saved; rw [hpn]
    cases hl : s.landed with
    | true =>
      refine ⟨0, ?_, Nat.add_lt_add_of_lt_of_le hn1 hmono⟩
      rw [← hsv, I.land_reach hl, Nat.cast_zero, zero_mul, add_sub_cancel, sub_self]
    | false =>
      have h1 := J.und_ge hl
      rw [hsv, I.damp_eq] at h1
      have h2 : umin * fmin ≤ umin * dampAt c s.count :=
        mul_le_mul_of_nonneg_left (dampAt_ge L _) L.umin_pos.le
      refine ⟨n - 1, ?_, Nat.add_lt_add_of_lt_of_le (Nat.pred_lt (Nat.ne_of_gt hn1)) hmono⟩
      rw [Nat.cast_pred hn1, sub_mul, one_mul, sub_add_eq_sub_sub]
      exact sub_le_sub hn (h2.trans h1)
  · refine ⟨n, le_trans (sub_le_sub_left (le_add_of_nonneg_right I.dt_pos.le) _) hn, ?_⟩
    rw [hdtT, add_sub_cancel]
    exact Nat.add_lt_add_left (ahead_lt c.outT s.t T hT hlt) n

/-- the measure of `pass_measure` plus the number of passes made never exceeds `N + len(output_at_times)` -/
theorem Trace.terminates {c : Cfg α} {dt0 umin fmin : α} {n : Nat} (T : Trace c dt0 n)
    (G : Good c dt0) (L : Lower c dt0 umin fmin) (N : Nat) (hN : c.tf ≤ N * (umin * fmin))
    (hmax : N + c.outT.length ≤ c.maxSteps) :
    ¬ Running c (solve c dt0).1 ∧ n ≤ N + c.outT.length := by
  rw [T.final]
  have key : ∀ i ≤ n, ∃ k : Nat, c.tf - (head c dt0 i).t ≤ k * (umin * fmin) ∧
      k + ahead c.outT (head c dt0 i).t + i ≤ N + c.outT.length := by
    intro i hi
    induction i with
    | zero =>
      refine ⟨N, ?_, Nat.add_le_add_left List.countP_le_length N⟩
      rw [head_zero, (start_clock c dt0).1, sub_zero]
      exact hN
    | succ i ih =>
      obtain ⟨k, hk, hm⟩ := ih (Nat.le_of_succ_le hi)
      obtain ⟨k', hk', hm'⟩ := pass_measure c dt0 umin fmin L _ (T.live G hi)
        (T.live2 G L (Nat.le_of_succ_le hi) (T.short hi)) k hk
      rw [head_succ, (iterSt_clock c _).1]
      exact ⟨k', hk', by omega⟩
  obtain ⟨k, hk, hm⟩ := key n (Nat.le_refl n)
  refine ⟨fun hr => ?_, by omega⟩
  -- still running, the loop was stopped by `max_steps ≥ N + len`: then `k = 0`, so `tf ≤ t`
  have hcount : ¬ n < c.maxSteps := fun h => T.reached h hr
  obtain rfl : k = 0 := by omega
  rw [Nat.cast_zero, zero_mul] at hk
  exact absurd (lt_of_le_of_lt (T.inv G (Nat.le_refl n)).eps_nonneg hr) (not_lt.mpr hk)

end PysphVerif.SolverLoop
