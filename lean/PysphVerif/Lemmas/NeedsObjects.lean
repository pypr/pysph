import PysphVerif.Model.NeedsObjects
/-!
C20 — helper lemmas for `Model/NeedsObjects.lean` (stepper objects given to keywords): the
de-duplication by object is the identity when no object is shared.  Nothing of `Lemmas/Needs.lean` is used.
-/
namespace PysphVerif.Needs

theorem mem_pairsOf (objs : List StepObj) (kw : List (Name × Nat)) (st : Stepper) :
    st ∈ pairsOf objs kw ↔ ∃ k ∈ kw, ∃ o, objs[k.2]? = some o ∧ o.on k.1 = st := by
  simp only [pairsOf, pairOf, List.mem_filterMap, Option.map_eq_some_iff]

theorem on_dest (o : StepObj) (d : Name) : (o.on d).dest = d := rfl
theorem on_cls (o : StepObj) (d : Name) : (o.on d).cls = o.cls := rfl
theorem on_methods (o : StepObj) (d : Name) : (o.on d).methods = o.methods := rfl

theorem firstPerObject_eq_self (seen : List Nat) (kw : List (Name × Nat))
    (hnd : (kw.map (·.2)).Nodup) (hdis : ∀ k ∈ kw, k.2 ∉ seen) :
    firstPerObject seen kw = kw := by
  fun_induction firstPerObject seen kw with
  | case1 => rfl
  | case2 seen k rest hk ih => exact absurd (by simpa using hk) (hdis k List.mem_cons_self)
  | case3 seen k rest hk ih =>
    obtain ⟨hkr, hnd'⟩ := List.nodup_cons.mp hnd
    refine congrArg _ (ih hnd' fun k' hk' hmem => ?_)
    rcases List.mem_cons.mp hmem with h | h
    · exact hkr (List.mem_map.mpr ⟨k', hk', h⟩)
    · exact hdis k' (List.mem_cons_of_mem _ hk') h

end PysphVerif.Needs
