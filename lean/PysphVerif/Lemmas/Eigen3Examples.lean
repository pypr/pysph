import PysphVerif.Lemmas.Eigen3Full
import Mathlib.Analysis.Real.Sqrt
/-!
Satisfiability of the hypotheses used by the eigen-decomposition theorems of C13
(`Real.sqrt`), and executable checkers over `ℚ` for the non-vacuity examples: a rational
"square root" that is exact on quotients of perfect squares, so that the model can be run in
exact arithmetic on matrices whose decomposition is rational.
-/
namespace PysphVerif.Eigen3

theorem sqrtOK_real : SqrtOK Real.sqrt :=
  ⟨Real.sqrt_nonneg, fun _ hx => Real.mul_self_sqrt hx⟩

/-- integer square root by linear search (structural, so the kernel can run it) -/
def isqrt (n : Nat) : Nat := (List.range (n+1)).foldl (fun k i => if i * i ≤ n then i else k) 0
def qsqrt (q : ℚ) : ℚ := (isqrt q.num.toNat : ℚ) / (isqrt q.den : ℚ)
def qabs (q : ℚ) : ℚ := if q < 0 then -q else q
/-- `2.0**-52.0` -/
def qeps : ℚ := 1 / 4503599627370496

def qmul (A B : Mat ℚ) : Mat ℚ :=
  Mat.ofFn fun i j => A i 0 * B 0 j + A i 1 * B 1 j + A i 2 * B 2 j
def qtr (A : Mat ℚ) : Mat ℚ := Mat.ofFn fun i j => A j i
def qdiag (d : Vec ℚ) : Mat ℚ := Mat.ofFn fun i j => if i = j then d i else 0
/-- the tridiagonal matrix `(d, e)` of `tred2` -/
def qtri (d e : Vec ℚ) : Mat ℚ := ⟨d 0, e 1, 0, e 1, d 1, e 2, 0, e 2, d 2⟩

/-- run `eigen_decomposition` (overflow-safe `hypot2`) at `ℚ` and check, exactly, everything the
theorems conclude, and the expected values -/
def eigCheck (fuel : Nat) (A : Mat ℚ) (V d : List ℚ) : Bool :=
  match eigenDecomposition qabs qsqrt (hypotSafe qabs qsqrt) qeps fuel A with
  | .error _ => false
  | .ok o =>
    decide (o.V.toList = V) && decide (o.d.toList = d) &&
    decide ((qmul A o.V).toList = (qmul o.V (qdiag o.d)).toList) &&
    decide ((qmul (qtr o.V) o.V).toList = (idMat : Mat ℚ).toList) &&
    decide (o.d 0 ≤ o.d 1 ∧ o.d 1 ≤ o.d 2) &&
    o.drops.all (fun x => decide (x.1 = 0))

def tred2Check (A : Mat ℚ) (d e : List ℚ) (log : List Nat) : Bool :=
  let s := tred2 qabs qsqrt ⟨A, Vec.ofFn (fun _ => 0), Vec.ofFn (fun _ => 0), []⟩
  decide (s.d.toList = d) && decide (s.e.toList = e) && decide (s.log = log) &&
  decide ((qmul (qtr s.V) s.V).toList = (idMat : Mat ℚ).toList) &&
  decide ((qmul (qmul s.V (qtri s.d s.e)) (qtr s.V)).toList = A.toList)

end PysphVerif.Eigen3
