import PysphVerif.Lemmas.PArrayFolds
import PysphVerif.Lemmas.PArraySpecAddProperty
import PysphVerif.Lemmas.PArrayRefine
/-!
`append_parray` at the record level.  After the extension, every source
property is handled by one step: the field is added with the source's default
if self lacks it, then the new slots of the column are overwritten.
`specAppendStep` is that step on records; `specAppend` over the source fields
`bd ++ [f]` is one more `specAppendStep` after `specAppend` over `bd`, so the
fold of the real steps refines `specAppend`.  The source records enter
`specAppend` through `copyFields`, the function of `extract_particles`.
-/
namespace PysphVerif.PArray

/-- record-level `append_parray`, one source field `f` (name, src's default row) -/
def specAppendStep (oldN : Nat) (srcRecs : List Rec) (acc : RA) (f : String × List Int) : RA :=
  let acc1 : RA := if (recKeys acc.dflt).contains f.1 then acc
    else ⟨acc.dflt ++ [f], acc.recs.map (fun r => r ++ [f])⟩
  ⟨acc1.dflt, acc1.recs.take oldN ++
    List.zipWith (fun r row => setField r f.1 row) (acc1.recs.drop oldN)
      (srcRecs.map (fun r => lookupD r f.1 []))⟩

theorem missingFields_snoc (a bd : Rec) (f : String × List Int) :
    missingFields a (bd ++ [f]) =
      missingFields a bd ++ (if (recKeys a).contains f.1 then [] else [f]) := by
  unfold missingFields
  rw [List.filter_append]
  congr 1
  by_cases h : f.1 ∈ recKeys a <;> simp [h]

theorem missingFields_keys (a bd : Rec) : ∀ k ∈ recKeys (missingFields a bd), k ∈ recKeys bd := by
  intro k hk
  obtain ⟨p, hp, rfl⟩ := List.mem_map.mp hk
  exact List.mem_map_of_mem (List.mem_of_mem_filter hp)

theorem specAppend_of_ne (a b : RA) (hk : b.recs.length ≠ 0) :
    specAppend a b = ⟨a.dflt ++ missingFields a.dflt b.dflt,
      a.recs.map (fun r => r ++ missingFields a.dflt b.dflt) ++
      b.recs.map (fun r => copyFields (recKeys b.dflt) r (a.dflt ++ missingFields a.dflt b.dflt))⟩ := by
  unfold specAppend
  rw [if_neg hk]
  rfl

theorem specAppend_nil (a : RA) (recs : List Rec) (hk : recs.length ≠ 0) :
    specAppend a ⟨[], recs⟩ = specExtend recs.length a := by
  unfold specAppend specExtend missingFields
  simp only [if_neg hk, List.filter_nil, List.append_nil, List.map_id']
  congr 2
  rw [← List.map_const']
  apply List.map_congr_left
  intro r _
  rw [List.map_congr_left (g := id) (fun f _ => by simp [recKeys]), List.map_id]

theorem specAppend_snoc (a : RA) (bd : Rec) (f : String × List Int) (recs : List Rec)
    (hk : recs.length ≠ 0) (hf : f.1 ∉ recKeys bd) :
    specAppendStep a.recs.length recs (specAppend a ⟨bd, recs⟩) f = specAppend a ⟨bd ++ [f], recs⟩ := by
  obtain ⟨nm, drow⟩ := f
  rw [specAppend_of_ne a ⟨bd, recs⟩ hk, specAppend_of_ne a ⟨bd ++ [(nm, drow)], recs⟩ hk,
    missingFields_snoc, show recKeys (bd ++ [(nm, drow)]) = recKeys bd ++ [nm] from List.map_append]
  have hM := missingFields_keys a.dflt bd
  generalize missingFields a.dflt bd = M at hM ⊢
  unfold specAppendStep
  have hzip : ∀ (h : Rec → Rec) (l : List Rec),
      List.zipWith (fun r row => setField r nm row) (l.map h) (l.map (fun r => lookupD r nm [])) =
        l.map (fun r => setField (h r) nm (lookupD r nm [])) := by
    intro h l; rw [List.zipWith_map, List.zipWith_self]
  -- the fields added so far come from `bd`, so `nm` is not among them
  have hkey : (recKeys (a.dflt ++ M)).contains nm = (recKeys a.dflt).contains nm := by
    have : (recKeys M).contains nm = false := by simpa using fun e => hf (hM nm e)
    rw [recKeys, List.map_append, List.contains_append, ← recKeys, ← recKeys, this, Bool.or_false]
  by_cases hin : (recKeys (a.dflt ++ M)).contains nm = true
  · -- self has the field: the copies take it over too
    simp only [if_pos hin, if_pos (hkey ▸ hin), List.append_nil]
    rw [List.take_left' (List.length_map _), List.drop_left' (List.length_map _), hzip]
    congr 2
    exact List.map_congr_left (fun r _ => setField_copyFields _ r _ nm (List.contains_iff_mem.mp hin))
  · -- a new field: appended to the default record and to every record
    have hnot : nm ∉ (a.dflt ++ M).map Prod.fst := fun hm => hin (List.contains_iff_mem.mpr hm)
    simp only [if_neg hin, if_neg (hkey ▸ hin)]
    rw [List.map_append, List.map_map, List.map_map, List.take_left' (by simp),
      List.drop_left' (by simp), hzip, ← List.append_assoc]
    congr 2
    · exact List.map_congr_left (fun r _ => by simp)
    · apply List.map_congr_left
      intro r _
      have hnr : nm ∉ (copyFields (recKeys bd) r (a.dflt ++ M)).map Prod.fst := by
        rw [copyFields_keys]; exact hnot
      simp only [Function.comp]
      rw [setField_snoc _ _ _ _ hnr, setField, setKey_new _ _ _ hnr]
      conv_rhs => rw [copyFields, List.map_append, ← copyFields, copyFields_snoc_of_not_mem _ _ _ _ hnot]
      simp

theorem lookupD_append_left {β : Type} (l l' : List (String × β)) (k : String) (d : β)
    (h : k ∈ l.map Prod.fst) : lookupD (l ++ l') k d = lookupD l k d := by
  induction l with
  | nil => simp at h
  | cons p l ih =>
    rw [List.cons_append, lookupD_cons, lookupD_cons]
    by_cases e : p.1 = k
    · rw [if_pos e, if_pos e]
    · rw [if_neg e, if_neg e]
      exact ih ((List.mem_cons.mp h).resolve_left (fun e' => e e'.symm))

theorem appendTail_abs {a src : PA} (ha : Inv a) (hs : Inv src) (oldN : Nat)
    (hn : a.n = oldN + src.n) (sc : Col) (hsc : sc ∈ src.props) (c : Col) (hc : c ∈ a.props)
    (hcn : c.name = sc.name) (hst : a.strideOf sc.name = src.strideOf sc.name) :
    (c.data.length - oldN * src.strideOf sc.name == sc.data.length) = true ∧
    Inv (a.setCol { c with data := c.data.take (oldN * src.strideOf sc.name) ++ sc.data }) ∧
    (a.setCol { c with data := c.data.take (oldN * src.strideOf sc.name) ++ sc.data }).n = a.n ∧
    absPA (a.setCol { c with data := c.data.take (oldN * src.strideOf sc.name) ++ sc.data }) =
      ⟨(absPA a).dflt, (absPA a).recs.take oldN ++
        List.zipWith (fun r row => setField r sc.name row) ((absPA a).recs.drop oldN)
          ((particles src).map (fun r => lookupD r sc.name []))⟩ := by
  have hcp := column_of_particles hs sc hsc
  have hsl := (hs.len sc hsc).2
  rw [← hcn] at hst hcp hsl ⊢
  have hcl := (ha.len c hc).2
  rw [hst, hn] at hcl
  refine ⟨?_, ?_⟩
  · rw [hcl, hsl, Nat.add_mul, Nat.add_sub_cancel_left]; simp
  · have := setColTail_abs ha c hc oldN sc.data (by omega)
      (by rw [hst, hn, Nat.add_sub_cancel_left]; exact hsl)
    rw [hst] at this
    rw [hcp]
    exact this

theorem appendStep_abs {a src : PA} (ha : Inv a) (hs : Inv src) (oldN : Nat)
    (hn : a.n = oldN + src.n) (sc : Col) (hsc : sc ∈ src.props)
    (hst : a.hasProp sc.name = true → a.strideOf sc.name = src.strideOf sc.name) :
    ∃ a', appendStep src oldN (some a) sc = some a' ∧ Inv a' ∧ a'.n = a.n ∧
      absPA a' = specAppendStep oldN (particles src) (absPA a) (sc.name, defaultRow src sc.name) := by
  unfold appendStep specAppendStep
  simp only []
  rw [hasProp_keys]
  cases hcol : a.col? sc.name with
  | some c =>
    obtain ⟨hcm, hcn⟩ := col?_some a _ c hcol
    have hp : a.hasProp sc.name = true := (hasProp_iff a _).mpr (hcn ▸ List.mem_map_of_mem hcm)
    obtain ⟨hchk, hi', hn', habs⟩ := appendTail_abs ha hs oldN hn sc hsc c hcm hcn (hst hp)
    simp only [hst hp, hchk, hp, if_true]
    exact ⟨_, rfl, hi', hn', habs⟩
  | none =>
    have hnm : sc.name ∉ a.props.map Col.name := col?_none a _ hcol
    have hp : a.hasProp sc.name = false := (hasProp_false_iff a _).mpr hnm
    obtain ⟨a1, hadd, hi1, hn1, _, hsn, hnames, habs1⟩ := addProperty_nodata_abs ha
      (.of_new ha (hs.len sc hsc).1 hnm) sc.ctype (some (src.defaultOf sc.name))
    simp only [hp, Bool.false_eq_true, if_false] at hnames habs1
    rw [addStride_new (by simp [hp])] at hsn
    rw [addStride_new (by simp [hp]),
      setKey_new _ _ _ (by rw [← recKeys, absPA_dflt_keys]; exact hnm)] at habs1
    rw [hadd]
    simp only [hp, Bool.false_eq_true, if_false]
    obtain ⟨c1, hc1⟩ := col?_isSome_of_mem _ sc.name (by rw [hnames]; simp)
    obtain ⟨hc1m, hc1n⟩ := col?_some _ _ c1 hc1
    obtain ⟨hchk, hi', hn', habs⟩ := appendTail_abs hi1 hs oldN (hn1.trans hn) sc hsc c1 hc1m hc1n hsn
    simp only [hc1, hchk, if_true]
    refine ⟨_, rfl, hi', hn'.trans hn1, ?_⟩
    rw [habs, habs1]
    rfl

theorem appendFold {pa src : PA} (h : Inv pa) (hs : Inv src) (hk : src.n ≠ 0)
    (hss : ∀ nm ∈ src.props.map Col.name, nm ∈ pa.props.map Col.name →
      pa.strideOf nm = src.strideOf nm) :
    ∃ r, src.props.foldl (appendStep src pa.n) (some (pa.extend src.n)) = some r ∧ Inv r ∧
      absPA r = specAppend (absPA pa) (absPA src) := by
  have hkl : (particles src).length ≠ 0 := by rw [particles_length]; exact hk
  obtain ⟨r, hr, hir, _, habs⟩ := foldl_opt_exists (appendStep src pa.n)
    (fun pre a => Inv a ∧ a.n = pa.n + src.n ∧ absPA a = specAppend (absPA pa)
      ⟨pre.map (fun (c : Col) => (c.name, defaultRow src c.name)), particles src⟩)
    src.props
    (fun pre b suf a hl ⟨hia, hna, habs⟩ => by
      have hbm : b ∈ src.props := by rw [hl]; simp
      have hbk : b.name ∉ recKeys (pre.map (fun (c : Col) => (c.name, defaultRow src c.name))) := by
        unfold recKeys; rw [List.map_map]
        exact key_not_mem_prefix Col.name hl hs.nodup
      -- a property self already has kept the stride it has in `pa`, which is the source's
      have hst : a.hasProp b.name = true → a.strideOf b.name = src.strideOf b.name := by
        intro hp
        have hma := (hasProp_iff a _).mp hp
        have hD : (absPA a).dflt = _ := congrArg RA.dflt (habs.trans (specAppend_of_ne _ _ hkl))
        have hmem : b.name ∈ (absPA pa).dflt.map Prod.fst := by
          have : b.name ∈ ((absPA a).dflt).map Prod.fst := by
            rw [← recKeys, absPA_dflt_keys]; exact hma
          rw [hD, List.map_append, List.mem_append] at this
          exact this.resolve_right (fun e => hbk (missingFields_keys _ _ _ e))
        have hmp : b.name ∈ pa.props.map Col.name := by
          rwa [← recKeys, absPA_dflt_keys] at hmem
        rw [← length_lookupD_absPA_dflt _ hma, hD, lookupD_append_left _ _ _ _ hmem,
          length_lookupD_absPA_dflt _ hmp]
        exact hss _ (List.mem_map_of_mem hbm) hmp
      obtain ⟨a', hstep, hi', hn', habs'⟩ := appendStep_abs hia hs pa.n hna b hbm hst
      refine ⟨a', hstep, hi', hn'.trans hna, ?_⟩
      rw [habs', habs, List.map_append]
      have hsn := specAppend_snoc (absPA pa) _ (b.name, defaultRow src b.name) (particles src)
        hkl hbk
      rw [show (absPA pa).recs.length = pa.n from particles_length pa] at hsn
      exact hsn)
    (pa.extend src.n)
    ⟨(inv_extend h src.n).1, (inv_extend h src.n).2, by
      rw [extend_refines h, List.map_nil, specAppend_nil _ _ hkl, particles_length]⟩
  exact ⟨r, hr, hir, habs⟩

/-- a property only the source has may have any stride -/
theorem append_spec {pa src : PA} (h : Inv pa) (hs : Inv src) (al up : Bool)
    (hss : ∀ nm ∈ src.props.map Col.name, nm ∈ pa.props.map Col.name →
      pa.strideOf nm = src.strideOf nm) :
    ∃ X, pa.appendParray src al up = some (X.alignIf (src.n > 0 && al)) ∧ Inv X ∧
      absPA X = specAppend (absPA pa) (absPA src) := by
  rw [appendParray_eq]
  by_cases hk : src.n = 0
  · refine ⟨pa, by simp [hk, PA.alignIf], h, ?_⟩
    unfold specAppend
    rw [if_pos (by show (particles src).length = 0; rw [particles_length]; exact hk)]
  rw [if_neg (by simpa using hk)]
  obtain ⟨r, hr, hir, habs⟩ := appendFold h hs hk hss
  obtain ⟨cs, e, _⟩ := appendConsts_eq src up r
  rw [hr]
  refine ⟨_, rfl, ?_⟩
  rw [e]
  exact ⟨InvF.toInv (pa := { r with consts := cs }) hir.toF,
    (absPA_congr_fields rfl rfl rfl).trans habs⟩

theorem append_refines {pa src : PA} (h : Inv pa) (hs : Inv src) (al up : Bool)
    (hss : ∀ nm ∈ src.props.map Col.name, nm ∈ pa.props.map Col.name →
      pa.strideOf nm = src.strideOf nm) :
    ∃ pa', pa.appendParray src al up = some pa' ∧
      (absPA pa').equiv (specAppend (absPA pa) (absPA src)) := by
  obtain ⟨X, hX, hi, habs⟩ := append_spec h hs al up hss
  exact ⟨_, hX, RA.equiv_trans (absPA_alignIf hi _) (RA.equiv_of_eq habs)⟩

end PysphVerif.PArray
