import PysphVerif.Model.Codegen
/-!
Helper lemmas for C02, section 5 of `Model/Codegen.lean`: the call sites of the group
callables (`condition`, `pre`, `post`) and the map `_compute_group_map` builds.
-/
namespace PysphVerif.Codegen

section groupmap
variable {κ : Type} [DecidableEq κ]

theorem gmLookup_none_of_not_mem (m : List (κ × GPos)) (k : κ) (h : k ∉ m.map (·.1)) :
    gmLookup m k = none := by
  induction m with
  | nil => rfl
  | cons e m ih =>
    obtain ⟨k', v⟩ := e
    simp only [List.map_cons, List.mem_cons, not_or] at h
    have hne : ¬ k' = k := fun e => h.1 e.symm
    simp only [gmLookup, ih h.2, if_neg hne]

theorem gmLookup_of_mem (m : List (κ × GPos)) (hnd : (m.map (·.1)).Nodup) (k : κ) (v : GPos)
    (h : (k, v) ∈ m) : gmLookup m k = some v := by
  induction m with
  | nil => simp at h
  | cons e m ih =>
    obtain ⟨k', v'⟩ := e
    simp only [List.map_cons, List.nodup_cons] at hnd
    rcases List.mem_cons.mp h with h | h
    · have hk : k = k' := congrArg Prod.fst h
      have hv : v = v' := congrArg Prod.snd h
      subst hk; subst hv
      simp only [gmLookup, gmLookup_none_of_not_mem m k hnd.1, if_true]
    · simp only [gmLookup, ih hnd.2 h]

variable {key : GNode → κ} {m : List (κ × GPos)}

theorem mem_siteIf {b : Bool} {c : Cb} {np : GNode × GPos} {s : CallSite} :
    s ∈ siteIf key m b c np ↔ b = true ∧ s = ⟨c, np.2, gmLookup m (key np.1)⟩ := by
  cases b <;> simp [siteIf]

/-- only as a set: in the text the `post` of a parent comes after the sub-groups -/
theorem mem_topSites {gt : GTop × Nat} {s : CallSite} :
    s ∈ topSites key m gt ↔ ∃ np ∈ topNodes gt, s ∈ nodeSites key m np := by
  unfold topSites topNodes
  split
  · next he => simp [List.isEmpty_iff.mp he]
  · simp only [nodeSites, List.mem_append, List.mem_flatMap, List.mem_cons, exists_eq_or_imp]
    exact or_right_comm

theorem mem_callSitesBy {gs : List GTop} {s : CallSite} :
    s ∈ callSitesBy key gs ↔ ∃ np ∈ allNodes gs, s ∈ nodeSites key (groupMapBy key gs) np := by
  simp only [callSitesBy, allNodes, List.mem_flatMap, mem_topSites]
  exact ⟨fun ⟨gt, hgt, np, hnp, hs⟩ => ⟨np, ⟨gt, hgt, hnp⟩, hs⟩,
    fun ⟨np, ⟨gt, hgt, hnp⟩, hs⟩ => ⟨gt, hgt, np, hnp, hs⟩⟩

theorem groupMapBy_lookup (key : GNode → κ) (gs : List GTop)
    (hinj : ((allNodes gs).map (fun np => key np.1)).Nodup) (np : GNode × GPos)
    (hnp : np ∈ allNodes gs) : gmLookup (groupMapBy key gs) (key np.1) = some np.2 := by
  apply gmLookup_of_mem
  · unfold groupMapBy
    rw [List.map_map]
    exact hinj
  · exact List.mem_map.mpr ⟨np, hnp, rfl⟩

theorem callSitesBy_own (key : GNode → κ) (gs : List GTop)
    (hinj : ((allNodes gs).map (fun np => key np.1)).Nodup) :
    ∀ s ∈ callSitesBy key gs, s.target = some s.site := by
  intro s hs
  obtain ⟨np, hnp, hs⟩ := mem_callSitesBy.mp hs
  simp only [nodeSites, List.mem_append, mem_siteIf, groupMapBy_lookup key gs hinj np hnp] at hs
  rcases hs with (⟨_, rfl⟩ | ⟨_, rfl⟩) | ⟨_, rfl⟩ <;> rfl

theorem callSitesBy_complete (key : GNode → κ) (gs : List GTop)
    (hinj : ((allNodes gs).map (fun np => key np.1)).Nodup) (np : GNode × GPos)
    (hnp : np ∈ allNodes gs) :
    (np.1.hasCond = true → (⟨.cond, np.2, some np.2⟩ : CallSite) ∈ callSitesBy key gs) ∧
    (np.1.hasPre = true → (⟨.pre, np.2, some np.2⟩ : CallSite) ∈ callSitesBy key gs) ∧
    (np.1.hasPost = true → (⟨.post, np.2, some np.2⟩ : CallSite) ∈ callSitesBy key gs) := by
  simp only [mem_callSitesBy, nodeSites, List.mem_append, mem_siteIf,
    ← groupMapBy_lookup key gs hinj np hnp]
  exact ⟨fun h => ⟨np, hnp, Or.inl (Or.inl ⟨h, rfl⟩)⟩, fun h => ⟨np, hnp, Or.inl (Or.inr ⟨h, rfl⟩)⟩,
    fun h => ⟨np, hnp, Or.inr ⟨h, rfl⟩⟩⟩

end groupmap

end PysphVerif.Codegen
