import PysphVerif.Lemmas.ControllerStep
/-!
C18: reachability, and the two invariants that hold for every protocol variant `cfg`, every program
of every interface thread (any number of them) and every schedule: `Inv`, the bookkeeping of task
ids, and `PInv`, the pause protocol.  Every later invariant is proved through `Reachable.induct`,
induction with the steps as the relations of `ControllerStep`.
-/
namespace PysphVerif.Controller

inductive Reachable (cfg : Cfg) (progs : Tid → List Op) : State → Prop
  | init : Reachable cfg progs (init progs)
  | step {s s' : State} {t : Tid} {evs : List Ev} :
      Reachable cfg progs s → step cfg s t = some (s', evs) → Reachable cfg progs s'

def execIds (s : State) : List Nat := s.execLog.map (·.1)

/-- the command the solver has popped but not yet run -/
def inflightPc : SPc → List Nat
  | SPc.runAcqRes _ id _ => [id]
  | _ => []

@[simp] theorem inflightPc_run (ctx : Ctx) (id : Nat) (c : Cmd) :
    inflightPc (SPc.runAcqRes ctx id c) = [id] := rfl
@[simp] theorem inflightPc_start : inflightPc SPc.start = [] := rfl
@[simp] theorem inflightPc_acqQ1 : inflightPc SPc.acqQ1 = [] := rfl
@[simp] theorem inflightPc_relQ1 : inflightPc SPc.relQ1 = [] := rfl
@[simp] theorem inflightPc_acqQ2 : inflightPc SPc.acqQ2 = [] := rfl
@[simp] theorem inflightPc_acqP : inflightPc SPc.acqP = [] := rfl
@[simp] theorem inflightPc_ntaP : inflightPc SPc.ntaP = [] := rfl
@[simp] theorem inflightPc_relP : inflightPc SPc.relP = [] := rfl
@[simp] theorem inflightPc_waitQ : inflightPc SPc.waitQ = [] := rfl
@[simp] theorem inflightPc_blocked : inflightPc SPc.blocked = [] := rfl
@[simp] theorem inflightPc_reacqQ : inflightPc SPc.reacqQ = [] := rfl
@[simp] theorem inflightPc_relQ2 : inflightPc SPc.relQ2 = [] := rfl
@[simp] theorem inflightPc_crashed : inflightPc SPc.crashed = [] := rfl
@[simp] theorem inflightPc_runRelC (ctx : Ctx) (id : Nat) : inflightPc (SPc.runRelC ctx id) = [] := rfl
@[simp] theorem inflightPc_runRelRes (ctx : Ctx) : inflightPc (SPc.runRelRes ctx) = [] := rfl

def inflight (s : State) : List Nat := inflightPc s.spc

def relcId : SPc → Option Nat
  | SPc.runRelC _ id => some id
  | _ => none

/-- the task id a dispatching thread has allocated but not yet appended -/
def pendingId : IPc → Option Nat
  | IPc.qAcqC _ id => some id
  | IPc.qAcqQ _ id => some id
  | _ => none

/-- the task whose per-command lock a `get_result` call holds -/
def holding : IPc → Option Nat
  | IPc.rAcqRes k => some k
  | IPc.rRelRes k _ => some k
  | IPc.rRelC k _ => some k
  | _ => none

def wantsResult : IPc → Option Nat
  | IPc.rAcqC k => some k
  | _ => none

/-- The bookkeeping of task ids behind "every queued command is executed exactly once and its result
is delivered" (`queue_exactly_once`, `result_delivered_is_execution_result`,
`get_result_blocks_until_run`).  What makes `get_result` wait is `locked`: the per-command lock of a
queued task stays held until the task has run. -/
structure Inv (s : State) : Prop where
  fifo : s.queuedLog = execIds s ++ inflight s ++ s.queue
  nodup : s.queuedLog.Nodup
  bound : ∀ id ∈ s.queuedLog, id < s.nextId
  pend : ∀ t id, pendingId (s.th t).pc = some id → id < s.nextId ∧ id ∉ s.queuedLog
  pendDistinct : ∀ t t' id, t ≠ t' → pendingId (s.th t).pc = some id →
      pendingId (s.th t').pc ≠ some id
  res : ∀ k v, ((k, v) ∈ s.results ∨ (k, v) ∈ s.delivered) → ∃ n, (k, n, v) ∈ s.execLog
  resNodup : (s.results.map (·.1) ++ s.delivered.map (·.1)).Nodup
  locked : ∀ k ∈ s.queuedLog, k ∈ s.cLocked ∨ k ∈ execIds s
  pendLocked : ∀ t c id, (s.th t).pc = IPc.qAcqQ c id → id ∈ s.cLocked
  lockmapQueued : ∀ k ∈ s.lockmap, k ∈ s.queuedLog
  wants : ∀ t k, wantsResult (s.th t).pc = some k → k ∈ s.queuedLog
  holds : ∀ t k, holding (s.th t).pc = some k → k ∈ execIds s
  relc : ∀ ctx id, s.spc = SPc.runRelC ctx id → id ∈ execIds s

theorem inv_init (progs : Tid → List Op) : Inv (init progs) := by
  constructor <;> simp [init, execIds, inflight, pendingId, holding, wantsResult]

theorem checkPause_spc (s : State) :
    (checkPause s).spc = SPc.relQ2 ∨ (checkPause s).spc = SPc.acqP := by
  unfold checkPause; split <;> simp

/-- `Inv.res` and `Inv.resNodup` as a statement about the three lists they read, so that the solver's
append (`exec`) and the move by `get_result` (`deliver`) are lemmas about lists, not states. -/
def ResOk (res del : List (Nat × Val)) (log : List (Nat × Nat × Val)) : Prop :=
  (∀ k v, ((k, v) ∈ res ∨ (k, v) ∈ del) → ∃ n, (k, n, v) ∈ log) ∧
  (res.map (·.1) ++ del.map (·.1)).Nodup

theorem Inv.resOk {s : State} (h : Inv s) : ResOk s.results s.delivered s.execLog :=
  ⟨h.res, h.resNodup⟩

theorem lookupVal_mem {l : List (Nat × Val)} {k : Nat} {v : Val} (h : lookupVal l k = some v) :
    (k, v) ∈ l := by
  simp only [lookupVal, Option.map_eq_some_iff] at h
  obtain ⟨⟨a, b⟩, hf, rfl⟩ := h
  have hk := List.find?_some hf
  simp only [decide_eq_true_eq] at hk
  exact hk ▸ List.mem_of_find?_eq_some hf

namespace ResOk
variable {res del : List (Nat × Val)} {log : List (Nat × Nat × Val)}

theorem ran (h : ResOk res del log) {k : Nat} (hk : k ∈ res.map (·.1) ++ del.map (·.1)) :
    k ∈ log.map (·.1) := by
  rw [← List.map_append] at hk
  obtain ⟨⟨k, v⟩, hkv, rfl⟩ := List.mem_map.mp hk
  obtain ⟨n, hn⟩ := h.1 k v (List.mem_append.mp hkv)
  exact List.mem_map.mpr ⟨_, hn, rfl⟩

theorem exec (h : ResOk res del log) {id n : Nat} {v : Val} (hid : id ∉ log.map (·.1)) :
    ResOk (res ++ [(id, v)]) del (log ++ [(id, n, v)]) := by
  refine ⟨fun k w hkw => ?_, ?_⟩
  · simp only [List.mem_append, List.mem_singleton, Prod.mk.injEq] at hkw ⊢
    rcases hkw with (hkw | ⟨rfl, rfl⟩) | hkw
    · obtain ⟨m, hm⟩ := h.1 k w (Or.inl hkw); exact ⟨m, Or.inl hm⟩
    · exact ⟨n, Or.inr ⟨rfl, rfl, rfl⟩⟩
    · obtain ⟨m, hm⟩ := h.1 k w (Or.inr hkw); exact ⟨m, Or.inl hm⟩
  · simp only [List.map_append, List.map_cons, List.map_nil, List.append_assoc,
      List.singleton_append]
    exact List.perm_middle.nodup_iff.mpr (List.nodup_cons.mpr ⟨fun hm => hid (h.ran hm), h.2⟩)

theorem deliver (h : ResOk res del log) {k : Nat} {v : Val} (hv : lookupVal res k = some v) :
    ResOk (res.filter (fun e => e.1 ≠ k)) (del ++ [(k, v)]) log := by
  have hmem := lookupVal_mem hv
  refine ⟨fun k' v' hkv => ?_, ?_⟩
  · simp only [List.mem_filter, List.mem_append, List.mem_singleton, Prod.mk.injEq] at hkv
    rcases hkv with ⟨hkv, -⟩ | hkv | ⟨rfl, rfl⟩
    · exact h.1 k' v' (Or.inl hkv)
    · exact h.1 k' v' (Or.inr hkv)
    · exact h.1 _ _ (Or.inl hmem)
  · -- `k` goes to the front; the rest is a sublist of the old list, where `k` stood once, in `res`
    simp only [List.map_append, List.map_cons, List.map_nil, ← List.append_assoc]
    refine (List.perm_append_singleton _ _).nodup_iff.mpr (List.nodup_cons.mpr
      ⟨fun hm => ?_, h.2.sublist (((List.filter_sublist).map _).append_right _)⟩)
    rcases List.mem_append.mp hm with hm | hm
    · obtain ⟨e, he, hk⟩ := List.mem_map.mp hm
      simpa [hk] using (List.mem_filter.mp he).2
    · exact (List.nodup_append.mp h.2).2.2 k (List.mem_map.mpr ⟨(k, v), hmem, rfl⟩) k hm rfl

end ResOk

/-- what the new program counter of thread `t` owes `Inv` -/
structure PcOk (s s' : State) (t : Tid) (old new : IPc) : Prop where
  pend : ∀ id, pendingId new = some id → pendingId old = some id ∨
    (id < s'.nextId ∧ id ∉ s.queuedLog ∧ ∀ j, j ≠ t → pendingId (s'.th j).pc ≠ some id)
  plocked : ∀ c id, new = IPc.qAcqQ c id → id ∈ s'.cLocked
  wants : ∀ k, wantsResult new = some k → k ∈ s.queuedLog
  holds : ∀ k, holding new = some k → k ∈ execIds s

def Quiet (pc : IPc) : Prop := pendingId pc = none ∧ holding pc = none ∧ wantsResult pc = none

theorem PcOk.of_quiet {s s' : State} {t : Tid} {old new : IPc} (q : Quiet new) :
    PcOk s s' t old new := by
  obtain ⟨q1, q2, q3⟩ := q
  constructor
  · intro id h; rw [q1] at h; cases h
  · intro c id h; subst h; cases q1
  · intro k h; rw [q3] at h; cases h
  · intro k h; rw [q2] at h; cases h

theorem execIds_sub_queued {s : State} (h : Inv s) {k : Nat} (hk : k ∈ execIds s) :
    k ∈ s.queuedLog := by
  rw [h.fifo]; simp [hk]

/-- every change that leaves `queuedLog` alone; the one step that appends to it is `Inv.enqueue` -/
theorem Inv.congr {s s' : State} (h : Inv s)
    (e1 : s'.queuedLog = s.queuedLog) (hx : ∀ k ∈ execIds s, k ∈ execIds s')
    (e3 : execIds s' ++ inflight s' ++ s'.queue = execIds s ++ inflight s ++ s.queue)
    (e4 : s.nextId ≤ s'.nextId)
    (e5 : ∀ j, (s'.th j).pc = (s.th j).pc ∨ PcOk s s' j (s.th j).pc (s'.th j).pc)
    (hr : ResOk s'.results s'.delivered s'.execLog)
    (e8 : ∀ k ∈ s.cLocked, k ∈ s'.cLocked ∨ k ∈ execIds s)
    (e9 : ∀ k ∈ s'.lockmap, k ∈ s.lockmap)
    (e10 : ∀ ctx id, s'.spc = SPc.runRelC ctx id → id ∈ execIds s') : Inv s' := by
  have hp : ∀ j id, pendingId (s'.th j).pc = some id → pendingId (s.th j).pc = some id ∨
      (id < s'.nextId ∧ id ∉ s.queuedLog ∧ ∀ j', j' ≠ j → pendingId (s'.th j').pc ≠ some id) := by
    intro j id hj
    rcases e5 j with e | q
    · rw [← e]; exact Or.inl hj
    · exact q.pend id hj
  constructor
  · rw [e1, e3]; exact h.fifo
  · rw [e1]; exact h.nodup
  · rw [e1]; exact fun id hid => Nat.lt_of_lt_of_le (h.bound id hid) e4
  · intro t id ht; rw [e1]
    exact (hp t id ht).elim (fun o => ⟨Nat.lt_of_lt_of_le (h.pend t id o).1 e4, (h.pend t id o).2⟩)
      fun f => ⟨f.1, f.2.1⟩
  · intro t t' id hne ht ht'
    rcases hp t id ht with o | f
    · rcases hp t' id ht' with o' | f'
      · exact h.pendDistinct t t' id hne o o'
      · exact f'.2.2 t hne ht
    · exact f.2.2 t' (Ne.symm hne) ht'
  · exact hr.1
  · exact hr.2
  · intro k hk; rw [e1] at hk
    exact (h.locked k hk).elim (fun hl => (e8 k hl).imp_right (hx k)) fun hl => Or.inr (hx k hl)
  · intro t c id ht
    rcases e5 t with e | q
    · have ht' : (s.th t).pc = IPc.qAcqQ c id := e ▸ ht
      exact (e8 id (h.pendLocked t c id ht')).resolve_right fun hq =>
        (h.pend t id (by rw [ht']; rfl)).2 (execIds_sub_queued h hq)
    · exact q.plocked c id ht
  · intro k hk; rw [e1]; exact h.lockmapQueued k (e9 k hk)
  · intro t k ht; rw [e1]
    rcases e5 t with e | q
    · exact h.wants t k (e ▸ ht)
    · exact q.wants k ht
  · intro t k ht
    rcases e5 t with e | q
    · exact hx k (h.holds t k (e ▸ ht))
    · exact hx k (q.holds k ht)
  · exact e10

theorem IfaceStep.execIds_eq {cfg : Cfg} {s s' : State} {t : Tid} (hs : IfaceStep cfg s t s') :
    execIds s' = execIds s := by
  simp only [execIds, hs.execLog.1]

theorem inflight_facts {s : State} (h : Inv s) {ctx : Ctx} {id : Nat} {c : Cmd}
    (hspc : s.spc = SPc.runAcqRes ctx id c) :
    id ∉ execIds s ∧ id ∉ s.queue := by
  have hnd := h.nodup
  simp only [h.fifo, inflight, hspc, inflightPc_run] at hnd
  refine ⟨fun hm => ?_, fun hm => ?_⟩
  · exact (List.nodup_append.mp (List.nodup_append.mp hnd).1).2.2 id hm id (by simp) rfl
  · exact (List.nodup_append.mp hnd).2.2 id (by simp) id hm rfl

theorem queue_facts {s : State} (h : Inv s) {id : Nat} (hq : id ∈ s.queue) :
    id ∈ s.queuedLog ∧ id ∉ execIds s := by
  have hf := h.fifo
  have hnd := h.nodup
  rw [hf] at hnd
  refine ⟨by rw [hf]; simp [hq], ?_⟩
  intro hm
  exact (List.nodup_append.mp hnd).2.2 id (by simp [hm]) id hq rfl

theorem entry_quiet {pc : IPc} (h : isEntry pc = true) : pendingId pc = none ∧ holding pc = none := by
  cases pc <;> simp [isEntry, pendingId, holding] at h ⊢

theorem firstPc_wants {s : State} {t : Tid} {op : Op} {k : Nat}
    (h : wantsResult (firstPc s t op) = some k) : k ∈ s.lockmap := by
  cases op <;> simp only [firstPc] at h
  case getResult k' => split at h <;> cases h; assumption
  case getMine j => (repeat' split at h) <;> cases h; assumption
  all_goals cases h

theorem Inv.frame {cfg : Cfg} {s D : State} {t : Tid} {old new : IPc} (h : Inv s) (hq : QW s)
    (hpc : (s.th t).pc = old) (he : Edge cfg s t old new D)
    (e1 : D.queuedLog = s.queuedLog) (e3 : D.queue = s.queue) (e4 : s.nextId ≤ D.nextId)
    (hr : ResOk D.results D.delivered D.execLog)
    (e8 : ∀ k ∈ s.cLocked, k ∈ D.cLocked ∨ k ∈ execIds s)
    (e9 : ∀ k ∈ D.lockmap, k ∈ s.lockmap)
    (hok : PcOk s (setPc D t new) t old new) : Inv (setPc D t new) := by
  have hs : IfaceStep cfg s t _ := ⟨hpc, he⟩
  have hx := hs.execIds_eq
  have e3 : (setPc D t new).queue = s.queue := e3
  refine h.congr e1 (fun _ hk => hx ▸ hk) ?_ e4 (fun j => ?_) hr
    e8 e9 (fun ctx id hc => hx ▸ ?_)
  · simp only [hx, inflight, hs.spc_class inflightPc hq rfl, e3]
  · by_cases hj : j = t
    · subst hj; exact Or.inr (by rw [setPc_th_same, hpc]; exact hok)
    · rcases hs.pc_others hj with e | e
      · exact Or.inl e
      · exact Or.inr (e ▸ PcOk.of_quiet ⟨rfl, rfl, rfl⟩)
  · refine h.relc ctx id ?_
    have := hs.spc_class (fun pc => pc = SPc.runRelC ctx id) hq (by simp)
    exact this ▸ hc

theorem inv_setPc {s : State} (h : Inv s) (t : Tid) (pc : IPc)
    (hq : PcOk s (setPc s t pc) t (s.th t).pc pc) : Inv (setPc s t pc) := by
  refine h.congr rfl (fun _ hk => hk) rfl Nat.le.refl (fun j => ?_) h.resOk
    (fun _ hk => Or.inl hk) (fun _ hk => hk) h.relc
  by_cases hj : j = t
  · right; subst hj; simpa using hq
  · left; rw [setPc_th_other _ _ _ _ hj]

theorem Inv.enqueue {s : State} (h : Inv s) {id : Nat} (c : Cmd) (o : Option Tid)
    (h1 : id < s.nextId) (h2 : id ∉ s.queuedLog) (h3 : id ∈ s.cLocked)
    (h4 : ∀ j, pendingId (s.th j).pc ≠ some id) :
    Inv { s with qOwner := o, lockmap := s.lockmap ++ [id], qdict := s.qdict ++ [(id, c)],
                 queue := s.queue ++ [id], queuedLog := s.queuedLog ++ [id] } := by
  constructor
  · have := h.fifo
    simp only [execIds, inflight] at this ⊢
    rw [this]; simp [List.append_assoc]
  · exact (List.perm_append_singleton _ _).nodup_iff.mpr (List.nodup_cons.mpr ⟨h2, h.nodup⟩)
  · intro k hk
    rcases List.mem_append.mp hk with hk | hk
    · exact h.bound k hk
    · rw [List.mem_singleton.mp hk]; exact h1
  · intro j id' hj
    refine ⟨(h.pend j id' hj).1, fun hm => ?_⟩
    rcases List.mem_append.mp hm with hm | hm
    · exact (h.pend j id' hj).2 hm
    · exact h4 j (List.mem_singleton.mp hm ▸ hj)
  · exact h.pendDistinct
  · exact h.res
  · exact h.resNodup
  · intro k hk
    rcases List.mem_append.mp hk with hk | hk
    · exact h.locked k hk
    · exact Or.inl (List.mem_singleton.mp hk ▸ h3)
  · exact h.pendLocked
  · intro k hk
    exact (List.mem_append.mp hk).elim (fun hk => List.mem_append_left _ (h.lockmapQueued k hk))
      (List.mem_append_right _)
  · intro j k hj; exact List.mem_append_left _ (h.wants j k hj)
  · exact h.holds
  · exact h.relc

theorem unlock_ran {s : State} {k : Nat} (hex : k ∈ execIds s) :
    ∀ k' ∈ s.cLocked, k' ∈ s.cLocked.filter (· ≠ k) ∨ k' ∈ execIds s := by
  intro k' hl
  by_cases hk : k' = k
  · exact Or.inr (hk ▸ hex)
  · exact Or.inl (List.mem_filter.mpr ⟨hl, decide_eq_true hk⟩)

theorem inv_stepIface {cfg : Cfg} {s s' : State} {t : Tid} (h : Inv s) (hq : QW s)
    (hs : IfaceStep cfg s t s') : Inv s' := by
  obtain ⟨hpc, he⟩ := hs
  have frame := h.frame hq hpc he
  cases he with
  | start =>
    obtain ⟨q1, q2⟩ := entry_quiet (firstPc_entry s t ‹Op›)
    exact frame rfl rfl Nat.le.refl h.resOk (fun _ hk => Or.inl hk) (fun _ hk => hk)
      ⟨fun id hid => (by rw [q1] at hid; cases hid), fun c id hc => (by rw [hc] at q1; cases q1),
        fun k hk => h.lockmapQueued k (firstPc_wants hk), fun k hk => (by rw [q2] at hk; cases hk)⟩
  | @qAcqD c =>
    -- the id counter moves on; its old value is carried by `t` alone
    refine frame rfl rfl (Nat.le_succ _) h.resOk (fun _ hk => Or.inl hk) (fun _ hk => hk)
      ⟨fun id hid => Or.inr ?_, nofun, nofun, nofun⟩
    cases hid
    refine ⟨Nat.lt_succ_self _, fun hm => Nat.lt_irrefl _ (h.bound _ hm), fun j hj hp => ?_⟩
    rw [setPc_th_other _ _ _ _ hj] at hp
    exact Nat.lt_irrefl _ (h.pend j _ hp).1
  | qAcqC =>
    exact frame rfl rfl Nat.le.refl h.resOk (fun _ hk => Or.inl (List.mem_append_left _ hk))
      (fun _ hk => hk)
      ⟨fun _ hid => Or.inl hid, fun c id hc => by cases hc; simp [setPc], nofun, nofun⟩
  | qAcqQ | qAcqQ_orig =>
    -- `t` leaves its pending id first; then the id is pending at no thread
    have hp := h.pend t _ (by rw [hpc]; rfl)
    refine (inv_setPc h t _ (PcOk.of_quiet ⟨rfl, rfl, rfl⟩)).enqueue _ _ hp.1 hp.2
      (h.pendLocked t _ _ hpc) fun j hj => ?_
    by_cases hjt : j = t
    · rw [hjt, setPc_th_same] at hj; cases hj
    · rw [setPc_th_other _ _ _ _ hjt] at hj
      exact h.pendDistinct j t _ hjt hj (by rw [hpc]; rfl)
  | rAcqC hnl =>
    -- the per-command lock is free, so the command has run
    refine frame rfl rfl Nat.le.refl h.resOk (fun _ hk => Or.inl (List.mem_append_left _ hk))
      (fun _ hk => hk) ⟨nofun, nofun, nofun, fun k hk => ?_⟩
    cases hk
    exact (h.locked _ (h.wants t _ (by rw [hpc]; rfl))).resolve_left hnl
  | @rAcqRes k v _ hv =>
    refine frame rfl rfl Nat.le.refl (h.resOk.deliver hv) (fun _ hk => Or.inl hk)
      (fun _ hk => (List.mem_filter.mp hk).1) ⟨nofun, nofun, nofun, fun k' hh => ?_⟩
    cases hh; exact h.holds t k (by rw [hpc]; rfl)
  | @rRelC k r =>
    exact frame rfl rfl Nat.le.refl h.resOk (unlock_ran (h.holds t k (by rw [hpc]; rfl)))
      (fun _ hk => hk) (PcOk.of_quiet ⟨rfl, rfl, rfl⟩)
  | _ =>
    -- the task id the thread carries, if any, stays
    exact frame rfl rfl Nat.le.refl h.resOk (fun _ hk => Or.inl hk) (fun _ hk => hk)
      ⟨fun _ hid => Or.inl hid, nofun, nofun, fun k hk => h.holds t k (by rw [hpc]; exact hk)⟩

theorem Next.inflight {cfg : Cfg} {s : State} {k : Entry} {pc : SPc} {q : List Nat}
    (h : Next cfg s k pc q) :
    inflightPc pc ++ q = s.queue ∧ relcId pc = none := by
  induction h with
  | pop hq _ => exact ⟨hq.symm, rfl⟩
  | recheck _ _ _ ih => exact ih
  | _ => exact ⟨rfl, rfl⟩

theorem Inv.sframe {cfg : Cfg} {s s' : State} (h : Inv s) (hs : SolverStep cfg s s')
    (e1 : s'.queuedLog = s.queuedLog) (e2 : s'.execLog = s.execLog) (e4 : s'.nextId = s.nextId)
    (e6 : s'.results = s.results) (e7 : s'.delivered = s.delivered)
    (e8 : ∀ k ∈ s.cLocked, k ∈ s'.cLocked ∨ k ∈ execIds s) (e9 : s'.lockmap = s.lockmap)
    (e0 : inflightPc s.spc = []) (e3 : inflightPc s'.spc ++ s'.queue = s.queue)
    (e10 : relcId s'.spc = none) : Inv s' := by
  have hx : execIds s' = execIds s := by simp only [execIds, e2]
  refine h.congr e1 (fun _ hk => hx ▸ hk)
    (by simp only [hx, inflight, e0, List.append_assoc, e3]; rfl) (Nat.le_of_eq e4.symm) (fun j => ?_)
    (by rw [e6, e7, e2]; exact h.resOk)
    e8 (fun k hk => e9 ▸ hk)
    (fun ctx id hc => by rw [hc] at e10; cases e10)
  rcases hs.th j with e | ⟨_, e⟩
  · exact Or.inl (by rw [e])
  · exact Or.inr (by rw [e]; exact PcOk.of_quiet ⟨rfl, rfl, rfl⟩)

theorem inv_stepSolver {cfg : Cfg} {s s' : State} (h : Inv s) (hs : SolverStep cfg s s') :
    Inv s' := by
  have frame := h.sframe hs
  cases hs with
  | @runAcqRes ctx id c hspc _ =>
    -- the command in flight joins the executed ones, with its result
    exact h.congr rfl (fun k hk => by simp [execIds] at hk ⊢; exact Or.inl hk)
      (by simp [execIds, inflight, hspc]) Nat.le.refl (fun _ => Or.inl rfl)
      (h.resOk.exec (inflight_facts h hspc).1)
      (fun _ hk => Or.inl hk) (fun _ hk => hk) (fun ctx' id' he => by cases he; simp [execIds])
  | @runRelC ctx id hspc =>
    exact frame rfl rfl rfl rfl rfl (unlock_ran (h.relc ctx id hspc)) rfl (by rw [hspc]; rfl) rfl rfl
  | acqQ1 hspc _ ho | runRelRes hspc ho | relP hspc _ ho | reacqQ_orig hspc _ _ ho
  | acqQ2 hspc _ ho | reacqQ hspc _ _ ho =>
    exact frame rfl rfl rfl rfl rfl (fun _ hk => Or.inl hk) rfl (by rw [hspc]; rfl) ho.inflight.1
      ho.inflight.2
  | _ =>
    exact frame rfl rfl rfl rfl rfl (fun _ hk => Or.inl hk) rfl (by rw [‹s.spc = _›]; rfl) rfl rfl

theorem qw_step {cfg : Cfg} {s s' : State} {t : Tid} {evs : List Ev} (h : QW s)
    (hs : step cfg s t = some (s', evs)) : QW s' := by
  unfold step at hs
  split at hs
  · -- only the step into `qlock.wait()` sets `qWaiting`; a blocked solver does not step
    cases stepSolver_cases hs with
    | waitQ => exact fun _ => rfl
    | _ => intro hq; rw [h hq] at *; contradiction
  · rcases (stepIface_cases hs).spc with ⟨e1, e2⟩ | ⟨_, e, _⟩
    · exact fun hq => e1 ▸ h (e2 ▸ hq)
    · exact fun hq => by rw [e] at hq; cases hq

theorem inv_step {cfg : Cfg} {s s' : State} {t : Tid} {evs : List Ev} (h : Inv s) (hq : QW s)
    (hs : step cfg s t = some (s', evs)) : Inv s' := by
  unfold step at hs
  split at hs
  · exact inv_stepSolver h (stepSolver_cases hs)
  · exact inv_stepIface h hq (stepIface_cases hs)

/-- `QW` is carried along because `Inv.frame` needs it, to know that a woken solver was blocked -/
theorem reachable_inv {cfg : Cfg} {progs : Tid → List Op} {s : State}
    (hr : Reachable cfg progs s) : Inv s ∧ QW s := by
  induction hr with
  | init => exact ⟨inv_init progs, by simp [QW, init]⟩
  | step _ hs ih => exact ⟨inv_step ih.1 ih.2 hs, qw_step ih.2 hs⟩

/-- The state after a step is given as reachable too, so that invariants already proved may be used
of it.  The states of the two step cases are implicit arguments: `fun {s s'} hr hr' ih hs => …` names
them. -/
theorem Reachable.induct {cfg : Cfg} {progs : Tid → List Op} {P : State → Prop}
    (h0 : P (Controller.init progs))
    (hS : ∀ {s s'}, Reachable cfg progs s → Reachable cfg progs s' → P s → SolverStep cfg s s' →
      P s')
    (hI : ∀ {s s' t}, Reachable cfg progs s → Reachable cfg progs s' → P s → t ≠ 0 →
      IfaceStep cfg s t s' → P s')
    {s : State} (hr : Reachable cfg progs s) : P s := by
  induction hr with
  | init => exact h0
  | step hr hs ih =>
    have hr' := Reachable.step hr hs
    unfold Controller.step at hs
    split at hs
    · exact hS hr hr' ih (stepSolver_cases hs)
    · exact hI hr hr' ih ‹_› (stepIface_cases hs)

/-- the solver is inside the `while self.pause` loop of `wait_for_cmd` (or dead) -/
def InLoop : SPc → Prop
  | SPc.acqP | SPc.ntaP | SPc.relP | SPc.waitQ | SPc.blocked | SPc.reacqQ | SPc.crashed => True
  | SPc.runAcqRes Ctx.loop _ _ | SPc.runRelC Ctx.loop _ | SPc.runRelRes Ctx.loop => True
  | _ => False

/-- The pause protocol behind `paused_solver_makes_no_progress_until_cont`, for every protocol
variant (without `waitPred` the solver enters nothing in `paused`, which stays empty). -/
structure PInv (s : State) : Prop where
  sub : ∀ t ∈ s.paused, t ∈ s.pause
  loop : s.paused ≠ [] → InLoop s.spc

theorem mem_addSet {l : List Tid} {t x : Tid} : x ∈ addSet l t ↔ x ∈ l ∨ x = t := by
  unfold addSet; split
  · constructor
    · exact Or.inl
    · rintro (h | rfl) <;> assumption
  · simp

theorem mem_unionSet {a b : List Tid} {x : Tid} : x ∈ unionSet a b ↔ x ∈ a ∨ x ∈ b := by
  unfold unionSet
  induction b generalizing a with
  | nil => simp
  | cons y ys ih => simp only [List.foldl_cons, ih, mem_addSet, List.mem_cons, or_assoc]

theorem Next.inLoop {cfg : Cfg} {s : State} {k : Entry} {pc : SPc} {q : List Nat}
    (h : Next cfg s k pc q) (hk : k ≠ .run Ctx.first) (hp : s.pause ≠ []) : InLoop pc := by
  induction h with
  | @pop ctx =>
    cases ctx with
    | first => exact absurd rfl hk
    | loop => trivial
  | first => exact absurd rfl hk
  | recheck _ _ _ ih => exact ih nofun
  | leave h => exact absurd h hp
  | _ => trivial

theorem PInv.frame {s s' : State} (h : PInv s)
    (e : ∀ t ∈ s'.paused, t ∈ s.paused ∧ (t ∈ s.pause → t ∈ s'.pause))
    (hl : InLoop s.spc → s.pause ≠ [] → InLoop s'.spc) : PInv s' := by
  refine ⟨fun t ht => (e t ht).2 (h.sub t (e t ht).1), fun hne => ?_⟩
  obtain ⟨a, ha⟩ := List.exists_mem_of_ne_nil _ hne
  have hp := (e a ha).1
  exact hl (h.loop (List.ne_nil_of_mem hp)) (List.ne_nil_of_mem (h.sub a hp))

theorem pinv_stepSolver {cfg : Cfg} {s s' : State} (h : PInv s) (hs : SolverStep cfg s s') :
    PInv s' := by
  cases hs with
  | acqP =>
    refine ⟨fun t ht => ?_, fun _ => trivial⟩
    simp only at ht
    split at ht
    · exact (mem_unionSet.mp ht).elim (h.sub t) id
    · exact h.sub t ht
  | @runRelRes ctx _ _ hspc ho =>
    cases ctx with
    | first => exact h.frame (fun _ ht => ⟨ht, id⟩) fun hl => by rw [hspc] at hl; exact hl.elim
    | loop => exact h.frame (fun _ ht => ⟨ht, id⟩) fun _ hp => ho.inLoop nofun hp
  | relP _ _ ho | reacqQ_orig _ _ _ ho | acqQ2 _ _ ho | reacqQ _ _ _ ho =>
    exact h.frame (fun _ ht => ⟨ht, id⟩) fun _ hp => ho.inLoop nofun hp
  | @runAcqRes ctx _ _ hspc | @runRelC ctx _ hspc =>
    cases ctx <;> exact h.frame (fun _ ht => ⟨ht, id⟩) fun hl _ => by rw [hspc] at hl; exact hl
  | _ =>
    exact h.frame (fun _ ht => ⟨ht, id⟩) fun hl _ => by
      rw [‹s.spc = _›] at hl; first | exact hl.elim | trivial

theorem IfaceStep.pause {cfg : Cfg} {s s' : State} {t : Tid} (hs : IfaceStep cfg s t s') :
    (s'.pause = s.pause ∧ s'.paused = s.paused) ∨
    (s'.pause = addSet s.pause t ∧ s'.paused = s.paused) ∨
    (s'.pause = s.pause.filter (· ≠ t) ∧ (s.th t).pc = IPc.cAcqP ∧
       s'.paused = s.paused.filter (· ≠ t)) := by
  obtain ⟨hpc, he⟩ := hs
  cases he with
  | pAcqP => exact Or.inr (Or.inl ⟨rfl, rfl⟩)
  | cAcqP => exact Or.inr (Or.inr ⟨rfl, hpc, rfl⟩)
  | _ => exact Or.inl ⟨rfl, rfl⟩

theorem pinv_stepIface {cfg : Cfg} {s s' : State} {t : Tid} (h : PInv s)
    (hqw : QW s) (hs : IfaceStep cfg s t s') : PInv s' := by
  have hloop : InLoop s.spc → s.pause ≠ [] → InLoop s'.spc :=
    fun hl _ => hs.spc_class InLoop hqw rfl ▸ hl
  rcases hs.pause with ⟨e1, e2⟩ | ⟨e1, e2⟩ | ⟨e1, _, e2⟩
  · exact h.frame (fun x hx => ⟨e2 ▸ hx, fun hp => e1 ▸ hp⟩) hloop
  · exact h.frame (fun x hx => ⟨e2 ▸ hx, fun hp => e1 ▸ mem_addSet.mpr (Or.inl hp)⟩) hloop
  · refine h.frame (fun x hx => ?_) hloop
    rw [e2] at hx; rw [e1]
    exact ⟨(List.mem_filter.mp hx).1, fun hp => List.mem_filter.mpr ⟨hp, (List.mem_filter.mp hx).2⟩⟩

theorem reachable_pinv {cfg : Cfg} {progs : Tid → List Op} {s : State}
    (hr : Reachable cfg progs s) : PInv s :=
  hr.induct ⟨by simp [init], by simp [init]⟩ (fun _ _ ih hs => pinv_stepSolver ih hs)
    fun hr _ ih _ hs => pinv_stepIface ih (reachable_inv hr).2 hs

theorem stepIface_execLog {cfg : Cfg} {s s' : State} {t : Tid} {evs : List Ev}
    (hs : stepIface cfg s t = some (s', evs)) :
    s'.execLog = s.execLog ∧ s'.count = s.count :=
  (stepIface_cases hs).execLog

theorem stepSolver_count {cfg : Cfg} {s s' : State} {evs : List Ev}
    (hs : stepSolver cfg s = some (s', evs)) :
    (s.spc ≠ SPc.start → s'.count = s.count) ∧ (∀ t ∈ s.paused, t ∈ s'.paused) := by
  cases stepSolver_cases hs with
  | start hspc => exact ⟨fun hne => absurd hspc hne, fun _ h => h⟩
  | acqP =>
    refine ⟨fun _ => rfl, fun t ht => ?_⟩
    simp only
    split
    · exact mem_unionSet.mpr (Or.inl ht)
    · exact ht
  | _ => exact ⟨fun _ => rfl, fun _ h => h⟩

theorem stepSolver_execLog {cfg : Cfg} {s s' : State} {evs : List Ev}
    (hs : stepSolver cfg s = some (s', evs)) :
    s'.execLog = s.execLog ∨ ∃ ctx id c, s.spc = SPc.runAcqRes ctx id c ∧
      s'.execLog = s.execLog ++ [(id, s.count, cmdVal c s.count)] := by
  cases stepSolver_cases hs with
  | runAcqRes hspc => exact Or.inr ⟨_, _, _, hspc, rfl⟩
  | _ => exact Or.inl rfl

theorem reachable_run {cfg : Cfg} {progs : Tid → List Op} {s : State} (l : List Tid)
    (hr : Reachable cfg progs s) (h : runs cfg s l = true) : Reachable cfg progs (run cfg s l) := by
  induction l generalizing s with
  | nil => exact hr
  | cons t ts ih =>
    unfold runs at h; unfold run
    split at h
    · rename_i s1 evs hstep
      exact ih (Reachable.step hr hstep) h
    · cases h

end PysphVerif.Controller
