import Mathlib.Algebra.Order.Field.Basic
import PysphVerif.Lemmas.OrderChain
import PysphVerif.Lemmas.MinMax
set_option linter.unusedSectionVars false
/-!
Helper lemmas for C19.  `IsExtMin e l` says that `e` is the minimum of the list
`l` in the extended numbers; Python's `min` of two such minima is the minimum of
the concatenation (`IsExtMin.append`), so every running minimum of the model
(`hMinimum`, the explicit `dt_adapt` scan, the reduction over ranks) is the
minimum of all values scanned (`foldl_isExtMin`), and two of them over the same
values agree (`IsExtMin.unique`).
-/
namespace PysphVerif.AdaptDt
open scoped PysphVerif.OrderChain
variable {α : Type} [Field α] [LinearOrder α] [IsStrictOrderedRing α]

theorem extLt_some_some (a b : α) : extLt (some a) (some b) = decide (a < b) := rfl
theorem extLt_some_none (a : α) : extLt (some a) (none : Ext α) = true := rfl
theorem extLt_none (b : Ext α) : extLt (none : Ext α) b = false := by cases b <;> rfl

def IsExtMin (e : Ext α) (l : List α) : Prop :=
  match e with
  | none => l = []
  | some m => m ∈ l ∧ ∀ x ∈ l, m ≤ x

theorem isExtMin_nil : IsExtMin (none : Ext α) [] := rfl

theorem extMin_none_right (e : Ext α) : extMin e none = e := by
  simp [extMin, extLt_none]

theorem isExtMin_singleton (a : α) : IsExtMin (some a) [a] :=
  ⟨List.mem_singleton.mpr rfl, fun _ hx => (List.mem_singleton.mp hx).ge⟩

theorem isExtMin_ite (c : Prop) [Decidable c] (a : α) :
    IsExtMin (if c then some a else none) (if c then [a] else []) := by
  split
  · exact isExtMin_singleton a
  · rfl

theorem isExtMin_npMin (l : List α) : IsExtMin (npMin l) l := by
  cases l with
  | nil => rfl
  | cons a as => exact npMin_spec rfl

theorem IsExtMin.append {a b : Ext α} {la lb : List α} (ha : IsExtMin a la) (hb : IsExtMin b lb) :
    IsExtMin (extMin a b) (la ++ lb) := by
  cases b with
  | none => rw [extMin_none_right, show lb = [] from hb, List.append_nil]; exact ha
  | some m =>
    cases a with
    | none => rw [show la = [] from ha]; exact hb
    | some x =>
      obtain ⟨hx, hxle⟩ := ha
      obtain ⟨hm, hmle⟩ := hb
      unfold extMin
      rw [extLt_some_some]
      by_cases hlt : m < x
      · rw [decide_eq_true hlt, if_pos rfl]
        exact ⟨List.mem_append_right _ hm, fun y hy => (List.mem_append.mp hy).elim
          (fun h => hlt.le.trans (hxle y h)) (hmle y)⟩
      · rw [decide_eq_false hlt, if_neg Bool.false_ne_true]
        exact ⟨List.mem_append_left _ hx, fun y hy => (List.mem_append.mp hy).elim
          (hxle y) (fun h => (not_lt.mp hlt).trans (hmle y h))⟩

theorem foldl_isExtMin {β : Type} {step : Ext α → β → Ext α} {vals : β → List α} (bs : List β)
    (hstep : ∀ b ∈ bs, ∀ acc l, IsExtMin acc l → IsExtMin (step acc b) (l ++ vals b))
    {acc : Ext α} {l : List α} (h : IsExtMin acc l) :
    IsExtMin (bs.foldl step acc) (l ++ bs.flatMap vals) := by
  induction bs generalizing acc l with
  | nil => rwa [List.flatMap_nil, List.append_nil]
  | cons b bs ih =>
    rw [List.foldl_cons, List.flatMap_cons, ← List.append_assoc]
    exact ih (fun b' hb' => hstep b' (List.mem_cons_of_mem _ hb'))
      (hstep b List.mem_cons_self _ _ h)

theorem IsExtMin.antitone {h : α} {e' : Ext α} {l l' : List α} (he : IsExtMin (some h) l)
    (he' : IsExtMin e' l') (hsub : ∀ x ∈ l, x ∈ l') : ∃ h', e' = some h' ∧ h' ≤ h := by
  cases e' with
  | none => exact absurd ((show l' = [] from he') ▸ hsub h he.1) List.not_mem_nil
  | some m' => exact ⟨m', rfl, he'.2 h (hsub h he.1)⟩

theorem IsExtMin.unique {e e' : Ext α} {l l' : List α}
    (he : IsExtMin e l) (he' : IsExtMin e' l') (h : ∀ x, x ∈ l ↔ x ∈ l') : e = e' := by
  cases e with
  | none =>
    cases e' with
    | none => rfl
    | some m' =>
      obtain ⟨_, h2, _⟩ := he'.antitone he fun x => (h x).mpr
      cases h2
  | some m =>
    obtain ⟨m', rfl, h1⟩ := he.antitone he' fun x => (h x).mp
    obtain ⟨_, h2, h3⟩ := he'.antitone he fun x => (h x).mpr
    cases h2
    exact congrArg some (le_antisymm h3 h1)

theorem carrayMin_spec {l : List α} (h : l ≠ []) :
    carrayMin l ∈ l ∧ ∀ x ∈ l, carrayMin l ≤ x := by
  cases l with
  | nil => exact absurd rfl h
  | cons a as => exact npMin_spec (l := a :: as) rfl

def allH (arrs : List (Arr α)) : List α := arrs.flatMap (fun pa => pa.hAll)

def WF (arrs : List (Arr α)) : Prop := ∀ pa ∈ arrs, pa.hAll.length = pa.nAll

theorem hminStep_eq (acc : Ext α) {pa : Arr α} (hlen : pa.hAll.length = pa.nAll) :
    hminStep acc pa = extMin acc (npMin pa.hAll) := by
  unfold hminStep
  cases hh : pa.hAll with
  | nil =>
    rw [hh] at hlen
    rw [if_pos (show pa.nAll = 0 from hlen.symm), npMin, extMin_none_right]
  | cons a as =>
    rw [hh] at hlen
    rw [if_neg (show ¬ pa.nAll = 0 from hlen ▸ Nat.succ_ne_zero _)]
    rfl

theorem hMinimum_isExtMin (arrs : List (Arr α)) (hwf : WF arrs) :
    IsExtMin (hMinimum arrs) (allH arrs) :=
  foldl_isExtMin (l := []) arrs
    (fun pa hpa acc _ h => by rw [hminStep_eq acc (hwf pa hpa)]; exact h.append (isExtMin_npMin _))
    isExtMin_nil

def critVals (sel : Arr α → Option (List α)) (arrs : List (Arr α)) : List α :=
  arrs.flatMap (fun pa => match sel pa with | some v => v | none => [])

def adaptMin (pa : Arr α) : Ext α :=
  match pa.dtAdapt with
  | none => none
  | some vals => npMin vals

theorem isExtMin_adaptMin (pa : Arr α) :
    IsExtMin (adaptMin pa) (match pa.dtAdapt with | some v => v | none => []) := by
  unfold adaptMin
  cases pa.dtAdapt with
  | none => rfl
  | some vals => exact isExtMin_npMin vals

/-- one step of the scan never raises: the guard `n_real > 0` keeps `np.min` off empty slices -/
theorem explicitStep_some (e : Ext α) (pa : Arr α) :
    explicitStep (some e) pa = some (extMin e (adaptMin pa)) := by
  unfold explicitStep adaptMin
  cases pa.dtAdapt with
  | none => exact congrArg some (extMin_none_right e).symm
  | some vals => cases vals <;> rfl

theorem explicit_scan (arrs : List (Arr α)) :
    ∃ e, arrs.foldl explicitStep (some none) = some e ∧ IsExtMin e (critVals Arr.dtAdapt arrs) :=
  ⟨_, List.foldl_hom some (g₁ := fun acc pa => extMin acc (adaptMin pa)) explicitStep_some,
    foldl_isExtMin (l := []) arrs (fun pa _ _ _ h => h.append (isExtMin_adaptMin pa)) isExtMin_nil⟩

/-- what `_get_explicit_dt_adapt` makes of the minimum `e` of the scan -/
def explicitRes : Ext α → Res α
  | none => Res.inf
  | some d => if 0 < d then Res.val d else Res.none

theorem explicitDtAdaptWith_true (arrs : List (Arr α)) :
    ∃ e, IsExtMin e (critVals Arr.dtAdapt arrs) ∧ explicitDtAdaptWith true arrs = explicitRes e := by
  obtain ⟨e, hf, he⟩ := explicit_scan arrs
  refine ⟨e, he, ?_⟩
  unfold explicitDtAdaptWith
  rw [if_pos rfl, hf]
  cases e <;> rfl

theorem explicitDtAdaptWith_perm (flag : Bool) {arrs arrs' : List (Arr α)}
    (hp : (critVals Arr.dtAdapt arrs).Perm (critVals Arr.dtAdapt arrs')) :
    explicitDtAdaptWith flag arrs = explicitDtAdaptWith flag arrs' := by
  cases flag with
  | false => rfl
  | true =>
    obtain ⟨e, he, hr⟩ := explicitDtAdaptWith_true arrs
    obtain ⟨e', he', hr'⟩ := explicitDtAdaptWith_true arrs'
    rw [hr, hr', he.unique he' fun _ => hp.mem_iff]

theorem reduceMin_isExtMin {x : Ext α} {l : List α} (h : IsExtMin x l) (others : List α) :
    IsExtMin (reduceMin x others) (l ++ others) := by
  have := foldl_isExtMin (vals := fun o => [o]) others
    (fun o _ _ _ h => h.append (isExtMin_singleton o)) h
  rwa [List.flatMap_singleton'] at this

theorem cts_state (sqrt : α → α) (s : IState α) (arrs : List (Arr α)) (cfl : α) :
    (s.cts sqrt arrs cfl).1.flag = some (s.flag.getD (hasDtAdapt arrs)) ∧
    (s.cts sqrt arrs cfl).1.fixedH = s.fixedH ∧
    (s.fixedH = true → (s.cts sqrt arrs cfl).1.hMin = s.hMin) := by
  simp only [IState.cts]
  cases explicitDtAdaptWith (s.flag.getD (hasDtAdapt arrs)) arrs with
  | none =>
    cases hfx : s.fixedH with
    | false => exact ⟨rfl, rfl, nofun⟩
    | true => cases hm : s.hMin <;> exact ⟨rfl, rfl, fun _ => rfl⟩
  | _ => exact ⟨rfl, rfl, fun _ => rfl⟩

theorem flagStep_cts (acc : Option Bool) (arrs : List (Arr α)) (cfl : α) :
    flagStep acc (IOp.cts arrs cfl) = some (acc.getD (hasDtAdapt arrs)) := by
  cases acc <;> rfl

/-! ### `_get_dt_adapt_factors`

A factor is Python's `max` over `-1` and all values of the criterion: `_my_max`
of an empty array is `-1`, which a running maximum that started at `-1` ignores. -/

theorem factorStep_eq (sel : Arr α → Option (List α)) (pa : Arr α) {f : α} (hf : -1 ≤ f) :
    factorStep sel f pa = (match sel pa with | some v => v | none => []).foldl pymax f := by
  unfold factorStep
  cases sel pa with
  | none => rfl
  | some vals =>
    cases vals with
    | nil => exact if_neg (not_lt.mpr hf)
    | cons a as =>
      show pymax f (as.foldl pymax a) = as.foldl pymax (pymax f a)
      rw [show (pymax : α → α → α) = max from funext₂ pymax_eq_max]
      exact List.foldl_assoc.symm

theorem factor_eq_foldl (sel : Arr α → Option (List α)) (arrs : List (Arr α)) {f : α}
    (hf : -1 ≤ f) : arrs.foldl (factorStep sel) f = (critVals sel arrs).foldl pymax f := by
  induction arrs generalizing f with
  | nil => rfl
  | cons pa rest ih =>
    simp only [critVals, List.flatMap_cons, List.foldl_append, List.foldl_cons,
      factorStep_eq sel pa hf]
    exact ih (hf.trans ((foldl_pymax_spec _ f).2 f List.mem_cons_self))

theorem factor_spec (sel : Arr α → Option (List α)) (arrs : List (Arr α)) :
    (∀ x ∈ critVals sel arrs, x ≤ arrs.foldl (factorStep sel) (-1)) ∧
    (arrs.foldl (factorStep sel) (-1) = -1 ∨
      arrs.foldl (factorStep sel) (-1) ∈ critVals sel arrs) := by
  rw [factor_eq_foldl sel arrs le_rfl]
  obtain ⟨hm, hd⟩ := foldl_pymax_spec (critVals sel arrs) (-1)
  exact ⟨fun x hx => hd x (List.mem_cons_of_mem _ hx), List.mem_cons.mp hm⟩

theorem factor_multiset_only (sel : Arr α → Option (List α)) (arrs arrs' : List (Arr α))
    (hp : (critVals sel arrs).Perm (critVals sel arrs')) :
    arrs.foldl (factorStep sel) (-1) = arrs'.foldl (factorStep sel) (-1) := by
  rw [factor_eq_foldl sel arrs le_rfl, factor_eq_foldl sel arrs' le_rfl]
  -- each maximum occurs among `-1` and the other list's values, so is at most the other
  have key : ∀ {l l' : List α}, l.Perm l' → l.foldl pymax (-1) ≤ l'.foldl pymax (-1) :=
    fun {l l'} hp => (foldl_pymax_spec l' (-1)).2 _
      ((hp.cons (-1)).mem_iff.mp (foldl_pymax_spec l (-1)).1)
  exact le_antisymm (key hp) (key hp.symm)

end PysphVerif.AdaptDt
