import PysphVerif.Lemmas.PArrayRecords
/-!
Refinement of the operations that act on rows: the record-list function each refines, up to a
permutation of the records where `align_particles` or the swap-removal of cyarray reorder
them.  An operation called with `align=b` is handled once without alignment; `absPA_alignIf`
then says the final `align_particles()` only reorders.  For the operations that can raise,
`…_isSome` says that on the arguments `validOp` and `goodOp` admit they do not.
-/
namespace PysphVerif.PArray

theorem defaultParticle_align (pa : PA) : defaultParticle pa.align = defaultParticle pa := by
  rw [align_eq]
  split
  · unfold defaultParticle PA.mapRows
    rw [List.map_map]; rfl
  · rfl

theorem absPA_align {pa : PA} (h : Inv pa) : (absPA pa.align).equiv (absPA pa) :=
  absPA_equiv_of (defaultParticle_align pa) (align_particles_perm h)

theorem align_refines {pa : PA} (h : Inv pa) : (absPA pa.align).equiv (specAlign (absPA pa)) :=
  RA.equiv_trans (absPA_align h) (RA.equiv_symm (specAlign_equiv _))

theorem absPA_alignIf {pa : PA} (h : Inv pa) (b : Bool) :
    (absPA (pa.alignIf b)).equiv (absPA pa) := by
  unfold PA.alignIf
  split
  · exact absPA_align h
  · exact RA.equiv_refl _

theorem eraseIdxs_perm {β : Type} (idx : List Nat) (l : List β) (hnd : idx.Nodup)
    (hin : ∀ i ∈ idx, i < l.length) :
    (removeRows (sortNat idx) l).Perm (eraseIdxs idx l) := by
  have h1 := removeRows_sortNat_perm idx l hnd hin
  have hS : (sortNat idx).Perm ((List.range l.length).filter (fun i => idx.contains i)) := by
    refine (sortNat_perm idx).trans ?_
    rw [List.perm_ext_iff_of_nodup hnd (List.nodup_range.filter _)]
    intro i
    simp only [List.mem_filter, List.mem_range, List.contains_eq_mem, decide_eq_true_eq]
    exact ⟨fun hi => ⟨hin i hi, hi⟩, fun hi => hi.2⟩
  have h2 : (eraseIdxs idx l ++ gather (sortNat idx) l).Perm l := by
    unfold eraseIdxs
    rw [← gather_append]
    apply gather_perm
    refine (List.Perm.append_left _ hS).trans ?_
    refine List.perm_append_comm.trans ?_
    have := List.filter_append_perm (fun i => idx.contains i) (List.range l.length)
    simpa using this
  exact (List.perm_append_right_iff _).mp (h1.trans h2.symm)

theorem removeParticles_equiv {pa pa' : PA} (h : Inv pa) (idx : List Nat) (al : Bool)
    (hr : pa.removeParticles idx al = some pa') (recs : List Rec)
    (hp : ∀ q, pa.removeParticles idx false = some q → (particles q).Perm recs) :
    (absPA pa').equiv ⟨(absPA pa).dflt, recs⟩ := by
  obtain ⟨h0, rfl⟩ := removeParticles_cases pa idx al pa' hr
  have H := mapRows_colwise h _ _ (removeRows_rows (sortNat idx) pa.n)
  exact RA.equiv_trans (absPA_alignIf H.inv _) ⟨H.dflt, hp _ h0⟩

theorem removeParticles_refines {pa pa' : PA} (h : Inv pa) (idx : List Nat) (al : Bool)
    (hnd : idx.Nodup) (hin : ∀ i ∈ idx, i < pa.n)
    (hr : pa.removeParticles idx al = some pa') :
    (absPA pa').equiv (specRemove idx (absPA pa)) :=
  removeParticles_equiv h idx al hr _ (fun q hq => by
    rw [removeParticles_noalign pa idx q hq, mapRows_removeRows_particles h]
    exact eraseIdxs_perm idx _ hnd (by rw [particles_length]; exact hin))

theorem removeParticles_isSome (pa : PA) (idx : List Nat) (al : Bool) (hnd : idx.Nodup)
    (hin : ∀ i ∈ idx, i < pa.n) : ∃ pa', pa.removeParticles idx al = some pa' := by
  -- distinct indices below `n`: there are at most `n` of them
  have hle := (List.subperm_of_subset hnd (fun i hi => List.mem_range.mpr (hin i hi))).length_le
  rw [List.length_range] at hle
  unfold PA.removeParticles
  rw [if_neg (by omega)]
  exact ⟨_, rfl⟩

theorem removeTagged_refines {pa pa' : PA} (h : Inv pa) (t : Int) (al : Bool)
    (hr : pa.removeTagged t al = some pa') :
    (absPA pa').equiv (specRemoveTagged t (absPA pa)) := by
  rw [removeTagged_eq] at hr
  exact removeParticles_equiv h _ al hr _
    (fun q hq => removeTagged_particles' h t ((removeTagged_eq pa t false).trans hq))

theorem removeTagged_isSome {pa : PA} (h : Inv pa) (t : Int) (al : Bool) :
    ∃ pa', pa.removeTagged t al = some pa' := by
  rw [removeTagged_eq, h.tags_length]
  apply removeParticles_isSome
  · exact (List.filter_sublist).nodup List.nodup_range
  · intro i hi
    exact List.mem_range.mp (List.mem_filter.mp hi).1

theorem extend_refines {pa : PA} (h : Inv pa) (k : Nat) :
    absPA (pa.extend k) = specExtend k (absPA pa) :=
  (extend_colwise h k).abs

theorem addParticles_refines {pa pa' : PA} (h : Inv pa) (al : Bool)
    (given : List (String × List Int))
    (hv : ∀ ln ld, given.getLast? = some (ln, ld) →
      ∀ g ∈ given, g.2.length = (ld.length / pa.strideOf ln) * pa.strideOf g.1)
    (hln : ∀ g ∈ given, g.1 ∈ pa.props.map Col.name)
    (hr : pa.addParticles al given = some pa') :
    (absPA pa').equiv (specAddParticles given (absPA pa)) := by
  rcases addParticles_some hr with ⟨hlast, rfl⟩ | ⟨ln, ld, hlast, rfl⟩
  · unfold specAddParticles specNewRecs
    rw [hlast, List.append_nil]
    exact RA.equiv_refl _
  obtain ⟨hi1, _, hp, hdp⟩ := addedPA_colwise h given _ (hv ln ld hlast)
  refine RA.equiv_trans (absPA_alignIf hi1 _) (RA.equiv_of_eq ?_)
  unfold absPA specAddParticles specNewRecs
  rw [hdp, hp, hlast]
  simp only []
  rw [lookupD_defaultParticle ln (hln _ (List.mem_of_getLast? hlast)), defaultRow_length]
  congr 2
  apply List.map_congr_left
  intro j hj
  have hj : j < ld.length / pa.strideOf ln := by simpa using hj
  unfold newParticle defaultParticle newRows
  rw [List.map_map]
  apply List.map_congr_left
  intro c _
  simp only [Function.comp]
  cases hf : given.find? (fun (g : String × List Int) => g.1 == c.name) with
  | some g => simp only [defaultRow_length]
  | none =>
    simp only []
    rw [List.getD_eq_getElem?_getD, List.getElem?_replicate, if_pos hj]; rfl

theorem cloneNames_abs (pa : PA) (props : Option (List String)) :
    specNames props (absPA pa) = cloneNames pa props := by
  unfold cloneNames specNames
  cases props with
  | none => exact absPA_dflt_keys pa
  | some ps => rfl

theorem extractInto_refines {pa dest pa' : PA} (h : Inv pa) (hd : Inv dest) (idx : List Nat)
    (al : Bool) (props : Option (List String))
    (hss : ∀ nm ∈ cloneNames pa props, pa.strideOf nm = dest.strideOf nm)
    (hin : ∀ i ∈ idx, i < pa.n)
    (hr : pa.extractInto idx dest al props = some pa') :
    (absPA pa').equiv (specExtractInto (specNames props (absPA pa)) idx (absPA pa) (absPA dest)) := by
  rw [cloneNames_abs]
  rcases extractInto_some hr with ⟨rfl, rfl⟩ | ⟨hall, hne, rfl⟩
  · exact RA.equiv_of_eq (by unfold specExtractInto; simp)
  have H := extractedPA_holds h hd _ idx hss hin hall hne
  refine RA.equiv_trans (absPA_alignIf H.inv _) (RA.equiv_of_eq ?_)
  rw [H.abs]
  rfl

theorem addParticles_isSome (pa : PA) (al : Bool) (given : List (String × List Int))
    (hln : ∀ g ∈ given, g.1 ∈ pa.props.map Col.name) : ∃ pa', pa.addParticles al given = some pa' := by
  unfold PA.addParticles
  split
  · exact ⟨_, rfl⟩
  · have : given.all (fun g => pa.hasProp g.1 || pa.consts.any (fun c => c.1 == g.1)) = true :=
      List.all_eq_true.mpr (fun g hg => by rw [(hasProp_iff pa g.1).mpr (hln g hg)]; rfl)
    simp only [this]
    exact ⟨_, rfl⟩

theorem extractInto_isSome (pa dest : PA) (idx : List Nat) (al : Bool)
    (props : Option (List String))
    (hok : ∀ nm ∈ cloneNames pa props, pa.hasProp nm = true ∧ dest.hasProp nm = true) :
    ∃ pa', pa.extractInto idx dest al props = some pa' := by
  rw [extractInto_eq]
  split
  · exact ⟨_, rfl⟩
  · have : (cloneNames pa props).all (fun nm => pa.hasProp nm && dest.hasProp nm) = true :=
      List.all_eq_true.mpr (fun nm hnm => by simp [(hok nm hnm).1, (hok nm hnm).2])
    simp only [this]
    exact ⟨_, rfl⟩

theorem resize_refines {pa : PA} (h : Inv pa) (m : Nat) :
    absPA (pa.resize m) = specResize m (absPA pa) := by
  rw [(resize_colwise h m).abs]
  unfold specResize
  rw [show (absPA pa).recs.length = pa.n from particles_length pa]
  rfl

end PysphVerif.PArray
