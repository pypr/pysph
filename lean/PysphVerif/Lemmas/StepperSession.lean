import PysphVerif.Model.StepperSession
/-
C04 — helper lemmas for the session model (the cache of built extension modules).
-/
namespace PysphVerif.StepperSession

variable {κ ρ : Type} [DecidableEq κ]

theorem lookupBuilt_mem {k : κ} {built : Built κ ρ} {m : GenText ρ}
    (h : lookupBuilt k built = some m) : (k, m) ∈ built := by
  induction built with
  | nil => simp [lookupBuilt] at h
  | cons p rest ih =>
    obtain ⟨k', m'⟩ := p
    unfold lookupBuilt at h
    by_cases hk : k' = k
    · rw [if_pos hk] at h
      cases h
      subst hk
      exact List.mem_cons_self
    · rw [if_neg hk] at h
      exact List.mem_cons_of_mem _ (ih h)

theorem loadModule_fst (digest : GenText ρ → κ)
    (hinj : ∀ a b, digest a = digest b → a = b) (built : Built κ ρ)
    (hb : Consistent digest built) (txt : GenText ρ) :
    (loadModule digest built txt).1 = txt := by
  unfold loadModule
  cases h : lookupBuilt (digest txt) built with
  | none => rfl
  | some m =>
    have hm := hb _ (lookupBuilt_mem h)
    exact (hinj _ _ hm).symm

theorem loadModule_consistent (digest : GenText ρ → κ) (built : Built κ ρ)
    (hb : Consistent digest built) (txt : GenText ρ) :
    Consistent digest (loadModule digest built txt).2 := by
  unfold loadModule
  cases h : lookupBuilt (digest txt) built with
  | none =>
    intro p hp
    rcases List.mem_cons.mp hp with rfl | hp
    · rfl
    · exact hb p hp
  | some m => exact hb

end PysphVerif.StepperSession
