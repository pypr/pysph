import PysphVerif.Model.Needs
import PysphVerif.Lemmas.CodegenClosure
/-!
Helper lemmas for C20 (`Model/Needs.lean`).  `Reach` specifies "precomputed symbol reachable from the
loop arguments", and the `while not done` loop of `Group._setup_precomputed` computes exactly that set
(`mem_closure_iff`); the loop is the one C02 models (`closure_eq`), so that it terminates within its
fuel and returns the least closed set is `Lemmas/CodegenClosure.lean`'s.
`check_equation_array_properties` and the stepper checks have normal forms from which every verdict
is read off (`Checked`, `MChecked`, `SChecked`).
-/
namespace PysphVerif.Needs

inductive Reach (t : Table) (args : List Name) : Name → Prop where
  | base {s : Name} : s ∈ args → s ≠ "self" → t.has s = true → Reach t args s
  | step {s s' : Name} : Reach t args s → s' ∈ t.syms s → t.has s' = true → Reach t args s'

theorem Reach.mono {t : Table} {a b : List Name} (h : ∀ x ∈ a, x ∈ b) {s : Name}
    (hr : Reach t a s) : Reach t b s := by
  induction hr with
  | base h1 h2 h3 => exact Reach.base (h _ h1) h2 h3
  | step _ h2 h3 ih => exact Reach.step ih h2 h3

theorem reach_flatMap {α : Type} (t : Table) (f : α → List Name) (l : List α) (s : Name) :
    Reach t (l.flatMap f) s ↔ ∃ e ∈ l, Reach t (f e) s := by
  constructor
  · intro hr
    induction hr with
    | base h1 h2 h3 =>
      obtain ⟨e, he, hs⟩ := List.mem_flatMap.mp h1
      exact ⟨e, he, Reach.base hs h2 h3⟩
    | step _ h2 h3 ih =>
      obtain ⟨e, he, hr⟩ := ih
      exact ⟨e, he, Reach.step hr h2 h3⟩
  · rintro ⟨e, he, hr⟩
    exact hr.mono (fun x hx => List.mem_flatMap.mpr ⟨e, he, hx⟩)

/-- an invariant of the closure loop of `_setup_precomputed` in this model's terms; unused:
`mem_closure_iff` goes through `Codegen.ClosState`, which has minimality among the closed sets in
place of `sound` -/
structure Inv (t : Table) (args pre found : List Name) : Prop where
  sound : ∀ s ∈ pre, Reach t args s
  sub : ∀ s ∈ found, s ∈ pre
  closed : ∀ s ∈ pre, s ∉ found → ∀ s' ∈ t.syms s, t.has s' = true → s' ∈ pre

theorem syms_eq (t : Table) : t.syms = Codegen.Table.syms t := by
  funext x
  unfold Table.syms Codegen.Table.syms
  cases List.find? (fun e => e.1 == x) t <;> rfl

theorem closureLoop_eq (t : Table) (fuel : Nat) (pre found : List Name) :
    closureLoop t fuel pre found = Codegen.closureLoop t fuel pre found := by
  induction fuel generalizing pre found with
  | zero => rfl
  | succ n ih =>
    simp only [closureLoop, Codegen.closureLoop, newSyms, Codegen.newSyms, syms_eq, ih]
    rfl

/-- the loop is the one `Model/Codegen.lean` transcribes for the code generator (in pysph both run the one
`Group._setup_precomputed`); only the start differs: this model transcribes its `all_args.discard('self')`,
C02's leaves it out, `self` being no table key -/
theorem closure_eq (t : Table) (args : List Name) :
    closure t args = Codegen.closure t (args.filter (fun s => s != "self")) :=
  closureLoop_eq t _ _ _

/-- `Reach` is the least set closed under "the code block mentions a key", which is what the loop returns -/
theorem mem_closure_iff (t : Table) (args : List Name) (s : Name) :
    s ∈ closure t args ↔ Reach t args s := by
  rw [closure_eq]
  constructor
  · refine Codegen.closure_minimal t _ (Reach t args) (fun x hx d hd hk => hx.step (syms_eq t ▸ hd) hk)
      (fun x hx hk => ?_) s
    obtain ⟨h1, h2⟩ := List.mem_filter.mp hx
    exact Reach.base h1 (bne_iff_ne.mp h2) hk
  · intro hr
    induction hr with
    | base ha hs hk =>
      exact Codegen.closure_contains_args t _ _ (List.mem_filter.mpr ⟨ha, bne_iff_ne.mpr hs⟩) hk
    | step _ hs hk ih => exact Codegen.closure_closed t _ _ ih _ (syms_eq t ▸ hs) hk

theorem mem_preSyms (t : Table) (eqs : List Eqn) (n : Name) :
    n ∈ preSyms t eqs ↔ ∃ e ∈ eqs, ∃ s, Reach t e.loopArgs s ∧ n ∈ t.syms s := by
  simp only [preSyms, List.mem_flatMap, mem_closure_iff, reach_flatMap]
  constructor
  · rintro ⟨s, ⟨e, he, hr⟩, hn⟩
    exact ⟨e, he, s, hr, hn⟩
  · rintro ⟨e, he, s, hr, hn⟩
    exact ⟨s, ⟨e, he, hr⟩, hn⟩

/-- the `d_*` names an equation needs: an argument of one of the five methods, or in the code block
of a reachable precomputed symbol -/
def NeedsDst (t : Table) (e : Eqn) (n : Name) : Prop :=
  isDstArr n = true ∧ (n ∈ e.allArgs ∨ ∃ s, Reach t e.loopArgs s ∧ n ∈ t.syms s)

/-- the same for the `s_*` names, needed of every source -/
def NeedsSrc (t : Table) (e : Eqn) (n : Name) : Prop :=
  isSrcArr n = true ∧ (n ∈ e.allArgs ∨ ∃ s, Reach t e.loopArgs s ∧ n ∈ t.syms s)

theorem mem_groupNames (t : Table) (q : Name → Bool) (eqs : List Eqn) (n : Name) :
    n ∈ (eqs.flatMap Eqn.allArgs).filter q ++ (preSyms t eqs).filter q ↔
      ∃ e ∈ eqs, q n = true ∧ (n ∈ e.allArgs ∨ ∃ s, Reach t e.loopArgs s ∧ n ∈ t.syms s) := by
  simp only [List.mem_append, List.mem_filter, List.mem_flatMap, mem_preSyms]
  constructor
  · rintro (⟨⟨e, he, hn⟩, hd⟩ | ⟨⟨e, he, s, hr, hn⟩, hd⟩)
    · exact ⟨e, he, hd, Or.inl hn⟩
    · exact ⟨e, he, hd, Or.inr ⟨s, hr, hn⟩⟩
  · rintro ⟨e, he, hd, (hn | ⟨s, hr, hn⟩)⟩
    · exact Or.inl ⟨⟨e, he, hn⟩, hd⟩
    · exact Or.inr ⟨⟨e, he, s, hr, hn⟩, hd⟩

theorem mem_groupDstNames (t : Table) (eqs : List Eqn) (n : Name) :
    n ∈ groupDstNames t eqs ↔ ∃ e ∈ eqs, NeedsDst t e n :=
  mem_groupNames t isDstArr eqs n

theorem mem_groupSrcNames (t : Table) (eqs : List Eqn) (n : Name) :
    n ∈ groupSrcNames t eqs ↔ ∃ e ∈ eqs, NeedsSrc t e n :=
  mem_groupNames t isSrcArr eqs n

theorem mem_groupNeeds_dst (t : Table) (e : Eqn) (n : Name) :
    n ∈ (groupNeeds t e).2 ↔ NeedsDst t e n := by
  simp [groupNeeds, mem_groupDstNames]

theorem mem_groupNeeds_src (t : Table) (e : Eqn) (n : Name) :
    n ∈ (groupNeeds t e).1 ↔ NeedsSrc t e n := by
  simp [groupNeeds, mem_groupSrcNames]

theorem mem_destSetup (t : Table) (mine : List Eqn) (n : Name) :
    n ∈ destSetup t mine ↔ ∃ e ∈ mine, e.sources ≠ some [] ∧ NeedsDst t e n := by
  simp only [destSetup, List.mem_append, List.mem_flatMap, mem_groupDstNames, noSource, withSource,
    sourceList, List.mem_filter, List.mem_eraseDups, List.contains_eq_mem, decide_eq_true_eq]
  constructor
  · rintro (⟨e, ⟨he, hs⟩, hn⟩ | ⟨s, _, e, ⟨he, hs⟩, hn⟩)
    · exact ⟨e, he, by cases h : e.sources <;> simp [h] at hs ⊢, hn⟩
    · exact ⟨e, he, fun h => by simp [h] at hs, hn⟩
  · rintro ⟨e, he, hs, hn⟩
    cases h : e.sources with
    | none => exact Or.inl ⟨e, ⟨he, by simp [h]⟩, hn⟩
    | some srcs =>
      cases srcs with
      | nil => exact absurd h hs
      | cons s0 rest =>
        exact Or.inr ⟨s0, ⟨e, he, by simp [h]⟩, e, ⟨he, by simp [h]⟩, hn⟩

theorem mem_srcSetup (t : Table) (mine : List Eqn) (s n : Name) :
    n ∈ srcSetup t mine s ↔ ∃ e ∈ mine, s ∈ e.sources.getD [] ∧ NeedsSrc t e n := by
  simp only [srcSetup, mem_groupSrcNames, withSource, List.mem_filter, List.contains_eq_mem,
    decide_eq_true_eq, and_assoc]

/-- `sources = some []` does not occur: `Equation.__init__` turns an empty list into `None` -/
theorem mem_groupAccesses (t : Table) (eqs : List Eqn) (a p : Name) :
    (a, p) ∈ groupAccesses t eqs ↔
      (∃ e ∈ eqs, e.dest = a ∧ e.sources ≠ some [] ∧ ∃ n, NeedsDst t e n ∧ p = strip n) ∨
      (∃ e ∈ eqs, a ∈ e.sources.getD [] ∧ ∃ n, NeedsSrc t e n ∧ p = strip n) := by
  simp only [groupAccesses, List.mem_flatMap, List.mem_append, List.mem_map, Prod.mk.injEq,
    mem_destSetup, mem_srcSetup, ofDest, destList, sourceList, List.mem_filter, List.mem_eraseDups,
    beq_iff_eq]
  constructor
  · rintro ⟨dest, _, ⟨n, ⟨e, ⟨he, hd⟩, hs, hn⟩, rfl, rfl⟩ | ⟨s, _, n, ⟨e, ⟨he, _⟩, hs, hn⟩, rfl, rfl⟩⟩
    · exact Or.inl ⟨e, he, hd, hs, n, hn, rfl⟩
    · exact Or.inr ⟨e, he, hs, n, hn, rfl⟩
  · rintro (⟨e, he, rfl, hs, n, hn, rfl⟩ | ⟨e, he, hs, n, hn, rfl⟩)
    · exact ⟨e.dest, ⟨e, he, rfl⟩, Or.inl ⟨n, ⟨e, ⟨he, rfl⟩, hs, hn⟩, rfl, rfl⟩⟩
    · exact ⟨e.dest, ⟨e, he, rfl⟩, Or.inr ⟨a, ⟨e, ⟨he, rfl⟩, hs⟩, n, ⟨e, ⟨he, rfl⟩, hs, hn⟩, rfl, rfl⟩⟩

/-- `OrderedInsert` (the list library C11's dictionaries stand on) reaches this file through
`CodegenClosure` → `CodegenSort` -/
theorem mem_sortNames (a : Name) (l : List Name) : a ∈ sortNames l ↔ a ∈ l :=
  (OrderedInsert.foldr_perm (ins := insertSorted) (p := fun x y => strLe x y = true)
    (fun _ _ _ => rfl) (fun _ => rfl) l).mem_iff

theorem findArr_name {arrs : List PArr} {n : Name} {a : PArr} (h : findArr arrs n = some a) :
    a.name = n ∧ a ∈ arrs := by
  unfold findArr at h
  have h1 := List.find?_some h
  have h2 := List.mem_of_find?_eq_some h
  exact ⟨by simpa using h1, by simpa using h2⟩

theorem subset_iff (a b : List Name) : subset a b = true ↔ ∀ x ∈ a, x ∈ b := by
  simp [subset]

theorem strictSubset_iff (a b : List Name) :
    strictSubset a b = true ↔ (∀ x ∈ a, x ∈ b) ∧ ∃ x ∈ b, x ∉ a := by
  simp [strictSubset, subset]

theorem firstError_ok (f : Eqn → Verdict) (es : List Eqn) :
    firstError f es = Verdict.ok ↔ ∀ e ∈ es, f e = Verdict.ok := by
  fun_induction firstError f es with
  | case1 => simp
  | case2 e es hfe ih => simp [ih, hfe]
  | case3 e es hne => exact ⟨fun h => (hne h).elim, fun h => (hne (h e List.mem_cons_self)).elim⟩

theorem firstError_err (f : Eqn → Verdict) (es : List Eqn) (v : Verdict)
    (h : firstError f es = v) (hv : v ≠ Verdict.ok) :
    ∃ pre e post, es = pre ++ e :: post ∧ (∀ x ∈ pre, f x = Verdict.ok) ∧ f e = v := by
  fun_induction firstError f es with
  | case1 => exact absurd h.symm hv
  | case2 e es hfe ih =>
    obtain ⟨pre, e', post, h1, h2, h3⟩ := ih h
    exact ⟨e :: pre, e', post, congrArg _ h1, List.forall_mem_cons.mpr ⟨hfe, h2⟩, h3⟩
  | case3 e es hne => exact ⟨[], e, es, rfl, by simp, h⟩

theorem firstSError_ok {α : Type} (f : α → SVerdict) (l : List α) :
    firstSError f l = SVerdict.ok ↔ ∀ x ∈ l, f x = SVerdict.ok := by
  fun_induction firstSError f l with
  | case1 => simp
  | case2 x xs hfx ih => simp [ih, hfx]
  | case3 x xs hne => exact ⟨fun h => (hne h).elim, fun h => (hne (h x List.mem_cons_self)).elim⟩

theorem firstSError_err {α : Type} (f : α → SVerdict) (l : List α) (v : SVerdict)
    (h : firstSError f l = v) (hv : v ≠ SVerdict.ok) : ∃ x ∈ l, f x = v := by
  fun_induction firstSError f l with
  | case1 => exact absurd h.symm hv
  | case2 x xs hfx ih =>
    obtain ⟨y, hy, hfy⟩ := ih h
    exact ⟨y, List.mem_cons_of_mem _ hy, hfy⟩
  | case3 x xs hne => exact ⟨x, List.mem_cons_self, h⟩

/-- the entries of a "missing properties" error: the destination's, then one per source -/
def errsOf (needs : Eqn → List Name × List Name) (arrs : List PArr) (d : PArr) (e : Eqn) :
    List (Name × List Name) :=
  (checkArray d ((needs e).2.map strip)).toList ++
    (e.sources.getD []).filterMap (checkSrc arrs ((needs e).1.map strip))

/-- `sources is None` behaves like an empty list of sources -/
theorem checkEquationWith_eq (needs : Eqn → List Name × List Name) (arrs : List PArr) (e : Eqn) :
    checkEquationWith needs arrs e =
      match findArr arrs e.dest with
      | none => Verdict.invalidDest e.name e.dest
      | some d =>
        match (e.sources.getD []).find? (fun s => (findArr arrs s).isNone) with
        | some s => Verdict.invalidSource e.name s
        | none =>
          if (errsOf needs arrs d e).isEmpty then Verdict.ok
          else Verdict.missing e.name (errsOf needs arrs d e) := by
  unfold checkEquationWith errsOf
  cases findArr arrs e.dest with
  | none => rfl
  | some d =>
    cases e.sources with
    | none => cases h : checkArray d ((needs e).2.map strip) <;> simp [h]
    | some srcs => rfl

theorem checkSrc_eq_some {arrs : List PArr} {need : List Name} {s : Name} {err : Name × List Name} :
    checkSrc arrs need s = some err ↔ ∃ a, findArr arrs s = some a ∧ checkArray a need = some err := by
  unfold checkSrc
  cases findArr arrs s <;> simp

theorem mem_errsOf {needs : Eqn → List Name × List Name} {arrs : List PArr} {d : PArr} {e : Eqn}
    {err : Name × List Name} :
    err ∈ errsOf needs arrs d e ↔ checkArray d ((needs e).2.map strip) = some err ∨
      ∃ s ∈ e.sources.getD [], ∃ a, findArr arrs s = some a ∧
        checkArray a ((needs e).1.map strip) = some err := by
  simp only [errsOf, List.mem_append, Option.mem_toList, List.mem_filterMap, checkSrc_eq_some]

/-- what `check_equation_array_properties` can return, and when -/
inductive Checked (needs : Eqn → List Name × List Name) (arrs : List PArr) (e : Eqn) :
    Verdict → Prop where
  | invalidDest : findArr arrs e.dest = none → Checked needs arrs e (.invalidDest e.name e.dest)
  | invalidSource {d : PArr} {s : Name} : findArr arrs e.dest = some d → s ∈ e.sources.getD [] →
      findArr arrs s = none → Checked needs arrs e (.invalidSource e.name s)
  | ok {d : PArr} : findArr arrs e.dest = some d →
      (∀ s ∈ e.sources.getD [], ∃ a, findArr arrs s = some a) → errsOf needs arrs d e = [] →
      Checked needs arrs e .ok
  | missing {d : PArr} : findArr arrs e.dest = some d →
      (∀ s ∈ e.sources.getD [], ∃ a, findArr arrs s = some a) → errsOf needs arrs d e ≠ [] →
      Checked needs arrs e (.missing e.name (errsOf needs arrs d e))

theorem checkEquationWith_checked (needs : Eqn → List Name × List Name) (arrs : List PArr)
    (e : Eqn) : Checked needs arrs e (checkEquationWith needs arrs e) := by
  rw [checkEquationWith_eq]
  cases hd : findArr arrs e.dest with
  | none => exact .invalidDest hd
  | some d =>
    cases hf : (e.sources.getD []).find? (fun s => (findArr arrs s).isNone) with
    | some s =>
      exact .invalidSource hd (List.mem_of_find?_eq_some hf) (by simpa using List.find?_some hf)
    | none =>
      have hall : ∀ s ∈ e.sources.getD [], ∃ a, findArr arrs s = some a := fun s hs =>
        Option.ne_none_iff_exists'.mp (by simpa using List.find?_eq_none.mp hf s hs)
      by_cases hemp : errsOf needs arrs d e = []
      · simpa [hemp] using Checked.ok hd hall hemp
      · simpa [hemp] using Checked.missing hd hall hemp

theorem Checked.of_eq {needs : Eqn → List Name × List Name} {arrs : List PArr} {e : Eqn}
    {v : Verdict} (h : checkEquationWith needs arrs e = v) : Checked needs arrs e v :=
  h ▸ checkEquationWith_checked needs arrs e

/-- `eq_props < props` is strict: the array has every needed name and one more -/
theorem checkArray_eq_none {a : PArr} {need : List Name} :
    checkArray a need = none ↔ (∀ x ∈ need, x ∈ a.props) ∧ ∃ x ∈ a.props, x ∉ need := by
  rw [← strictSubset_iff, checkArray]
  split <;> simp [*]

theorem checkArray_none {a : PArr} {need : List Name} (h : checkArray a need = none) :
    ∀ x ∈ need, x ∈ a.props :=
  (checkArray_eq_none.mp h).1

theorem checkArray_none_mono {a : PArr} {n1 n2 : List Name} (h12 : ∀ x ∈ n1, x ∈ n2)
    (h : checkArray a n2 = none) : checkArray a n1 = none := by
  obtain ⟨h1, x, hx, hxn⟩ := checkArray_eq_none.mp h
  exact checkArray_eq_none.mpr ⟨fun y hy => h1 y (h12 y hy), x, hx, fun hx1 => hxn (h12 x hx1)⟩

/-- the shape of every "the check passed" statement -/
def Found (arrs : List PArr) (e : Eqn) (P Q : PArr → Prop) : Prop :=
  ∃ d, findArr arrs e.dest = some d ∧ P d ∧
    ∀ s ∈ e.sources.getD [], ∃ a, findArr arrs s = some a ∧ Q a

theorem Found.mono {arrs : List PArr} {e : Eqn} {P Q P' Q' : PArr → Prop} (h : Found arrs e P Q)
    (hP : ∀ d, P d → P' d) (hQ : ∀ a, Q a → Q' a) : Found arrs e P' Q' := by
  obtain ⟨d, hd, hp, hs⟩ := h
  exact ⟨d, hd, hP d hp, fun s hsm => (hs s hsm).imp fun a ha => ⟨ha.1, hQ a ha.2⟩⟩

theorem errsOf_eq_nil {needs : Eqn → List Name × List Name} {arrs : List PArr} {d : PArr} {e : Eqn}
    (hall : ∀ s ∈ e.sources.getD [], ∃ a, findArr arrs s = some a) :
    errsOf needs arrs d e = [] ↔ checkArray d ((needs e).2.map strip) = none ∧
      ∀ s ∈ e.sources.getD [], ∃ a, findArr arrs s = some a ∧
        checkArray a ((needs e).1.map strip) = none := by
  rw [errsOf, List.append_eq_nil_iff, Option.toList_eq_nil_iff, List.filterMap_eq_nil_iff]
  refine and_congr_right fun _ => forall₂_congr fun s hs => ?_
  obtain ⟨a, ha⟩ := hall s hs
  simp [checkSrc, ha]

theorem checkEquationWith_ok_iff {needs : Eqn → List Name × List Name} {arrs : List PArr} {e : Eqn} :
    checkEquationWith needs arrs e = Verdict.ok ↔
      Found arrs e (fun d => checkArray d ((needs e).2.map strip) = none)
        (fun a => checkArray a ((needs e).1.map strip) = none) := by
  constructor
  · intro h
    cases Checked.of_eq h with
    | ok hd hall hemp => exact ⟨_, hd, (errsOf_eq_nil hall).mp hemp⟩
  · rintro ⟨d, hd, h⟩
    have hall : ∀ s ∈ e.sources.getD [], ∃ a, findArr arrs s = some a :=
      fun s hs => (h.2 s hs).imp fun _ => And.left
    generalize hv : checkEquationWith needs arrs e = v
    cases Checked.of_eq hv with
    | invalidDest hn => rw [hn] at hd; cases hd
    | invalidSource _ hs hn => obtain ⟨a, ha⟩ := hall _ hs; rw [hn] at ha; cases ha
    | ok => rfl
    | missing hd' _ hne => rw [hd] at hd'; cases hd'; exact absurd ((errsOf_eq_nil hall).mpr h) hne

theorem checkEquationWith_ok {needs : Eqn → List Name × List Name} {arrs : List PArr} {e : Eqn}
    (h : checkEquationWith needs arrs e = Verdict.ok) :
    Found arrs e (fun d => ∀ n ∈ (needs e).2, strip n ∈ d.props)
      (fun a => ∀ n ∈ (needs e).1, strip n ∈ a.props) :=
  Found.mono (checkEquationWith_ok_iff.mp h)
    (fun _ hc _ hn => checkArray_none hc _ (List.mem_map_of_mem hn))
    (fun _ hc _ hn => checkArray_none hc _ (List.mem_map_of_mem hn))

theorem checkArray_some {a : PArr} {need : List Name} {err : Name × List Name}
    (h : checkArray a need = some err) :
    err.1 = a.name ∧ (∀ x, x ∈ err.2 ↔ x ∈ need ∧ x ∉ a.props) ∧
    ((∃ x ∈ need, x ∉ a.props) ∨ ∀ x ∈ a.props, x ∈ need) := by
  unfold checkArray at h
  split at h
  · cases h
  · rename_i hs
    cases h
    rw [strictSubset_iff, Classical.not_and_iff_not_or_not] at hs
    exact ⟨rfl, fun x => by simp, hs.imp (by simpa using ·) (by simpa using ·)⟩

theorem checkArray_lacks {a : PArr} {need : List Name} {x : Name} (hx : x ∈ need)
    (hxa : x ∉ a.props) : ∃ err, checkArray a need = some err ∧ err.1 = a.name ∧ x ∈ err.2 := by
  cases hc : checkArray a need with
  | none => exact absurd (checkArray_none hc x hx) hxa
  | some err =>
    obtain ⟨c1, c2, _⟩ := checkArray_some hc
    exact ⟨err, rfl, c1, (c2 x).mpr ⟨hx, hxa⟩⟩

theorem mem_groupNeeds_dst_strip (t : Table) (e : Eqn) (x : Name) :
    x ∈ (groupNeeds t e).2.map strip ↔ ∃ m, NeedsDst t e m ∧ x = strip m := by
  simp only [List.mem_map, mem_groupNeeds_dst, @eq_comm _ _ x]

theorem mem_groupNeeds_src_strip (t : Table) (e : Eqn) (x : Name) :
    x ∈ (groupNeeds t e).1.map strip ↔ ∃ m, NeedsSrc t e m ∧ x = strip m := by
  simp only [List.mem_map, mem_groupNeeds_src, @eq_comm _ _ x]

theorem checkEquation_ok {t : Table} {arrs : List PArr} {e : Eqn}
    (h : checkEquation t arrs e = Verdict.ok) :
    Found arrs e (fun d => ∀ n, NeedsDst t e n → strip n ∈ d.props)
      (fun a => ∀ n, NeedsSrc t e n → strip n ∈ a.props) :=
  (checkEquationWith_ok h).mono (fun _ hd n hn => hd n ((mem_groupNeeds_dst t e n).mpr hn))
    (fun _ ha n hn => ha n ((mem_groupNeeds_src t e n).mpr hn))

theorem checkStepperNames_ok_iff (arrs : List PArr) (sts : List Stepper) :
    checkStepperNames arrs sts = SVerdict.ok ↔ ∀ st ∈ sts, ∃ pa, findArr arrs st.dest = some pa := by
  induction sts with
  | nil => simp [checkStepperNames]
  | cons s rest ih =>
    simp only [checkStepperNames, List.mem_cons, forall_eq_or_imp, ← ih]
    cases findArr arrs s.dest <;> simp

theorem checkStepperNames_err (arrs : List PArr) (sts : List Stepper) (v : SVerdict)
    (h : checkStepperNames arrs sts = v) (hv : v ≠ SVerdict.ok) :
    ∃ st ∈ sts, v = SVerdict.invalidStepper st.dest ∧ findArr arrs st.dest = none := by
  fun_induction checkStepperNames arrs sts with
  | case1 => exact absurd h.symm hv
  | case2 s rest hs => exact ⟨s, List.mem_cons_self, h.symm, by simpa using hs⟩
  | case3 s rest hs ih =>
    obtain ⟨st, hst, h1, h2⟩ := ih h
    exact ⟨st, List.mem_cons_of_mem _ hst, h1, h2⟩

def lacking (pa : PArr) (st : Stepper) (m : Name) : List Name :=
  sortNames (((stepperProps (st.args m)).filter (fun x => !pa.props.contains x)).eraseDups)

theorem mem_lacking (pa : PArr) (st : Stepper) (m x : Name) :
    x ∈ lacking pa st m ↔ x ∈ stepperProps (st.args m) ∧ x ∉ pa.props := by
  simp [lacking, mem_sortNames]

/-- what `_check_arrays_for_properties` can return for one stepper and one method, and when -/
inductive MChecked (arrs : List PArr) (m : Name) (st : Stepper) : SVerdict → Prop where
  | invalidStepper : findArr arrs st.dest = none → MChecked arrs m st (.invalidStepper st.dest)
  | ok {pa : PArr} : findArr arrs st.dest = some pa →
      (∀ x ∈ stepperProps (st.args m), x ∈ pa.props) → MChecked arrs m st .ok
  | missing {pa : PArr} {x : Name} : findArr arrs st.dest = some pa →
      x ∈ stepperProps (st.args m) → x ∉ pa.props →
      MChecked arrs m st (.missing st.cls st.dest (lacking pa st m))

theorem checkStepperMethod_checked (arrs : List PArr) (m : Name) (st : Stepper) :
    MChecked arrs m st (checkStepperMethod arrs m st) := by
  unfold checkStepperMethod
  cases hpa : findArr arrs st.dest with
  | none => exact .invalidStepper hpa
  | some pa =>
    by_cases hsub : subset (stepperProps (st.args m)) pa.props = true
    · simpa [hsub] using MChecked.ok hpa ((subset_iff _ _).mp hsub)
    · have hx : ∃ x ∈ stepperProps (st.args m), x ∉ pa.props := by
        rw [subset_iff] at hsub
        simpa using hsub
      obtain ⟨x, hx, hxp⟩ := hx
      simpa [hsub, lacking] using MChecked.missing hpa hx hxp

theorem MChecked.of_eq {arrs : List PArr} {m : Name} {st : Stepper} {v : SVerdict}
    (h : checkStepperMethod arrs m st = v) : MChecked arrs m st v :=
  h ▸ checkStepperMethod_checked arrs m st

theorem mem_stepperProps {args : List Name} {p : Name} :
    p ∈ stepperProps args ↔ ∃ x ∈ args, (isSrcArr x || isDstArr x) = true ∧ strip x = p := by
  simp [stepperProps, and_assoc]

inductive SChecked (arrs : List PArr) (sts : List Stepper) : SVerdict → Prop where
  | ok : (∀ st ∈ sts, ∃ pa, findArr arrs st.dest = some pa ∧
        ∀ m ∈ wrapperNames sts, ∀ x ∈ stepperProps (st.args m), x ∈ pa.props) →
      SChecked arrs sts .ok
  | invalidStepper {st : Stepper} : st ∈ sts → findArr arrs st.dest = none →
      SChecked arrs sts (.invalidStepper st.dest)
  | missing {st : Stepper} {pa : PArr} {m x : Name} : st ∈ sts →
      findArr arrs st.dest = some pa → m ∈ wrapperNames sts → x ∈ stepperProps (st.args m) →
      x ∉ pa.props → SChecked arrs sts (.missing st.cls st.dest (lacking pa st m))

theorem checkSteppers_ok_iff (arrs : List PArr) (sts : List Stepper) :
    checkSteppers arrs sts = SVerdict.ok ↔
      (∀ st ∈ sts, ∃ pa, findArr arrs st.dest = some pa) ∧
      ∀ m ∈ wrapperNames sts, ∀ st ∈ sts, checkStepperMethod arrs m st = SVerdict.ok := by
  unfold checkSteppers checkStepperDecl
  rw [← checkStepperNames_ok_iff]
  cases checkStepperNames arrs sts <;> simp [firstSError_ok]

theorem checkSteppers_checked (arrs : List PArr) (sts : List Stepper) :
    SChecked arrs sts (checkSteppers arrs sts) := by
  generalize hv : checkSteppers arrs sts = v
  by_cases hok : v = SVerdict.ok
  · subst hok
    obtain ⟨hn, hms⟩ := (checkSteppers_ok_iff arrs sts).mp hv
    refine .ok fun st hst => ?_
    obtain ⟨pa, hpa⟩ := hn st hst
    refine ⟨pa, hpa, fun m hm => ?_⟩
    cases MChecked.of_eq (hms m hm st hst) with
    | ok hpa' hall => rw [hpa] at hpa'; cases hpa'; exact hall
  · unfold checkSteppers at hv
    by_cases hn : checkStepperNames arrs sts = SVerdict.ok
    · -- the verdict is that of one wrapped method on one stepper
      rw [hn] at hv
      obtain ⟨m, hm, h1⟩ := firstSError_err _ _ _ hv hok
      obtain ⟨st, hst, h2⟩ := firstSError_err _ _ _ h1 hok
      cases MChecked.of_eq h2 with
      | invalidStepper hnone => exact .invalidStepper hst hnone
      | ok => exact absurd rfl hok
      | missing hpa hx hxp => exact .missing hst hpa hm hx hxp
    · obtain ⟨st, hst, hvn, hnone⟩ := checkStepperNames_err arrs sts _ rfl hn
      rw [hvn] at hv
      subst hv
      exact .invalidStepper hst hnone

theorem SChecked.of_eq {arrs : List PArr} {sts : List Stepper} {v : SVerdict}
    (h : checkSteppers arrs sts = v) : SChecked arrs sts v :=
  h ▸ checkSteppers_checked arrs sts

theorem buildAll_ok_iff (t : Table) (arrs : List PArr) (gs : List GroupT) (sts : List Stepper) :
    buildAll t arrs gs sts = Outcome.ok ↔
      checkProgram t arrs gs = Verdict.ok ∧ checkSteppers arrs sts = SVerdict.ok := by
  unfold buildAll
  cases checkProgram t arrs gs <;> cases checkSteppers arrs sts <;> simp

end PysphVerif.Needs
