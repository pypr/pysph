import PysphVerif.Model.DumpLoad
import PysphVerif.Lemmas.OrderedInsert
import PysphVerif.Lemmas.AssocList
/-!
C11: Python dictionaries as association lists (`dictSet`, `dictGet?`), and the
name order in which h5py walks a group (`sortByName`, `sortConsts`).
-/
namespace PysphVerif.DumpLoad

/-! `dictSet` and `dictGet?` are `AssocList.set` and `AssocList.get?` (same text). -/

theorem dictGet?_none_of_not_mem {β : Type} (d : List (String × β)) (k : String)
    (hk : k ∉ d.map (·.1)) : dictGet? d k = none := AssocList.get?_none_of_not_mem d k hk

theorem dictSet_fresh {β : Type} (d : List (String × β)) (k : String) (v : β)
    (h : k ∉ d.map (·.1)) : dictSet d k v = d ++ [(k, v)] := AssocList.set_fresh d k v h

theorem dictGet?_dictSet {β : Type} (d : List (String × β)) (k : String) (v : β) (n : String) :
    dictGet? (dictSet d k v) n = if n = k then some v else dictGet? d n :=
  AssocList.get?_set d k v n

theorem dictSet_keys_nodup {β : Type} (d : List (String × β)) (k : String) (v : β)
    (h : (d.map (·.1)).Nodup) : ((dictSet d k v).map (·.1)).Nodup :=
  AssocList.set_keys_nodup d k v h

theorem dictGet?_of_mem {β : Type} (d : List (String × β)) (h : (d.map (·.1)).Nodup)
    (e : String × β) (he : e ∈ d) : dictGet? d e.1 = some e.2 := AssocList.get?_of_mem d h e he

theorem mem_of_dictGet? {β : Type} (d : List (String × β)) (k : String) (v : β)
    (h : dictGet? d k = some v) : (k, v) ∈ d := AssocList.mem_of_get? d k v h

theorem sortByName_perm {β : Type} (l : List (String × β)) : (sortByName l).Perm l :=
  OrderedInsert.foldr_perm (ins := insertByName) (p := fun e x => e.1 ≤ x.1)
    (fun _ _ _ => rfl) (fun _ => rfl) l

variable {V : Type} in
theorem sortConsts_perm (l : List (Const V)) : (sortConsts l).Perm l :=
  OrderedInsert.foldr_perm (ins := insertConst) (p := fun c x => c.name ≤ x.name)
    (fun _ _ _ => rfl) (fun _ => rfl) l

/-! Sorting by name commutes with a map on the values: the writer maps over the arrays, the hdf5
reader sorts what it finds (`loadH5_many`). -/

theorem insertByName_map {β γ : Type} (f : String × β → γ) (e : String × β)
    (l : List (String × β)) :
    insertByName (e.1, f e) (l.map (fun x => (x.1, f x))) =
      (insertByName e l).map (fun x => (x.1, f x)) := by
  induction l with
  | nil => rfl
  | cons x xs ih =>
    simp only [List.map_cons, insertByName]
    split
    · rfl
    · simp only [List.map_cons, ih]

theorem sortByName_map {β γ : Type} (f : String × β → γ) (l : List (String × β)) :
    sortByName (l.map (fun x => (x.1, f x))) = (sortByName l).map (fun x => (x.1, f x)) := by
  rw [sortByName, List.foldr_map]
  exact List.foldr_hom (init := []) (List.map fun x => (x.1, f x)) fun x y => insertByName_map f x y

end PysphVerif.DumpLoad
