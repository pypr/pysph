import Mathlib.Data.Matrix.Mul
import Mathlib.Algebra.BigOperators.Fin
import PysphVerif.Lemmas.LinalgArray
import PysphVerif.Lemmas.FoldSum
set_option linter.unusedSectionVars false
/-!
C13: `identity`, `dot`, `mat_mult`, `mat_vec_mult` of `Model/GaussJordan.lean` against their
mathematical definitions, cell by cell.  `sqMat`, `vecOf` turn the leading cells of a flat array
into Mathlib's `Matrix`/vector, for the statements of `Props/C13.lean`.
-/
namespace PysphVerif.GaussJordan
variable {K : Type} [Field K] [LinearOrder K] [IsStrictOrderedRing K]

theorem foldl_add_eq_sum (f : Nat → K) (step : K → Nat → K) (hstep : ∀ s j, step s j = s + f j)
    (t : Nat) : (List.range t).foldl step 0 = ∑ j ∈ Finset.range t, f j := by
  rw [← List.toFinset_range, List.sum_toFinset f List.nodup_range, ← zero_add (List.sum _)]
  exact foldl_additive id step f hstep _ 0

theorem vec_fill_fold (g : Nat → K) (step : Array K → Nat → Array K)
    (hstep : ∀ r i, step r i = wr r i (g i)) (r0 : Array K) (t : Nat) (ht : t ≤ r0.size) :
    ((List.range t).foldl step r0).size = r0.size ∧
    ∀ p, rd ((List.range t).foldl step r0) p = if p < t then g p else rd r0 p :=
  foldl_range_inv step (fun r k => r.size = r0.size ∧
      ∀ p, rd r p = if p < k then g p else rd r0 p) t r0
    ⟨rfl, fun p => rfl⟩ fun r k hk ⟨hs, hg⟩ => by
      rw [hstep]
      refine ⟨by rw [size_wr, hs], fun p => ?_⟩
      rw [rd_wr, hg p]
      by_cases h : k = p
      · subst h
        rw [if_pos ⟨rfl, by omega⟩, if_pos (by omega)]
      · rw [if_neg (by omega)]
        exact if_congr (by omega) rfl rfl

theorem dot_spec (a b : Array K) (n : Nat) :
    dot a b n = ∑ i ∈ Finset.range n, rd a i * rd b i :=
  foldl_add_eq_sum (fun i => rd a i * rd b i) (dotStep a b) (fun _ _ => rfl) n

theorem identity_spec (a : Array K) (n : Nat) (hsz : n*n ≤ a.size) :
    (identity a n).size = a.size ∧
    ∀ i j, j < n → get2 n (identity a n) i j =
      if i < n then (if i = j then 1 else 0) else get2 n a i j :=
  fill_grid (fun i j => if i = j then (1:K) else 0) (identityCell n)
    (fun i r j => (apply_ite (wr r (n*i + j)) (i = j) 1 0).symm) a hsz

theorem matMult_spec (a b r : Array K) (n : Nat) (hsz : n*n ≤ r.size) :
    (matMult a b n r).size = r.size ∧
    ∀ i k, k < n → get2 n (matMult a b n r) i k =
      if i < n then ∑ j ∈ Finset.range n, get2 n a i j * get2 n b j k else get2 n r i k := by
  exact fill_grid (fun i k => ∑ j ∈ Finset.range n, get2 n a i j * get2 n b j k) (mmCell a b n)
    (fun i r' k => by
      rw [mmCell, foldl_add_eq_sum (fun j => get2 n a i j * get2 n b j k) (mmStep a b n i k)
        (fun _ _ => rfl) n]) r hsz

theorem matVecMult_spec (a b r : Array K) (n : Nat) (hsz : n ≤ r.size) :
    (matVecMult a b n r).size = r.size ∧
    ∀ i, rd (matVecMult a b n r) i =
      if i < n then ∑ j ∈ Finset.range n, get2 n a i j * rd b j else rd r i :=
  vec_fill_fold (fun i => ∑ j ∈ Finset.range n, get2 n a i j * rd b j) (mvRow a b n)
    (fun r' i => by
      simp only [mvRow]
      rw [foldl_add_eq_sum (fun j => get2 n a i j * rd b j) (mvStep a b n i) (fun _ _ => rfl) n])
    r n hsz

def sqMat (n : Nat) (a : Array K) : Matrix (Fin n) (Fin n) K := fun i j => get2 n a i j
def vecOf (n : Nat) (a : Array K) : Fin n → K := fun i => rd a i

end PysphVerif.GaussJordan
