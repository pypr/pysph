import PysphVerif.Lemmas.DumpLoadDict
import PysphVerif.Lemmas.ArrayRows
import PysphVerif.Lemmas.FoldInv
/-!
C11, the `ParticleArray` construction the readers drive.  One `add_property`
call either leaves the particle count as it is (`addReq_keep`: its data, if any,
has that many rows, `hfit`) or, being the first to bring data, resizes every
record and then does the same (`addReq_first`); the invariant `SInv` of the
records is kept by either part, hence by a run of calls (`foldReq_ok`).  Then
what `align_particles`, `add_constant` and `set_output_arrays` do on an array
built that way.
-/
set_option linter.unusedSectionVars false
namespace PysphVerif.DumpLoad

variable {V : Type} [PVal V] [DecidableEq V]

theorem hasProp_iff (ps : List (PropRec V)) (n : String) :
    hasProp ps n = true ↔ ∃ p ∈ ps, p.name = n := by
  simp [hasProp]

theorem map_setDataRec_of_not_has (ps : List (PropRec V)) (n : String) (d : List V)
    (h : ¬ ∃ p ∈ ps, p.name = n) : ps.map (setDataRec n d) = ps :=
  (List.map_congr_left fun p hp => if_neg fun e => h ⟨p, hp, beq_iff_eq.1 e⟩).trans (List.map_id ps)

/-- one call `add_property(name, type=ty, default=dflt, data=data, stride=stride)` -/
structure AddReq (V : Type) where
  name : String
  ty : CType
  dflt : V
  data : Option (List V)
  stride : Nat

def addReq (pa : PArr V) (r : AddReq V) : Except String (PArr V) :=
  addProperty pa r.name r.ty (some r.dflt) r.data r.stride

/-- the three properties `clear()` creates -/
def isBase (n : String) : Prop := n = "tag" ∨ n = "pid" ∨ n = "gid"

def baseTy (n : String) : CType := if n = "gid" then .uint else .int

/-- a request as the readers issue them for an array written with `num` particles -/
structure ReqOK (num : Nat) (r : AddReq V) : Prop where
  stride_pos : 1 ≤ r.stride
  len : ∀ d, r.data = some d → d.length = num * r.stride
  base : isBase r.name → r.stride = 1 ∧ r.ty = baseTy r.name

/-- what a call does to an existing record, apart from the resize a first data array causes -/
def updRec (name : String) (dflt : V) (stride : Nat) (d : List V) (p : PropRec V) : PropRec V :=
  if p.name = name then
    { p with default := dflt, stride := if stride ≠ 1 then stride else p.stride,
             data := if d = [] then p.data else d }
  else p

def freshRec (name : String) (ty : CType) (dflt : V) (stride nP : Nat) (d : List V) : PropRec V :=
  { name := name, ctype := ty, stride := stride, default := dflt,
    data := if d = [] then List.replicate (nP * stride) dflt else d }

/-- the records after a call on an array of `nP` particles that leaves `nP` as it is -/
def addRecs (ps : List (PropRec V)) (nP : Nat) (r : AddReq V) : List (PropRec V) :=
  ps.map (updRec r.name r.dflt r.stride (r.data.getD [])) ++
    if hasProp ps r.name then [] else [freshRec r.name r.ty r.dflt r.stride nP (r.data.getD [])]

theorem updRec_nil (name : String) (dflt : V) (stride : Nat) :
    updRec name dflt stride [] = setMetaRec name dflt stride := by
  funext p
  by_cases h : p.name = name <;> simp [updRec, setMetaRec, h]

theorem updRec_data (name : String) (dflt : V) (stride : Nat) (d : List V) (hd : d ≠ []) :
    updRec name dflt stride d = setDataRec name d ∘ setMetaRec name dflt stride := by
  funext p
  by_cases h : p.name = name <;> simp [updRec, setMetaRec, setDataRec, h, hd]

theorem ne_of_hasProp_false {ps : List (PropRec V)} {name : String} (h : hasProp ps name = false) :
    ∀ q ∈ ps, q.name ≠ name := fun q hq e => by
  rw [(hasProp_iff _ _).2 ⟨q, hq, e⟩] at h; cases h

theorem getD_ne_nil {d : Option (List V)} (h : d.getD [] ≠ []) : d = some (d.getD []) := by
  cases d with
  | none => simp at h
  | some x => rfl

theorem addReq_keep (pa : PArr V) (r : AddReq V) (hs : 1 ≤ r.stride)
    (hfit : ∀ d, r.data = some d → d.length = numParticles pa false * r.stride) :
    addReq pa r = .ok { pa with props := addRecs pa.props (numParticles pa false) r } := by
  simp only [addReq, addProperty, addRecs]
  generalize numParticles pa false = nP at hfit ⊢
  by_cases hd : r.data.getD [] = []
  · rw [hd]
    by_cases h0 : nP = 0 <;> cases hex : hasProp pa.props r.name <;>
      simp [h0, updRec_nil, setMeta, freshRec]
  · have hl := hfit _ (getD_ne_nil hd)
    generalize r.data.getD [] = d at hd hl ⊢
    have hlen : (d.length == 0) = false := by simpa using hd
    have hn0 : (nP == 0) = false := by
      simpa using fun e : nP = 0 => hd (List.length_eq_zero_iff.1 (by rw [hl, e, Nat.zero_mul]))
    have hsz : (nP == d.length / r.stride && d.length % r.stride == 0) = true := by
      simp [hl, Nat.mul_div_cancel _ hs]
    cases hex : hasProp pa.props r.name
    · simp [hn0, hlen, hsz, updRec_data _ _ _ _ hd, setMeta, freshRec, hd]
      intro a ha
      simp [setMetaRec, setDataRec, ne_of_hasProp_false hex a ha]
    · simp [hn0, hlen, hsz, updRec_data _ _ _ _ hd, setMeta]

theorem addReq_first (pa : PArr V) (r : AddReq V) (h0 : numParticles pa false = 0)
    (hs : 1 ≤ r.stride) {d : List V} (hrd : r.data = some d) (hd : d ≠ []) {n : Nat}
    (hl : d.length = n * r.stride) :
    addReq pa r = .ok { pa with
      props := addRecs (pa.props.map (resizeRec n)) n r,
      nReal := if r.name = "tag" then countLocal d else n } := by
  have hn : d.length / r.stride = n := by rw [hl]; exact Nat.mul_div_cancel _ hs
  have hg : r.data.getD [] = d := by rw [hrd]; rfl
  subst hn
  have hhas : hasProp (pa.props.map (resizeRec (d.length / r.stride))) r.name =
      hasProp pa.props r.name := by
    simp only [hasProp, List.any_map]; rfl
  have hlen : (d.length == 0) = false := by simpa using hd
  simp only [addReq, addProperty, addRecs, h0, hg, hhas, hlen, beq_self_eq_true, Bool.true_or,
    Bool.not_true, Bool.false_eq_true, if_false, if_true, updRec_data _ _ _ _ hd, setMeta,
    List.map_map, beq_iff_eq]
  cases hex : hasProp pa.props r.name
  · simp [freshRec, hd]
    intro a ha
    simp [setMetaRec, setDataRec, resizeRec, ne_of_hasProp_false hex a ha]
  · simp
    intro a _
    by_cases h : a.name = r.name <;> simp [setDataRec, resizeRec, setMetaRec, h]

/-- record `p` is what request `r` asked for, on an array of `nP` particles;
data that was not supplied is constant -/
structure Served (nP : Nat) (r : AddReq V) (p : PropRec V) : Prop where
  ctype : p.ctype = r.ty
  stride : p.stride = r.stride
  default : p.default = r.dflt
  len : p.data.length = nP * p.stride
  data : ∀ d, r.data = some d → p.data = d
  fill : r.data = none → ∃ x, p.data = List.replicate (nP * p.stride) x

/-- `clear()` as a request: what a base property is like until a call names it -/
def baseReq (n : String) : AddReq V :=
  { name := n, ty := baseTy n, dflt := if n = "gid" then PVal.uintMax else PVal.zero,
    data := none, stride := 1 }

/-- invariant of the property records while a reader rebuilds an array: `num` is
the particle count the file was written with, `done` are the requests served so
far, `nP` the current particle count (`0` until the first request that brings
data, `num` from then on) -/
structure SInv (num : Nat) (done : List (AddReq V)) (nP : Nat) (ps : List (PropRec V)) : Prop where
  nodup : (ps.map (·.name)).Nodup
  names : ∀ n, n ∈ ps.map (·.name) ↔ isBase n ∨ n ∈ done.map (·.name)
  np : nP = 0 ∨ nP = num
  doneOK : ∀ r ∈ done, ReqOK num r
  served : ∀ p ∈ ps, ∀ r ∈ done, r.name = p.name → Served nP r p
  pending : ∀ p ∈ ps, (∀ r ∈ done, r.name ≠ p.name) → Served nP (baseReq p.name) p

theorem findProp_of_mem (ps : List (PropRec V)) (n : String)
    (hnd : (ps.map (·.name)).Nodup) (p : PropRec V) (hp : p ∈ ps) (hn : p.name = n) :
    findProp ps n = some p := by
  subst hn
  exact AssocList.find?_key_of_mem (·.name) ps hnd p hp

theorem findProp_isSome_of_mem (ps : List (PropRec V)) (n : String)
    (h : ∃ p ∈ ps, p.name = n) : ∃ p, findProp ps n = some p :=
  Option.isSome_iff_exists.1 (by simpa only [findProp, List.find?_isSome, beq_iff_eq] using h)

section
variable {num nP : Nat} {done : List (AddReq V)} {ps : List (PropRec V)}

theorem SInv.mem_of_name (h : SInv num done nP ps) {n : String}
    (hn : isBase n ∨ n ∈ done.map (·.name)) : ∃ p ∈ ps, p.name = n :=
  List.mem_map.1 ((h.names n).2 hn)

theorem SInv.get (h : SInv num done nP ps) {r : AddReq V} (hr : r ∈ done) :
    ∃ p ∈ ps, p.name = r.name ∧ Served nP r p := by
  obtain ⟨p, hp, e⟩ := h.mem_of_name (Or.inr (List.mem_map_of_mem hr))
  exact ⟨p, hp, e, h.served p hp r hr e.symm⟩

theorem SInv.coh (h : SInv num done nP ps) {p : PropRec V} (hp : p ∈ ps) :
    p.data.length = nP * p.stride ∧ (isBase p.name → p.stride = 1 ∧ p.ctype = baseTy p.name) := by
  by_cases hq : ∃ r ∈ done, r.name = p.name
  · obtain ⟨r, hr, e⟩ := hq
    have hs := h.served p hp r hr e
    refine ⟨hs.len, fun hb => ?_⟩
    obtain ⟨h1, h2⟩ := (h.doneOK r hr).base (e ▸ hb)
    exact ⟨hs.stride.trans h1, by rw [hs.ctype, h2, e]⟩
  · have hs := h.pending p hp fun r hr e => hq ⟨r, hr, e⟩
    exact ⟨hs.len, fun _ => ⟨hs.stride, hs.ctype⟩⟩

theorem SInv.data_cases (h : SInv num done nP ps) {p : PropRec V} (hp : p ∈ ps) :
    (∃ x, p.data = List.replicate (nP * p.stride) x) ∨
      ∃ r ∈ done, r.name = p.name ∧ r.data = some p.data := by
  by_cases hq : ∃ r ∈ done, r.name = p.name
  · obtain ⟨r, hr, e⟩ := hq
    have hs := h.served p hp r hr e
    cases hrd : r.data with
    | none => exact Or.inl (hs.fill hrd)
    | some d => exact Or.inr ⟨r, hr, e, by rw [hrd, hs.data d hrd]⟩
  · exact Or.inl ((h.pending p hp fun r hr e => hq ⟨r, hr, e⟩).fill rfl)

theorem SInv.tag (h : SInv num done nP ps) :
    ∃ t ∈ ps, t.name = "tag" ∧ findProp ps "tag" = some t ∧ t.data.length = nP := by
  obtain ⟨t, ht, htn⟩ := h.mem_of_name (n := "tag") (Or.inl (Or.inl rfl))
  obtain ⟨hl, hb⟩ := h.coh ht
  exact ⟨t, ht, htn, findProp_of_mem ps "tag" h.nodup t ht htn, by
    rw [hl, (hb (htn ▸ Or.inl rfl)).1, Nat.mul_one]⟩

theorem numParticles_of_inv (pa : PArr V) (h : SInv num done nP pa.props) :
    numParticles pa false = nP := by
  obtain ⟨t, _, _, hf, hl⟩ := h.tag
  simp [numParticles, hf, hl]

/-- on an array without particles supplied data is empty; as it fits `n` particles too, a resize
to `n` loses none -/
theorem Served.resize {r : AddReq V} {p : PropRec V} (hs : Served 0 r p) (n : Nat)
    (hfit : ∀ d, r.data = some d → d.length = n * r.stride) : Served n r (resizeRec n p) :=
  { ctype := hs.ctype, stride := hs.stride, default := hs.default, len := List.length_replicate,
    data := fun d hrd => by
      have hl := hfit d hrd
      cases List.length_eq_zero_iff.1 (by rw [← hs.data d hrd, hs.len, Nat.zero_mul] : d.length = 0)
      simp [resizeRec, hs.stride, ← hl],
    fill := fun _ => ⟨p.default, rfl⟩ }

theorem SInv.resize (h : SInv num done 0 ps) : SInv num done num (ps.map (resizeRec num)) := by
  have hnm : (ps.map (resizeRec num)).map (·.name) = ps.map (·.name) := by
    rw [List.map_map]; rfl
  exact { nodup := by rw [hnm]; exact h.nodup, names := by rw [hnm]; exact h.names,
          np := Or.inr rfl, doneOK := h.doneOK,
          served := List.forall_mem_map.2 fun p hp r hr e =>
            (h.served p hp r hr e).resize num (h.doneOK r hr).len,
          pending := List.forall_mem_map.2 fun p hp hq => (h.pending p hp hq).resize num nofun }

theorem updRec_name (name : String) (dflt : V) (stride : Nat) (d : List V) (p : PropRec V) :
    (updRec name dflt stride d p).name = p.name := by
  simp only [updRec, apply_ite PropRec.name, ite_self]

theorem mem_addRecs {nP : Nat} {r : AddReq V} {p' : PropRec V} :
    p' ∈ addRecs ps nP r ↔
      (∃ p ∈ ps, updRec r.name r.dflt r.stride (r.data.getD []) p = p') ∨
      (hasProp ps r.name = false ∧
        p' = freshRec r.name r.ty r.dflt r.stride nP (r.data.getD [])) := by
  unfold addRecs
  cases hh : hasProp ps r.name <;> simp [List.mem_append, List.mem_map]

/-- the names after a call are the keys after `d[r.name] = …` -/
theorem addRecs_names (ps : List (PropRec V)) (nP : Nat) (r : AddReq V) :
    (addRecs ps nP r).map (·.name) =
      if r.name ∈ ps.map (·.name) then ps.map (·.name) else ps.map (·.name) ++ [r.name] := by
  have hnm : (fun p : PropRec V => p.name) ∘ updRec r.name r.dflt r.stride (r.data.getD []) =
      fun p => p.name := funext fun p => updRec_name _ _ _ _ p
  have hhas : hasProp ps r.name = true ↔ r.name ∈ ps.map (·.name) := AssocList.any_key_iff _ ps _
  unfold addRecs
  rw [List.map_append, List.map_map, hnm]
  by_cases hh : r.name ∈ ps.map (·.name)
  · rw [if_pos hh, if_pos (hhas.2 hh), List.map_nil, List.append_nil]
  · rw [if_neg hh, if_neg (mt hhas.1 hh)]; rfl

theorem SInv.add (h : SInv num done nP ps) (r : AddReq V) (hr : ReqOK num r)
    (hnew : ∀ q ∈ done, q.name ≠ r.name) (hfit : ∀ d, r.data = some d → d.length = nP * r.stride) :
    SInv num (done ++ [r]) nP (addRecs ps nP r) := by
  -- the data the record called `r.name` ends up with, `e` being what it had or would be created with
  have hdata : ∀ e : List V, e.length = nP * r.stride →
      (if r.data.getD [] = [] then e else r.data.getD []).length = nP * r.stride ∧
      ∀ d, r.data = some d → (if r.data.getD [] = [] then e else r.data.getD []) = d := by
    intro e he
    cases hrd : r.data with
    | none => exact ⟨by simpa using he, nofun⟩
    | some d =>
      have hl := hfit d hrd
      by_cases hdn : d = []
      · subst hdn
        simpa [List.length_eq_zero_iff.1 (he.trans hl.symm)] using hl
      · simp [hdn, hl]
  -- a record `r` names is one `clear()` made that no request has named: only default and data change
  have hhit : ∀ p ∈ ps, p.name = r.name →
      Served nP r (updRec r.name r.dflt r.stride (r.data.getD []) p) := by
    intro p hp he
    have hb : isBase r.name := by
      rcases (h.names r.name).1 (List.mem_map.2 ⟨p, hp, he⟩) with hb | hq
      · exact hb
      · obtain ⟨q, hq, e⟩ := List.mem_map.1 hq
        exact absurd e (hnew q hq)
    have hs := h.pending p hp fun q hq e => hnew q hq (e.trans he)
    obtain ⟨h3, h4⟩ := hr.base hb
    have hst : p.stride = r.stride := hs.stride.trans h3.symm
    have e : updRec r.name r.dflt r.stride (r.data.getD []) p =
        { p with default := r.dflt,
                 data := if r.data.getD [] = [] then p.data else r.data.getD [] } := by
      simp [updRec, he, h3]
    have hdt := hdata p.data (hst ▸ hs.len)
    rw [e]
    exact { ctype := hs.ctype.trans (by rw [h4, he]; rfl), stride := hst, default := rfl,
            len := hst ▸ hdt.1, data := hdt.2,
            fill := fun hn => by simpa [hn] using hs.fill rfl }
  have hfresh : Served nP r (freshRec r.name r.ty r.dflt r.stride nP (r.data.getD [])) :=
    have hdt := hdata (List.replicate (nP * r.stride) r.dflt) List.length_replicate
    { ctype := rfl, stride := rfl, default := rfl, len := hdt.1, data := hdt.2,
      fill := fun hn => ⟨r.dflt, by simp [freshRec, hn]⟩ }
  have hrec : ∀ p' ∈ addRecs ps nP r,
      p'.name = r.name ∧ Served nP r p' ∨ p'.name ≠ r.name ∧ p' ∈ ps := by
    intro p' hp'
    rcases mem_addRecs.1 hp' with ⟨p, hp, rfl⟩ | ⟨_, rfl⟩
    · by_cases hpr : p.name = r.name
      · exact Or.inl ⟨(updRec_name _ _ _ _ p).trans hpr, hhit p hp hpr⟩
      · rw [show updRec r.name r.dflt r.stride (r.data.getD []) p = p from if_neg hpr]
        exact Or.inr ⟨hpr, hp⟩
    · exact Or.inl ⟨rfl, hfresh⟩
  refine { nodup := ?_, names := fun n => ?_, np := h.np,
           doneOK := List.forall_mem_append.2 ⟨h.doneOK, List.forall_mem_singleton.2 hr⟩,
           served := fun p' hp' q hq e => ?_, pending := fun p' hp' hq => ?_ }
  · rw [addRecs_names]
    exact AssocList.nodup_keys_set _ h.nodup
  · rw [addRecs_names, AssocList.mem_keys_set, h.names n, List.map_append, List.mem_append,
      List.map_singleton, List.mem_singleton, or_assoc]
  · rcases hrec p' hp' with ⟨hn, hs⟩ | ⟨hn, hp⟩ <;> rcases List.mem_append.1 hq with hq | hq
    · exact absurd (e.trans hn) (hnew q hq)
    · cases List.mem_singleton.1 hq
      exact hs
    · exact h.served p' hp q hq e
    · cases List.mem_singleton.1 hq
      exact absurd e.symm hn
  · rcases hrec p' hp' with ⟨hn, _⟩ | ⟨hn, hp⟩
    · exact absurd hn.symm (hq r (by simp))
    · exact h.pending p' hp fun q hq' => hq q (List.mem_append_left _ hq')

theorem addReq_ok (r : AddReq V) (pa : PArr V) (h : SInv num done nP pa.props) (hr : ReqOK num r)
    (hnew : ∀ q ∈ done, q.name ≠ r.name) :
    ∃ pa' nP', addReq pa r = .ok pa' ∧ pa'.name = pa.name ∧ pa'.consts = pa.consts ∧
      SInv num (done ++ [r]) nP' pa'.props := by
  have hnp := numParticles_of_inv pa h
  by_cases hd : ∃ d, r.data = some d ∧ d.length ≠ nP * r.stride
  · -- the first data array: `nP = 0 < num`; after the resize `hr.len` says the data fits
    obtain ⟨d, hrd, hne⟩ := hd
    have h0 : nP = 0 := h.np.resolve_right fun e => hne (e ▸ hr.len d hrd)
    subst h0
    exact ⟨_, num, addReq_first pa r hnp hr.stride_pos hrd (by rintro rfl; simp at hne)
      (hr.len d hrd), rfl, rfl, h.resize.add r hr hnew hr.len⟩
  · have hfit : ∀ d, r.data = some d → d.length = nP * r.stride := fun d hrd =>
      Decidable.by_contra fun hne => hd ⟨d, hrd, hne⟩
    refine ⟨_, nP, addReq_keep pa r hr.stride_pos (by rw [hnp]; exact hfit), rfl, rfl, ?_⟩
    rw [hnp]; exact h.add r hr hnew hfit

end

/-- a run of `add_property` calls on one array, the loop `readers_rebuild_in_any_order` (C11) speaks of -/
def addAll (pa : PArr V) (rs : List (AddReq V)) : Except String (PArr V) :=
  rs.foldlM addReq pa

/-- A reader's loop: its state holds the array being built (`arr`), and the step for item `a`
succeeds and leaves in the state what the request `req a` makes of that array, at least on records
that satisfy the invariant and have no request of that name behind them (the version-1 reader
passes `default=None`, which then is the default `clear()` gave).  What else the state carries does
not matter. -/
theorem foldReq_ok {α σ : Type} {num : Nat} (arr : σ → PArr V)
    (step : σ → α → Except String σ) (req : α → AddReq V) (l : List α)
    (hstep : ∀ s, ∀ a ∈ l, ∀ done nP, SInv num done nP (arr s).props →
      (∀ q ∈ done, q.name ≠ (req a).name) →
      ∀ pa', addReq (arr s) (req a) = .ok pa' → ∃ s', step s a = .ok s' ∧ arr s' = pa')
    (done : List (AddReq V)) (nP : Nat) (s : σ) (h : SInv num done nP (arr s).props)
    (hok : ∀ a ∈ l, ReqOK num (req a)) (hnd : ((done ++ l.map req).map (·.name)).Nodup) :
    ∃ s', l.foldlM step s = .ok s' ∧ (arr s').name = (arr s).name ∧
      (arr s').consts = (arr s).consts ∧ ∃ nP', SInv num (done ++ l.map req) nP' (arr s').props := by
  refine foldlM_prefix_inv step (fun s' seen => (arr s').name = (arr s).name ∧
    (arr s').consts = (arr s).consts ∧ ∃ nP', SInv num (done ++ seen.map req) nP' (arr s').props) l s
    ⟨rfl, rfl, nP, by simpa using h⟩ fun s1 seen a rest e ⟨hn, hc, nP1, hinv⟩ => ?_
  have hnew : ∀ q ∈ done ++ seen.map req, q.name ≠ (req a).name := fun q hq e' =>
    not_mem_done (done := (done ++ seen.map req).map (·.name)) (rest := (rest.map req).map (·.name))
      (by simpa [e] using hnd) (List.mem_map.2 ⟨q, hq, e'⟩)
  have ha : a ∈ l := by simp [e]
  obtain ⟨pa2, nP2, h2, hn2, hc2, hinv2⟩ := addReq_ok (req a) (arr s1) hinv (hok a ha) hnew
  obtain ⟨s2, hs2, rfl⟩ := hstep s1 a ha _ nP1 hinv hnew pa2 h2
  exact ⟨s2, hs2, hn2.trans hn, hc2.trans hc, nP2, by
    simpa [List.append_assoc] using hinv2⟩

theorem sinv_clear (num : Nat) : SInv (V := V) num [] 0 (clearProps PVal.zero) := by
  refine { nodup := by simp [clearProps], names := fun n => ?_, np := Or.inl rfl,
           doneOK := by simp, served := by simp, pending := fun p hp _ => ?_ }
  · simp [clearProps, isBase]
  · simp only [clearProps, List.mem_cons, List.not_mem_nil, or_false] at hp
    rcases hp with rfl | rfl | rfl <;>
      exact ⟨by simp [baseReq, baseTy], rfl, by simp [baseReq], rfl, nofun, fun _ => ⟨PVal.zero, rfl⟩⟩

/-- the state of `ArrayRows.alignStep` as the model's record: the model counts `next_insert` and
`num_real_particles` separately, the code increments them together, so both are `p.2.1` -/
def AlignSt.ofTriple (p : List Nat × Nat × Nat) : AlignSt := ⟨p.1, p.2.1, p.2.1, p.2.2⟩

theorem alignIndex_eq (fl : List Bool) : alignIndex fl = .ofTriple (ArrayRows.alignPerm fl) := by
  refine List.foldl_hom AlignSt.ofTriple (g₂ := alignStep) (init := ([], 0, 0)) (fun p b => ?_)
  rw [ArrayRows.alignStep, apply_ite AlignSt.ofTriple, apply_ite AlignSt.ofTriple]
  rfl

theorem alignIndex_nreal (td : List V) :
    (alignIndex (td.map fun x => x == (PVal.zero : V))).nreal = countLocal td := by
  rw [alignIndex_eq, countLocal, ← List.countP_eq_length_filter]
  exact ArrayRows.alignPerm_next _ td

theorem alignIndex_aligned (k : Nat) (rest : List Bool) (hrest : ∀ b ∈ rest, b = false) :
    (alignIndex (List.replicate k true ++ rest)).moves = 0 := by
  rw [alignIndex_eq, ArrayRows.alignPerm_of_sorted k rest hrest]
  rfl

/-- the `Local` tags come first: the shape of tag data on which `align_particles` makes no move;
constant data has it, and so has any prefix of a source array's tags -/
def RealFirst (td : List V) : Prop :=
  ∃ k rest, td.map (fun x => x == (PVal.zero : V)) = List.replicate k true ++ rest ∧
    ∀ b ∈ rest, b = false

theorem realFirst_replicate (k : Nat) (x : V) : RealFirst (List.replicate k x) := by
  cases hx : x == (PVal.zero : V)
  · exact ⟨0, List.replicate k false, by simp [hx], fun b hb => (List.mem_replicate.1 hb).2⟩
  · exact ⟨k, [], by simp [hx], by simp⟩

theorem realFirst_take (td : List V) (m n : Nat) (hA : ∀ x ∈ td.take m, x = PVal.zero)
    (hB : ∀ x ∈ td.drop m, x ≠ PVal.zero) : RealFirst (td.take n) := by
  rw [← List.take_append_drop m td, List.take_append, RealFirst, List.map_append]
  refine ⟨_, _, congrArg (· ++ _) (List.map_eq_replicate_iff.2 fun x hx => ?_), fun b hb => ?_⟩
  · simp [hA x (List.mem_of_mem_take hx)]
  · obtain ⟨x, hx, rfl⟩ := List.mem_map.1 hb
    simpa using hB x (List.mem_of_mem_take hx)

theorem SInv.align {num : Nat} {done : List (AddReq V)} {nP : Nat} (pa : PArr V)
    (h : SInv num done nP pa.props)
    (htag : ∀ r ∈ done, r.name = "tag" → ∀ d, r.data = some d → RealFirst d) :
    ∃ k, alignParticles pa = .ok { pa with nReal := k } ∧
      ∀ t ∈ pa.props, t.name = "tag" → k = countLocal t.data := by
  obtain ⟨t, ht, htn, hf, htl⟩ := h.tag
  refine ⟨countLocal t.data, ?_, fun t' ht' e => by
    rw [AssocList.eq_of_key_eq (·.name) _ h.nodup ht' ht (e.trans htn.symm)]⟩
  -- the tag data is constant or the stored tags
  obtain ⟨k, rest, hk, hrest⟩ : RealFirst t.data := by
    rcases h.data_cases ht with ⟨x, hx⟩ | ⟨r, hr, hrn, hrd⟩
    · rw [hx]; exact realFirst_replicate _ x
    · exact htag r hr (hrn.trans htn) _ hrd
  simp only [alignParticles, hf, numParticles_of_inv pa h]
  rw [← htl, List.take_length, alignIndex_nreal, hk, alignIndex_aligned k rest hrest]
  simp

theorem bcast_id (nv num stride : Nat) (d : List V) (hnv : nv ≤ num)
    (hl : d.length = num * stride) : bcast nv d = d := by
  unfold bcast
  split
  · rename_i x
    simp only [List.length_singleton] at hl
    have hnum : num = 1 := Nat.eq_one_of_mul_eq_one_right hl.symm
    rw [if_neg (by omega)]
  · rfl

theorem addConstants_ok (cs : List (Const V)) (pa : PArr V)
    (hnd : ((pa.consts ++ cs).map (·.name)).Nodup)
    (hdis : ∀ c ∈ cs, ¬ ∃ p ∈ pa.props, p.name = c.name)
    (hty : ∀ c ∈ cs, constCType c.ctype = some c.ctype) :
    cs.foldlM addConstant pa = .ok { pa with consts := pa.consts ++ cs } := by
  obtain ⟨_, h, rfl⟩ := foldlM_prefix_inv addConstant
    (fun pa' seen => pa' = { pa with consts := pa.consts ++ seen }) cs pa (by simp)
    fun _ seen c rest e hs => by
      subst e hs
      have h1 : hasConst (pa.consts ++ seen) c.name = false := by
        simp only [hasConst, List.any_eq_false, beq_iff_eq]
        intro x hx e
        exact not_mem_done (done := (pa.consts ++ seen).map (·.name)) (rest := rest.map (·.name))
          (by simpa using hnd) (List.mem_map.2 ⟨x, hx, e⟩)
      have h2 : hasProp pa.props c.name = false :=
        Bool.eq_false_iff.2 fun hh => hdis c (by simp) ((hasProp_iff _ _).1 hh)
      exact ⟨_, by simp only [addConstant, h1, h2, hty c (by simp), Bool.false_eq_true, if_false]; rfl,
        by simp⟩
  exact h

theorem mkParticleArray_consts (name : String) (cs : List (Const V))
    (hnd : (cs.map (·.name)).Nodup) (hbase : ∀ c ∈ cs, ¬ isBase c.name)
    (hty : ∀ c ∈ cs, constCType c.ctype = some c.ctype) :
    mkParticleArray name cs [] = .ok { (emptyArr name : PArr V) with consts := cs } := by
  simp only [mkParticleArray, initializeArr, List.length_nil, beq_self_eq_true, if_true,
    Except.bind]
  rw [addConstants_ok]
  · simp [emptyArr]
  · simpa [emptyArr] using hnd
  · intro c hc ⟨p, hp, e⟩
    exact hbase c hc
      ((((sinv_clear 0).names c.name).1 (List.mem_map.2 ⟨p, hp, e⟩)).resolve_right nofun)
  · exact hty

theorem setOutputArrays_ok (pa : PArr V) (names : List String)
    (h : ∀ n ∈ names, ∃ p ∈ pa.props, p.name = n) :
    setOutputArrays pa names = .ok { pa with outArrs := names } := by
  have : names.all (fun n => hasProp pa.props n || hasConst pa.consts n) = true := by
    simp only [List.all_eq_true, Bool.or_eq_true]
    intro n hn
    exact Or.inl ((hasProp_iff _ _).2 (h n hn))
  simp [setOutputArrays, this]

end PysphVerif.DumpLoad
