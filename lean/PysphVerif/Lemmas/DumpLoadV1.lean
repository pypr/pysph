import PysphVerif.Lemmas.DumpLoad
/-!
C11, version-1 npz reader (`get_particle_array(name=…, **arrays)`): the file
stores only name → data, so every `add_property` call is made with
`default=None`, `stride=1` and a C type guessed from the name; on records under
`SInv` that is a request like any other.  The reader on any file entry
(`loadV1Arr_ok`) and on one written by `dump_v1` (`loadV1_spec`).
-/
set_option linter.unusedSectionVars false
namespace PysphVerif.DumpLoad

variable {V : Type} [PVal V] [DecidableEq V]

/-- the default a version-1 file leaves a property with: whatever `clear()` /
`get_particle_array` use for that NAME (the source array's default is not stored) -/
def v1Dflt (n : String) : V := if n = "gid" then PVal.uintMax else PVal.zero

def v1ReqStored (e : String × List V) : AddReq V :=
  { name := e.1, ty := v1CType e.1, dflt := v1Dflt e.1, data := some e.2, stride := 1 }

def v1ReqDefault (np : Nat) (n : String) : AddReq V :=
  { name := n, ty := v1CType n, dflt := v1Dflt n,
    data := if n = "gid" then some (List.replicate np PVal.uintMax) else none, stride := 1 }

def v1Missing (arrs : List (String × List V)) : List String :=
  defaultPropNames.filter (fun n => !(arrs.any (fun e => e.1 == n)))

/-- `default=None` picks the default the name already has; for a name no
request has named yet that is the one `clear()` gave, or `0` -/
theorem addProperty_none {num nP : Nat} {done : List (AddReq V)} (pa : PArr V)
    (h : SInv num done nP pa.props) (n : String) (hnew : ∀ q ∈ done, q.name ≠ n)
    (ty : CType) (data? : Option (List V)) (s : Nat) :
    addProperty pa n ty none data? s = addProperty pa n ty (some (v1Dflt n)) data? s := by
  have hv : (match findProp pa.props n with
      | none => (PVal.zero : V)
      | some p => p.default) = v1Dflt n := by
    cases hf : findProp pa.props n with
    | none =>
      have hn : n ≠ "gid" := by
        rintro rfl
        obtain ⟨p', hp'⟩ := findProp_isSome_of_mem pa.props "gid"
          (h.mem_of_name (Or.inl (Or.inr (Or.inr rfl))))
        rw [hp'] at hf; cases hf
      simp [v1Dflt, hn]
    | some p =>
      have hp : p ∈ pa.props := List.mem_of_find?_eq_some hf
      have hn : p.name = n := by simpa using List.find?_some hf
      exact (h.pending p hp fun q hq e => hnew q hq (e.trans hn)).default.trans (hn ▸ rfl)
  rw [← hv]
  rfl

theorem v1AddDefault_eq (np nv : Nat)
    (hb : bcast nv (List.replicate np (PVal.uintMax : V)) = List.replicate np PVal.uintMax)
    (pa : PArr V) (n : String) :
    v1AddDefault np nv pa n = addReq pa (v1ReqDefault np n) := by
  unfold v1AddDefault addReq v1ReqDefault
  by_cases h1 : n = "gid"
  · subst h1
    simp [hb, v1CType, v1Dflt]
  · by_cases h2 : n = "tag"
    · subst h2; simp [v1CType, v1Dflt]
    · by_cases h3 : n = "pid"
      · subst h3; simp [v1CType, v1Dflt]
      · simp [h1, h2, h3, v1CType, v1Dflt]

/-- what the version-1 reader delivers for source array `pa` written with options `o` -/
structure V1Loaded (o : Opts) (pa q : PArr V) : Prop where
  name : q.name = pa.name
  outArrs : q.outArrs = v1OutArrs
  consts : q.consts = []
  nodup : (q.props.map (·.name)).Nodup
  stored : ∀ p ∈ pa.props, p.name ∈ storedNames pa o.detailed →
    ∃ p' ∈ q.props, p'.name = p.name ∧ p'.data = p.data.take (numParticles pa o.onlyReal)
  defaults : ∀ n ∈ defaultPropNames, ∃ p' ∈ q.props, p'.name = n
  noExtra : ∀ p' ∈ q.props, p'.name ∈ storedNames pa o.detailed ∨ p'.name ∈ defaultPropNames
  /-- C type, stride and default are functions of the NAME: the source's are lost -/
  byName : ∀ p' ∈ q.props, p'.ctype = v1CType p'.name ∧ p'.stride = 1 ∧ p'.default = v1Dflt p'.name
  coh : ∃ n, (n = 0 ∨ n = numParticles pa o.onlyReal) ∧ ∀ p' ∈ q.props, p'.data.length = n
  nreal : ∀ t ∈ q.props, t.name = "tag" → q.nReal = countLocal t.data

theorem v1CType_base (n : String) (h : isBase n) : v1CType n = baseTy n := by
  rcases h with rfl | rfl | rfl <;> decide +kernel

theorem base_default (n : String) (h : isBase n) : n ∈ defaultPropNames := by
  rcases h with rfl | rfl | rfl <;> decide +kernel

theorem defaultPropNames_nodup : defaultPropNames.Nodup := by decide +kernel

theorem v1OutArrs_sub : ∀ n ∈ v1OutArrs, n ∈ defaultPropNames := by decide +kernel

/-- the requests the version-1 reader serves: the stored arrays in file order,
then the default properties that were not passed -/
def v1Reqs (num : Nat) (arrs : List (String × List V)) : List (AddReq V) :=
  arrs.map v1ReqStored ++ (v1Missing arrs).map (v1ReqDefault num)

section
variable (num : Nat) (arrs : List (String × List V))

theorem mem_v1Missing {n : String} :
    n ∈ v1Missing arrs ↔ n ∈ defaultPropNames ∧ n ∉ arrs.map (·.1) := by
  simp only [v1Missing, List.mem_filter, Bool.not_eq_true', List.any_eq_false, beq_iff_eq,
    List.mem_map, not_exists, not_and]

theorem v1Reqs_names :
    (v1Reqs (V := V) num arrs).map (·.name) = arrs.map (·.1) ++ v1Missing arrs := by
  simp [v1Reqs, List.map_map, Function.comp_def, v1ReqStored, v1ReqDefault]

theorem v1Reqs_nodup (hk : (arrs.map (·.1)).Nodup) :
    ((v1Reqs (V := V) num arrs).map (·.name)).Nodup := by
  rw [v1Reqs_names, List.nodup_append]
  exact ⟨hk, defaultPropNames_nodup.sublist List.filter_sublist,
    fun a ha b hb hab => ((mem_v1Missing arrs).1 hb).2 (hab ▸ ha)⟩

theorem v1ReqStored_ok {e : String × List V} (hlen : e.2.length = num) :
    ReqOK num (v1ReqStored e) :=
  ⟨Nat.le_refl 1, fun d hd => by cases hd; exact hlen.trans (Nat.mul_one num).symm,
    fun hb => ⟨rfl, v1CType_base _ hb⟩⟩

theorem v1ReqDefault_ok (n : String) : ReqOK num (v1ReqDefault (V := V) num n) := by
  refine ⟨Nat.le_refl 1, fun d hd => ?_, fun hb => ⟨rfl, v1CType_base _ hb⟩⟩
  simp only [v1ReqDefault] at hd ⊢
  split at hd
  · cases hd; simp
  · cases hd

theorem v1Reqs_byName : ∀ r ∈ v1Reqs (V := V) num arrs,
    r.ty = v1CType r.name ∧ r.stride = 1 ∧ r.dflt = v1Dflt r.name ∧
      (r.name ∈ arrs.map (·.1) ∨ r.name ∈ defaultPropNames) := by
  intro r hr
  rcases List.mem_append.1 hr with h | h
  · obtain ⟨e, he, rfl⟩ := List.mem_map.1 h
    exact ⟨rfl, rfl, rfl, Or.inl (List.mem_map.2 ⟨e, he, rfl⟩)⟩
  · obtain ⟨n, hn, rfl⟩ := List.mem_map.1 h
    exact ⟨rfl, rfl, rfl, Or.inr ((mem_v1Missing arrs).1 hn).1⟩

theorem v1Reqs_default : ∀ n ∈ defaultPropNames, n ∈ (v1Reqs (V := V) num arrs).map (·.name) := by
  intro n hn
  rw [v1Reqs_names, List.mem_append]
  by_cases hk : n ∈ arrs.map (·.1)
  · exact Or.inl hk
  · exact Or.inr ((mem_v1Missing arrs).2 ⟨hn, hk⟩)

end

theorem loadV1Arr_ok (name : String) (arrs : List (String × List V)) (num : Nat)
    (hne : arrs ≠ []) (hk : (arrs.map (·.1)).Nodup) (hlen : ∀ x ∈ arrs, x.2.length = num)
    (htag : ∀ td, dictGet? arrs "tag" = some td → RealFirst td) :
    ∃ q nP, loadV1Arr name arrs = .ok q ∧ q.name = name ∧ q.consts = [] ∧
      q.outArrs = v1OutArrs ∧ SInv num (v1Reqs num arrs) nP q.props ∧
      ∀ t ∈ q.props, t.name = "tag" → q.nReal = countLocal t.data := by
  -- `np` is `num`, and no array is longer, so the len-1 broadcast does nothing
  obtain ⟨e, hlast⟩ := Option.isSome_iff_exists.1 (List.getLast?_isSome.2 hne)
  have hel : e.2.length = num := hlen e (List.mem_of_getLast? hlast)
  simp only [loadV1Arr, hlast, hel]
  generalize hnvdef : arrs.foldl _ _ = nv
  have hnv : nv ≤ num := hnvdef ▸ foldl_le_of_forall _ arrs num
    (fun _ x hx hm => Nat.max_le.2 ⟨hm, Nat.le_of_eq (hlen x hx)⟩) _ (by split <;> omega)
  obtain ⟨pa1, hf1, hn1, hc1, nP1, hinv1⟩ :=
    foldReq_ok (num := num) (fun q => q) (fun pa' e => v1AddStored pa' (e.1, bcast nv e.2))
      v1ReqStored arrs
      (fun pa' e he _ _ hinv hnew q hq => ⟨q, by
        rw [bcast_id nv num 1 e.2 hnv (by rw [hlen e he, Nat.mul_one])]
        exact (addProperty_none pa' hinv e.1 hnew (v1CType e.1) (some e.2) 1).trans hq, rfl⟩)
      [] 0 (emptyArr name) (sinv_clear _)
      (fun e he => v1ReqStored_ok num (hlen e he))
      (by simpa [List.map_map, Function.comp_def, v1ReqStored] using hk)
  simp only [List.nil_append] at hinv1
  obtain ⟨pa2, hf2, hn2, hc2, nP2, hinv2⟩ :=
    foldReq_ok (num := num) (fun q => q) (v1AddDefault num nv) (v1ReqDefault num) (v1Missing arrs)
      (fun pa' n _ _ _ _ _ q hq =>
        ⟨q, (v1AddDefault_eq num nv (bcast_id nv num 1 _ hnv (by simp)) pa' n).trans hq, rfl⟩)
      (arrs.map v1ReqStored) nP1 pa1 hinv1
      (fun n _ => v1ReqDefault_ok num n)
      (v1Reqs_nodup num arrs hk)
  -- align_particles: a tag request that carries data carries the stored tags
  obtain ⟨k, halign, hk'⟩ := hinv2.align pa2 fun r hr hrn d hrd => by
    apply htag
    rcases List.mem_append.1 hr with h | h
    · obtain ⟨e, he, rfl⟩ := List.mem_map.1 h
      cases hrd
      exact (show e.1 = "tag" from hrn) ▸ dictGet?_of_mem arrs hk e he
    · obtain ⟨n, hn, rfl⟩ := List.mem_map.1 h
      cases (show n = "tag" from hrn)
      cases hrd
  have hout : setOutputArrays ({ pa2 with nReal := k } : PArr V) v1OutArrs =
      .ok { pa2 with nReal := k, outArrs := v1OutArrs } :=
    setOutputArrays_ok _ _ fun n hn =>
      hinv2.mem_of_name (Or.inr (v1Reqs_default num arrs n (v1OutArrs_sub n hn)))
  refine ⟨{ pa2 with nReal := k, outArrs := v1OutArrs }, nP2, ?_,
    hn2.trans hn1, by simp [hc2, hc1, emptyArr], rfl, hinv2, hk'⟩
  simp only [v1Missing] at hf2
  simp only [List.foldlM_map, hf1, hf2, Except.bind, halign, hout]

theorem loadV1_spec (pa : PArr V) (hwf : WF pa) (o : Opts)
    (hs1 : ∀ p ∈ pa.props, p.name ∈ storedNames pa o.detailed → p.stride = 1) :
    ∃ q, loadV1Arr pa.name (arrsOf o pa) = .ok q ∧ V1Loaded o pa q := by
  obtain ⟨_, hs⟩ := gpa_spec pa hwf o
  generalize arrsOf o pa = arrs at hs
  have hent : ∀ e ∈ arrs, e.1 ∈ storedNames pa o.detailed ∧
      e.2.length = numParticles pa o.onlyReal := by
    intro e he
    obtain ⟨p, hp, hpn, hst, hd⟩ := hs.of_get hwf (dictGet?_of_mem arrs hs.keys e he)
    have hl := hwf.length_take o.onlyReal hp
    rw [hs1 p hp (hpn ▸ hst), Nat.mul_one] at hd hl
    exact ⟨hst, hd ▸ hl⟩
  have hstoredEnt : ∀ p ∈ pa.props, p.name ∈ storedNames pa o.detailed →
      (p.name, p.data.take (numParticles pa o.onlyReal)) ∈ arrs := by
    intro p hp hst
    apply mem_of_dictGet?
    rw [hs.of_prop hwf hp, if_pos hst, hs1 p hp hst, Nat.mul_one]
  obtain ⟨q, nP, hload, hname, hconsts, hout, hinv, hnreal⟩ :=
    loadV1Arr_ok pa.name arrs (numParticles pa o.onlyReal) (hs.ne_nil hwf) hs.keys
      (fun x hx => (hent x hx).2) (stored_tag_realFirst pa hwf o arrs hs)
  have hreq : ∀ p' ∈ q.props, ∃ r ∈ v1Reqs (numParticles pa o.onlyReal) arrs,
      r.name = p'.name ∧ Served nP r p' := by
    intro p' hp'
    obtain ⟨r, hr, hrn⟩ := List.mem_map.1 (((hinv.names p'.name).1 (List.mem_map_of_mem hp')).elim
      (fun hb => v1Reqs_default _ arrs _ (base_default _ hb)) id)
    exact ⟨r, hr, hrn, hinv.served p' hp' r hr hrn⟩
  refine ⟨q, hload,
    { name := hname, outArrs := hout, consts := hconsts, nodup := hinv.nodup, stored := ?_,
      defaults := ?_, noExtra := ?_, byName := ?_, coh := ⟨nP, hinv.np, ?_⟩, nreal := hnreal }⟩
  · intro p hp hst
    obtain ⟨p', hp', e1, hsv⟩ := hinv.get (r := v1ReqStored (p.name, _))
      (List.mem_append.2 (Or.inl (List.mem_map.2 ⟨_, hstoredEnt p hp hst, rfl⟩)))
    exact ⟨p', hp', e1, hsv.data _ rfl⟩
  · exact fun n hn => hinv.mem_of_name (Or.inr (v1Reqs_default _ arrs n hn))
  · intro p' hp'
    obtain ⟨r, hr, hrn, _⟩ := hreq p' hp'
    rw [← hrn]
    rcases (v1Reqs_byName _ _ r hr).2.2.2 with h | h
    · obtain ⟨e, he, hen⟩ := List.mem_map.1 h
      exact Or.inl (hen ▸ (hent e he).1)
    · exact Or.inr h
  · intro p' hp'
    obtain ⟨r, hr, hrn, hsv⟩ := hreq p' hp'
    obtain ⟨a, b, c, _⟩ := v1Reqs_byName _ _ r hr
    exact ⟨by rw [hsv.ctype, a, hrn], by rw [hsv.stride, b], by rw [hsv.default, c, hrn]⟩
  · intro p' hp'
    obtain ⟨r, hr, _, hsv⟩ := hreq p' hp'
    rw [hsv.len, hsv.stride, (v1Reqs_byName _ _ r hr).2.1, Nat.mul_one]

end PysphVerif.DumpLoad
