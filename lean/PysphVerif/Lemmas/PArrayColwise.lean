import PysphVerif.Lemmas.PArrayInv
import Mathlib.Data.List.GetD
/-!
The array as a list of whole particles (records), and the shape most mutators
share: every column is rewritten, keeping its name, so that it holds a new
table of rows.  `colwise` gives the invariant, the particle count and the
records of the result at once; the records are the transposed tables
(`transposeCols`), for which appending, gathering and padding are proved once.
-/
namespace PysphVerif.PArray

/-- a record: property name ↦ row -/
abbrev Rec := List (String × List Int)

def particleAt (pa : PA) (k : Nat) : List (String × List Int) :=
  pa.props.map (fun (c : Col) => (c.name, (rowsOf (pa.strideOf c.name) c.data).getD k []))

def particles (pa : PA) : List (List (String × List Int)) :=
  (List.range pa.n).map (particleAt pa)

/-- the particle `extend` appends -/
def defaultParticle (pa : PA) : List (String × List Int) :=
  pa.props.map (fun (c : Col) => (c.name, defaultRow pa c.name))

theorem particles_length (pa : PA) : (particles pa).length = pa.n := by simp [particles]

theorem particles_getD (pa : PA) (i : Nat) (hi : i < pa.n) :
    (particles pa).getD i [] = particleAt pa i := by
  unfold particles
  rw [List.getD_eq_getElem?_getD, List.getElem?_map, List.getElem?_range hi]; rfl

theorem particles_of_n_zero (pa : PA) (h : pa.n = 0) : particles pa = [] := by
  unfold particles; rw [h]; rfl

theorem defaultRow_length (pa : PA) (nm : String) : (defaultRow pa nm).length = pa.strideOf nm := by
  simp [defaultRow]

theorem Inv.rows {pa : PA} (h : Inv pa) {c : Col} (hc : c ∈ pa.props) :
    (rowsOf (pa.strideOf c.name) c.data).length = pa.n ∧
      ∀ r ∈ rowsOf (pa.strideOf c.name) c.data, r.length = pa.strideOf c.name :=
  rowsOf_uniform _ (h.len c hc).1 pa.n c.data (h.len c hc).2

def transposeCols (m : Nat) (cols : List (String × List (List Int))) : List Rec :=
  (List.range m).map (fun k => cols.map (fun c => (c.1, c.2.getD k [])))

theorem particles_eq_transpose (pa : PA) :
    particles pa = transposeCols pa.n
      (pa.props.map (fun (c : Col) => (c.name, rowsOf (pa.strideOf c.name) c.data))) := by
  unfold particles transposeCols particleAt
  simp only [List.map_map]
  rfl

theorem transposeCols_congr {β : Type} (m : Nat) (L : List β)
    (g g' : β → String × List (List Int)) (h : ∀ x ∈ L, g x = g' x) :
    transposeCols m (L.map g) = transposeCols m (L.map g') := by
  rw [List.map_congr_left h]

theorem transposeCols_append {β : Type} (L : List β) (nm : β → String)
    (A B : β → List (List Int)) (m m1 m2 : Nat) (hm : m = m1 + m2)
    (hA : ∀ x ∈ L, (A x).length = m1) :
    transposeCols m (L.map (fun x => (nm x, A x ++ B x))) =
      transposeCols m1 (L.map (fun x => (nm x, A x))) ++
      transposeCols m2 (L.map (fun x => (nm x, B x))) := by
  subst hm
  unfold transposeCols
  rw [List.range_add, List.map_append, List.map_map]
  congr 1
  · apply List.map_congr_left
    intro k hk
    have hk : k < m1 := by simpa using hk
    rw [List.map_map, List.map_map]
    apply List.map_congr_left
    intro x hx
    simp only [Function.comp]
    rw [List.getD_append _ _ _ _ (by rw [hA x hx]; exact hk)]
  · apply List.map_congr_left
    intro k _
    simp only [Function.comp]
    rw [List.map_map, List.map_map]
    apply List.map_congr_left
    intro x hx
    simp only [Function.comp]
    rw [List.getD_append_right _ _ _ _ (by rw [hA x hx]; omega), hA x hx,
      Nat.add_sub_cancel_left]

theorem transposeCols_of_map {β : Type} (L : List β) (nm : β → String) (idx : List Nat)
    (f : β → Nat → List Int) :
    transposeCols idx.length (L.map (fun x => (nm x, idx.map (f x)))) =
      idx.map (fun i => L.map (fun x => (nm x, f x i))) := by
  unfold transposeCols
  rw [← range_map_getD idx 0 (fun i => L.map (fun x => (nm x, f x i)))]
  apply List.map_congr_left
  intro k hk
  have hk : k < idx.length := by simpa using hk
  rw [List.map_map]
  apply List.map_congr_left
  intro x _
  simp only [Function.comp]
  rw [map_getD_of_lt idx (f x) k 0 [] hk]

theorem transposeCols_replicate {β : Type} (L : List β) (nm : β → String) (k : Nat)
    (f : β → List Int) :
    transposeCols k (L.map (fun x => (nm x, List.replicate k (f x)))) =
      List.replicate k (L.map (fun x => (nm x, f x))) := by
  have := transposeCols_of_map L nm (List.replicate k 0) (fun x _ => f x)
  simpa [List.map_replicate, List.map_const'] using this

theorem transposeCols_take {β : Type} (L : List β) (nm : β → String) (R : β → List (List Int))
    (n m : Nat) :
    transposeCols (min m n) (L.map (fun x => (nm x, (R x).take m))) =
      (transposeCols n (L.map (fun x => (nm x, R x)))).take m := by
  unfold transposeCols
  rw [← List.map_take, List.take_range]
  apply List.map_congr_left
  intro k hk
  have hk : k < min m n := by simpa using hk
  rw [List.map_map, List.map_map]
  apply List.map_congr_left
  intro x hx
  simp only [Function.comp]
  rw [List.getD_eq_getElem?_getD, List.getD_eq_getElem?_getD, List.getElem?_take,
    if_pos (by omega)]

structure Holds (pa q : PA) (m : Nat) (recs : List Rec) : Prop where
  inv : Inv q
  n : q.n = m
  particles : particles q = recs
  dflt : defaultParticle q = defaultParticle pa

theorem colwise {pa q : PA} (h : Inv pa) (F : Col → Col) (G : Col → List (List Int)) (m' : Nat)
    (hq : q.props = pa.props.map F) (hst : q.stride = pa.stride) (hdf : q.defaults = pa.defaults)
    (hn : ∀ c ∈ pa.props, (F c).name = c.name)
    (hG : ∀ c ∈ pa.props, (F c).data = flat (G c) ∧ (G c).length = m' ∧
      ∀ r ∈ G c, r.length = pa.strideOf c.name) :
    Holds pa q m' (transposeCols m' (pa.props.map (fun (c : Col) => (c.name, G c)))) := by
  have hso : ∀ nm, q.strideOf nm = pa.strideOf nm := fun nm => by unfold PA.strideOf; rw [hst]
  have hF : InvF q.props q.stride q.defaults m' := by
    rw [hq, hst, hdf]
    refine h.toF.mapCols F m' hn (fun c hc => ?_)
    rw [(hG c hc).1, flat_length _ _ (hG c hc).2.2, (hG c hc).2.1]; rfl
  refine ⟨hF.toInv, hF.n_eq, ?_, ?_⟩
  · rw [particles_eq_transpose, hF.n_eq, hq, List.map_map]
    apply transposeCols_congr
    intro c hc
    simp only [Function.comp]
    rw [hn c hc, hso, (hG c hc).1, rowsOf_flat _ (h.len c hc).1 _ (hG c hc).2.2]
  · unfold defaultParticle defaultRow PA.defaultOf
    rw [hq, List.map_map]
    apply List.map_congr_left
    intro c hc
    simp only [Function.comp]
    rw [hn c hc, hso, hdf]

end PysphVerif.PArray
