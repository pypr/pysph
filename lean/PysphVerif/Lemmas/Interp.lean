import Mathlib.Algebra.Order.Field.Basic
import Mathlib.Tactic.Ring
import Mathlib.Algebra.BigOperators.Group.List.Basic
import Mathlib.Algebra.BigOperators.Ring.List
import Mathlib.Algebra.Order.BigOperators.Group.List
import PysphVerif.Lemmas.FoldSelect
import PysphVerif.Lemmas.FoldSum
import PysphVerif.Lemmas.OrderChain
import PysphVerif.Model.Interp
set_option linter.unusedSectionVars false
/-!
Helper lemmas for C14.  The folds of `Model/Interp.lean` are sums over the neighbour list
(`sumOver`), by `foldl_additive`; the binding state machine is handled through the invariants
`Bound` and `Fresh`, carried along a history by `run_induction`.
-/
namespace PysphVerif.Interp

section Sums
variable {α : Type} [Field α]

def sumOver (g : Nbr α → α) (l : List (Nbr α)) : α := (l.map g).sum

@[simp] theorem sumOver_cons (g : Nbr α → α) (x : Nbr α) (xs : List (Nbr α)) :
    sumOver g (x :: xs) = g x + sumOver g xs := List.sum_cons

theorem foldl_step_zero (step : α → Nbr α → α) (g : Nbr α → α)
    (h : ∀ acc nb, step acc nb = acc + g nb) (l : List (Nbr α)) :
    l.foldl step 0 = sumOver g l :=
  (foldl_additive id step g h l 0).trans (zero_add _)

theorem foldl_acc2_eq (step : Acc2 α → Nbr α → Acc2 α) (wt : Nbr α → α)
    (h : ∀ a nb, step a nb = ⟨a.prop + wt nb * nb.f, a.den + wt nb⟩) (l : List (Nbr α)) :
    l.foldl step ⟨0, 0⟩ = ⟨sumOver (fun nb => wt nb * nb.f) l, sumOver wt l⟩ :=
  congrArg₂ Acc2.mk
    ((foldl_additive Acc2.prop step (fun nb => wt nb * nb.f) (fun a nb => by rw [h]) l _).trans
      (zero_add _))
    ((foldl_additive Acc2.den step wt (fun a nb => by rw [h]) l _).trans (zero_add _))

theorem shepard_fold (l : List (Nbr α)) :
    l.foldl shepardStep ⟨0, 0⟩ =
      ⟨sumOver (fun nb => nb.w * nb.f) l, sumOver (fun nb => nb.w) l⟩ :=
  foldl_acc2_eq shepardStep (fun nb => nb.w) (fun _ _ => rfl) l

theorem splashNorm_fold (l : List (Nbr α)) :
    l.foldl splashNormStep ⟨0, 0⟩ =
      ⟨sumOver (fun nb => (nb.m / nb.rho) * nb.w * nb.f) l,
       sumOver (fun nb => (nb.m / nb.rho) * nb.w) l⟩ :=
  foldl_acc2_eq splashNormStep (fun nb => nb.m / nb.rho * nb.w) (fun _ _ => rfl) l

theorem sumOver_congr {g g' : Nbr α → α} {l : List (Nbr α)}
    (h : ∀ nb ∈ l, g nb = g' nb) : sumOver g l = sumOver g' l := by
  unfold sumOver; rw [List.map_congr_left h]

theorem sumOver_mul_left (c : α) (g : Nbr α → α) (l : List (Nbr α)) :
    sumOver (fun nb => c * g nb) l = c * sumOver g l := List.sum_map_mul_left l g c

theorem sumOver_add (g g' : Nbr α → α) (l : List (Nbr α)) :
    sumOver (fun nb => g nb + g' nb) l = sumOver g l + sumOver g' l := List.sum_map_add

theorem sumOver_zero {g : Nbr α → α} {l : List (Nbr α)} (h : ∀ nb ∈ l, g nb = 0) :
    sumOver g l = 0 := List.sum_eq_zero (List.forall_mem_map.mpr h)

theorem sumOver_append (g : Nbr α → α) (l1 l2 : List (Nbr α)) :
    sumOver g (l1 ++ l2) = sumOver g l1 + sumOver g l2 := by
  unfold sumOver; rw [List.map_append, List.sum_append]

theorem sumOver_perm (g : Nbr α → α) {l1 l2 : List (Nbr α)} (h : l1.Perm l2) :
    sumOver g l1 = sumOver g l2 := (h.map g).sum_eq

theorem sumOver_filter (g : Nbr α → α) (keep : Nbr α → Bool) (l : List (Nbr α))
    (h : ∀ nb ∈ l, keep nb = false → g nb = 0) :
    sumOver g (l.filter keep) = sumOver g l := by
  have hz : sumOver g (l.filter fun nb => !keep nb) = 0 := sumOver_zero fun nb hnb =>
    have ⟨hl, hk⟩ := List.mem_filter.mp hnb
    h nb hl (Bool.eq_false_of_not_eq_true' hk)
  rw [← sumOver_perm g (List.filter_append_perm keep l), sumOver_append, hz, add_zero]

theorem sumOver_mul_right (g : Nbr α → α) (c : α) (l : List (Nbr α)) :
    sumOver (fun nb => g nb * c) l = sumOver g l * c := List.sum_map_mul_right l g c

theorem weighted_sum_const (wt f : Nbr α → α) (l : List (Nbr α)) (c : α)
    (hf : ∀ nb ∈ l, wt nb ≠ 0 → f nb = c) :
    sumOver (fun nb => wt nb * f nb) l = c * sumOver wt l := by
  rw [← sumOver_mul_left]
  apply sumOver_congr
  intro nb hnb
  by_cases h : wt nb = 0
  · rw [h, zero_mul, mul_zero]
  · rw [hf nb hnb h, mul_comm]

theorem momentEntry_eq (d : Pos α) (l : List (Nbr α)) (r c : Nat) :
    momentEntry d l r c = sumOver (momentTerm d r c) l :=
  foldl_step_zero (momentStep d r c) _ (fun _ _ => rfl) l

theorem psphEntry_eq (l : List (Nbr α)) (r : Nat) :
    psphEntry l r = sumOver (psphTerm r) l :=
  foldl_step_zero (psphStep r) _ (fun _ _ => rfl) l

theorem momentTerm_succ (d : Pos α) (r c : Nat) (nb : Nbr α) :
    momentTerm d r (c + 1) nb = -(xij d nb c) * momentTerm d r 0 nb := by
  cases r <;> exact mul_assoc _ _ _

theorem psphTerm_eq (d : Pos α) (r : Nat) (nb : Nbr α) :
    psphTerm r nb = nb.f * momentTerm d r 0 nb := by
  cases r <;> exact mul_assoc _ _ _

/-- `x = (F, ∂₀F, ∂₁F, ∂₂F)`; `hf`: the neighbour's value is that of the affine field,
`F − ∇F·XIJ` -/
theorem psphTerm_affine (d : Pos α) (nb : Nbr α) (x : Nat → α)
    (hf : nb.f = x 0 - (x 1 * xij d nb 0 + x 2 * xij d nb 1 + x 3 * xij d nb 2)) (r : Nat) :
    psphTerm r nb = ((List.range 4).map fun c => momentTerm d r c nb * x c).sum := by
  show _ = momentTerm d r 0 nb * x 0 + (momentTerm d r 1 nb * x 1 +
    (momentTerm d r 2 nb * x 2 + (momentTerm d r 3 nb * x 3 + 0)))
  rw [psphTerm_eq d, hf, momentTerm_succ, momentTerm_succ, momentTerm_succ]
  ring

theorem sum_mul_sumOver (cs : List Nat) (t : Nat → Nbr α → α) (x : Nat → α) (l : List (Nbr α)) :
    (cs.map fun c => sumOver (t c) l * x c).sum =
      sumOver (fun nb => (cs.map fun c => t c nb * x c).sum) l := by
  induction cs with
  | nil => exact (sumOver_zero fun _ _ => rfl).symm
  | cons c cs ih =>
    simp only [List.map_cons, List.sum_cons]
    rw [sumOver_add, sumOver_mul_right, ih]

theorem sum_map_mul_sub (cs : List Nat) (m x y : Nat → α) :
    (cs.map fun c => m c * (x c - y c)).sum =
      (cs.map fun c => m c * x c).sum - (cs.map fun c => m c * y c).sum := by
  induction cs with
  | nil => exact (sub_zero 0).symm
  | cons c cs ih => simp only [List.map_cons, List.sum_cons, ih]; ring

theorem sum_range_truncate {f : Nat → α} {k n : Nat} (hkn : k ≤ n) (hf : ∀ c, k ≤ c → f c = 0) :
    ((List.range n).map f).sum = ((List.range k).map f).sum := by
  induction n, hkn using Nat.le_induction with
  | base => rfl
  | succ n hn ih => rw [List.sum_range_succ, ih, hf n hn, add_zero]

end Sums

section OrderedSums
open scoped PysphVerif.OrderChain
variable {α : Type} [Field α] [LinearOrder α] [IsStrictOrderedRing α]

@[simp] theorem sumOver_nil (g : Nbr α → α) : sumOver g [] = 0 := rfl

theorem sumOver_le {g g' : Nbr α → α} {l : List (Nbr α)}
    (h : ∀ nb ∈ l, g nb ≤ g' nb) : sumOver g l ≤ sumOver g' l := List.sum_le_sum h

theorem weighted_sum_between (wt f : Nbr α → α) (l : List (Nbr α)) (lo hi : α)
    (hw : ∀ nb ∈ l, 0 ≤ wt nb)
    (hf : ∀ nb ∈ l, 0 < wt nb → lo ≤ f nb ∧ f nb ≤ hi) :
    lo * sumOver wt l ≤ sumOver (fun nb => wt nb * f nb) l ∧
    sumOver (fun nb => wt nb * f nb) l ≤ hi * sumOver wt l := by
  have term : ∀ nb ∈ l, lo * wt nb ≤ wt nb * f nb ∧ wt nb * f nb ≤ hi * wt nb := by
    intro nb hnb
    rcases (hw nb hnb).eq_or_lt with h | h
    · rw [← h, zero_mul, mul_zero, mul_zero]; exact ⟨le_rfl, le_rfl⟩
    · rw [mul_comm lo, mul_comm hi]
      exact ⟨mul_le_mul_of_nonneg_left (hf nb hnb h).1 h.le,
        mul_le_mul_of_nonneg_left (hf nb hnb h).2 h.le⟩
  rw [← sumOver_mul_left, ← sumOver_mul_left]
  exact ⟨sumOver_le fun nb hnb => (term nb hnb).1, sumOver_le fun nb hnb => (term nb hnb).2⟩

theorem weighted_mean_between (wt f : Nbr α → α) (l : List (Nbr α)) (lo hi : α)
    (hw : ∀ nb ∈ l, 0 ≤ wt nb)
    (hf : ∀ nb ∈ l, 0 < wt nb → lo ≤ f nb ∧ f nb ≤ hi)
    (hpos : 0 < sumOver wt l) :
    lo ≤ sumOver (fun nb => wt nb * f nb) l / sumOver wt l ∧
    sumOver (fun nb => wt nb * f nb) l / sumOver wt l ≤ hi :=
  have h := weighted_sum_between wt f l lo hi hw hf
  ⟨(le_div_iff₀ hpos).2 h.1, (div_le_iff₀ hpos).2 h.2⟩

theorem scalar_results_of_sums (tol : α) {l1 l2 : List (Nbr α)}
    (h : ∀ g : Nbr α → α, (∀ nb, nb.w = 0 → g nb = 0) → sumOver g l1 = sumOver g l2) :
    shepard tol l1 = shepard tol l2 ∧ sph l1 = sph l2 ∧ splash l1 = splash l2 ∧
    splashNorm tol l1 = splashNorm tol l2 := by
  unfold shepard sph splash splashNorm
  simp only [shepard_fold, splashNorm_fold, foldl_step_zero sphStep _ fun _ _ => rfl,
    foldl_step_zero splashStep _ fun _ _ => rfl]
  rw [h (fun nb => nb.m / nb.rho * nb.w * nb.f) fun nb hw => by rw [hw, mul_zero, zero_mul],
    h (fun nb => nb.m / nb.rho * nb.w) fun nb hw => by rw [hw, mul_zero],
    h (fun nb => nb.w * nb.f) fun nb hw => by rw [hw, zero_mul], h _ fun nb hw => hw]
  exact ⟨rfl, rfl, rfl, rfl⟩

end OrderedSums

/-- the Interpolator's invariant: evaluator and neighbour structure are bound to
exactly `self.particle_arrays + [self.pa]` -/
def Bound (s : IState) : Prop :=
  s.evalObjs = s.arrays ++ [s.pts] ∧ s.nnps.objs = s.arrays ++ [s.pts] ∧
  s.evalNnpsCurrent = true

/-- the neighbour lists `interpolate` uses are those of the particles as they are -/
def Fresh (s : IState) : Prop := s.nnps.seen = s.nnps.objs.map s.ver

theorem neighboursCurrent_iff (s : IState) :
    (interpolateReads s).neighboursCurrent = true ↔ s.evalNnpsCurrent = true ∧ Fresh s := by
  simp only [interpolateReads, Fresh, Bool.and_eq_true, decide_eq_true_eq]

def Op.isInterp : Op → Bool
  | Op.evalUpdateArrays _ => false
  | _ => true

def Op.isMutate : Op → Bool
  | Op.mutate _ => true
  | _ => false

theorem bound_step (s : IState) (op : Op) (hop : op.isInterp = true) (h : Bound s) :
    Bound (step s op) := by
  cases op with
  | setPoints p => exact ⟨rfl, rfl, rfl⟩
  | updateArrays as => exact ⟨rfl, rfl, rfl⟩
  | update => exact h
  | mutate o => exact h
  | touch o => exact h
  | evalUpdateArrays objs => cases hop

def Op.isTouch : Op → Bool
  | Op.touch _ => true
  | _ => false

theorem fresh_touch (s : IState) (o : Nat) (h : Fresh s) : Fresh (step s (Op.touch o)) := h

theorem fresh_step (s : IState) (op : Op) (hop : op.isMutate = false)
    (hop2 : op.isTouch = false) : Fresh (step s op) := by
  cases op with
  | touch o => cases hop2
  | mutate o => cases hop
  | setPoints p => rfl
  | updateArrays as => rfl
  | update => rfl
  | evalUpdateArrays objs => rfl

def lastArrays (a0 : List Nat) : List Op → List Nat
  | [] => a0
  | Op.updateArrays as :: rest => lastArrays as rest
  | _ :: rest => lastArrays a0 rest

def lastPts (p0 : Nat) : List Op → Nat
  | [] => p0
  | Op.setPoints p :: rest => lastPts p rest
  | _ :: rest => lastPts p0 rest

theorem run_arrays (s : IState) (ops : List Op) : (run s ops).arrays = lastArrays s.arrays ops := by
  induction ops generalizing s with
  | nil => rfl
  | cons op rest ih => exact (ih (step s op)).trans (by cases op <;> rfl)

theorem run_pts (s : IState) (ops : List Op) : (run s ops).pts = lastPts s.pts ops := by
  induction ops generalizing s with
  | nil => rfl
  | cons op rest ih => exact (ih (step s op)).trans (by cases op <;> rfl)

theorem run_induction {P : IState → Prop} {ops : List Op}
    (hstep : ∀ s, ∀ op ∈ ops, P s → P (step s op)) {s : IState} (h : P s) : P (run s ops) :=
  List.foldlRecOn ops step h fun s hs op hop => hstep s op hop hs

theorem run_append (s : IState) (ops ops' : List Op) :
    run s (ops ++ ops') = run (run s ops) ops' := List.foldl_append

theorem init_spec (arrays : List Nat) (p : Nat) :
    Bound (init arrays p) ∧ Fresh (init arrays p) ∧ (init arrays p).arrays = arrays ∧
    (init arrays p).pts = p :=
  ⟨⟨rfl, rfl, rfl⟩, rfl, rfl, rfl⟩

/-- the evaluator reads the constants of the very arrays whose per-particle
properties it reads (`set_array` binds both from the same `pa`) -/
def ConstsBound (s : IState) : Prop := s.evalConsts = s.evalObjs

theorem constsBound_step (s : IState) (op : Op) (h : ConstsBound s) : ConstsBound (step s op) := by
  cases op with
  | setPoints p => rfl
  | updateArrays as => rfl
  | evalUpdateArrays objs => rfl
  | update => exact h
  | mutate o => exact h
  | touch o => exact h

section Staging
variable {α : Type} [OfNat α 0]

theorem stageStep_self (env : Nat → ArrData α) (prop : String) (temp : Temp α) (o : Nat) :
    stageStep env prop temp o o = stagedValues (env o) prop := if_pos rfl

theorem stageStep_other (env : Nat → ArrData α) (prop : String) (temp : Temp α) (o x : Nat)
    (h : x ≠ o) : stageStep env prop temp o x = temp x := if_neg h

theorem stage_apply (env : Nat → ArrData α) (prop : String) (arrays : List Nat)
    (temp : Temp α) (o : Nat) :
    stage env prop arrays temp o =
      if o ∈ arrays then stagedValues (env o) prop else temp o := by
  induction arrays generalizing temp with
  | nil => rfl
  | cons a as ih =>
    show stage env prop as (stageStep env prop temp a) o = _
    rw [ih]
    by_cases has : o ∈ as
    · rw [if_pos has, if_pos (List.mem_cons_of_mem _ has)]
    · rw [if_neg has]
      by_cases hoa : o = a
      · rw [hoa, stageStep_self, if_pos List.mem_cons_self]
      · rw [stageStep_other _ _ _ _ _ hoa, if_neg fun h => (List.mem_cons.mp h).elim hoa has]

theorem hrun_s (h : HState α) (ops : List (HOp α)) :
    (hrun h ops).s = run h.s (bindOps ops) := by
  induction ops generalizing h with
  | nil => rfl
  | cons op rest ih => cases op <;> exact ih _

theorem hrun_append (h : HState α) (ops ops' : List (HOp α)) :
    hrun h (ops ++ ops') = hrun (hrun h ops) ops' := List.foldl_append

end Staging

section Index

theorem ravelIndex_lt (sh idx : List Nat) (h : inBounds sh idx = true) :
    ravelIndex sh idx < size sh := by
  fun_induction inBounds sh idx with
  | case1 => exact Nat.one_pos
  | case2 n ns i is ih =>
    rw [Bool.and_eq_true, decide_eq_true_eq] at h
    calc i * size ns + ravelIndex ns is < i * size ns + size ns := Nat.add_lt_add_left (ih h.2) _
      _ = (i + 1) * size ns := (Nat.succ_mul ..).symm
      _ ≤ n * size ns := Nat.mul_le_mul_right _ h.1
  | case3 => cases h

theorem size_pos_of_inBounds : ∀ (sh idx : List Nat), inBounds sh idx = true → 0 < size sh :=
  fun sh idx h => Nat.zero_lt_of_lt (ravelIndex_lt sh idx h)

theorem unravel_ravelIndex (sh idx : List Nat) (h : inBounds sh idx = true) :
    unravel sh (ravelIndex sh idx) = idx := by
  fun_induction inBounds sh idx with
  | case1 => rfl
  | case2 n ns i is ih =>
    rw [Bool.and_eq_true, decide_eq_true_eq] at h
    have hr := ravelIndex_lt ns is h.2
    have hp : 0 < size ns := Nat.zero_lt_of_lt hr
    rw [ravelIndex, unravel, Nat.add_comm, Nat.add_mul_div_right _ _ hp, Nat.div_eq_of_lt hr,
      Nat.zero_add, Nat.add_mul_mod_self_right, Nat.mod_eq_of_lt hr, ih h.2]
  | case3 => cases h

theorem inBounds_unravel : ∀ (sh : List Nat) (k : Nat), k < size sh →
    inBounds sh (unravel sh k) = true
  | [], _, _ => rfl
  | n :: ns, k, h => by
    have hp := Nat.pos_of_lt_mul_left h
    rw [unravel, inBounds, Bool.and_eq_true, decide_eq_true_eq]
    exact ⟨(Nat.div_lt_iff_lt_mul hp).mpr h, inBounds_unravel ns _ (Nat.mod_lt _ hp)⟩

theorem ravelIndex_unravel : ∀ (sh : List Nat) (k : Nat), k < size sh →
    ravelIndex sh (unravel sh k) = k
  | [], k, h => (Nat.lt_one_iff.mp h).symm
  | n :: ns, k, h => by
    rw [unravel, ravelIndex, ravelIndex_unravel ns _ (Nat.mod_lt _ (Nat.pos_of_lt_mul_left h))]
    exact Nat.div_add_mod' k (size ns)

theorem size_squeezeShape (sh : List Nat) : size (squeezeShape sh) = size sh := by
  fun_induction squeezeShape sh with
  | case1 => rfl
  | case2 ns ih => rw [ih, size, Nat.one_mul]
  | case3 n ns _ ih => rw [size, ih, size]

theorem unsqueeze_spec (sh idx' : List Nat) (h : inBounds (squeezeShape sh) idx' = true) :
    inBounds sh (unsqueeze sh idx') = true ∧
    ravelIndex sh (unsqueeze sh idx') = ravelIndex (squeezeShape sh) idx' := by
  fun_induction unsqueeze sh idx' with
  | case1 => exact ⟨rfl, rfl⟩
  | case2 ns idx' ih =>
    rw [squeezeShape, if_pos rfl] at h ⊢
    rw [inBounds, ravelIndex, (ih h).1, (ih h).2, Nat.zero_mul, Nat.zero_add]
    exact ⟨rfl, rfl⟩
  | case3 n ns hn i is ih =>
    rw [squeezeShape, if_neg hn] at h ⊢
    rw [inBounds, Bool.and_eq_true] at h
    rw [inBounds, h.1, (ih h.2).1, ravelIndex, ravelIndex, (ih h.2).2, size_squeezeShape]
    exact ⟨rfl, rfl⟩
  | case4 n ns hn =>
    rw [squeezeShape, if_neg hn] at h
    cases h

variable {α : Type} [OfNat α 0]

theorem length_ravelC (v : NdView α) : (ravelC v).length = size v.shape := by
  simp [ravelC]

theorem length_targetPoints (x y z : NdView α) (hy : y.shape = x.shape) (hz : z.shape = x.shape) :
    (targetPoints x y z).length = size x.shape := by
  simp [targetPoints, length_ravelC, hy, hz]

theorem getElem?_targetPoints (x y z : NdView α) (hy : y.shape = x.shape) (hz : z.shape = x.shape)
    (k : Nat) (hk : k < size x.shape) :
    (targetPoints x y z)[k]? =
      some ⟨x.elem (unravel x.shape k), y.elem (unravel x.shape k), z.elem (unravel x.shape k)⟩ := by
  simp [targetPoints, ravelC, hy, hz, hk, mkPos]

end Index

section TargetH
open List
open scoped PysphVerif.OrderChain
variable {α : Type} [LinearOrder α]

theorem maxStep_eq_max (a x : α) : maxStep a x = max a x := (max_def_lt a x).symm

theorem pyMax_eq_max (a b : α) : pyMax a b = max a b := maxStep_eq_max a b

theorem npMax_spec (h : List α) (m : α) (hm : npMax h = some m) :
    m ∈ h ∧ ∀ v ∈ h, v ≤ m := by
  cases h with
  | nil => cases hm
  | cons x xs => exact Option.some.inj hm ▸ foldl_max_spec (f := maxStep) (fun _ _ => rfl) xs x

theorem maxHLoop_spec (hs : List (List α)) (h0 H : α) (hH : maxHLoop hs h0 = some H) :
    h0 ≤ H ∧ (∀ h ∈ hs, ∀ v ∈ h, v ≤ H) ∧ (H = h0 ∨ ∃ h ∈ hs, H ∈ h) := by
  induction hs generalizing h0 with
  | nil =>
    exact ⟨le_of_eq (Option.some.inj hH), fun _ h => (not_mem_nil h).elim,
      Or.inl (Option.some.inj hH).symm⟩
  | cons h rest ih =>
    rw [maxHLoop] at hH
    cases hm : npMax h with
    | none => rw [hm] at hH; cases hH
    | some m =>
      rw [hm] at hH
      change maxHLoop rest (pyMax m h0) = some H at hH
      rw [pyMax_eq_max] at hH
      obtain ⟨hin, hub⟩ := npMax_spec h m hm
      obtain ⟨i1, i2, i3⟩ := ih (max m h0) hH
      refine ⟨(le_max_right m h0).trans i1, fun h' hh' v hv => ?_, ?_⟩
      · rcases mem_cons.mp hh' with rfl | e
        · exact (hub v hv).trans ((le_max_left m h0).trans i1)
        · exact i2 h' e v hv
      · rcases i3 with e | ⟨h', hh', hv⟩
        · rcases max_choice m h0 with c | c
          · exact Or.inr ⟨h, mem_cons_self, by rw [e, c]; exact hin⟩
          · exact Or.inl (e.trans c)
        · exact Or.inr ⟨h', mem_cons_of_mem _ hh', hv⟩

theorem targetH_eq {β : Type} [OfNat β 1] [Mul α] (cast : β → α) (hmax : α) (xr : List β) :
    targetH cast hmax xr = replicate xr.length (hmax * cast 1) := by
  rw [targetH, scalarTimes, onesLike, map_map]
  exact map_const' ..

end TargetH

section SharedDensity
variable {α : Type} [Add α] [Sub α] [Mul α] [Div α] [Neg α] [OfNat α 0] [OfNat α 1]
  [LT α] [DecidableLT α] [BEq α]

theorem order1Compute_snd (tol : α) (dim : Nat) (g : SrcGeo α) (d : Pos α) (pn : List (PtNbr α))
    (st : Store α) :
    (order1Compute tol dim g d pn st).2 = order1 tol dim d (pn.map (ptNbr (group1 g st))) := rfl

/-- `SummationDensity` reads masses and kernel values, not the `rho` it finds -/
theorem densityAt_eq (st : Store α) (g : SrcGeo α) (j : Nat) :
    densityAt st g j = (g.nbrs j).foldl (fun acc kw => acc + st.m kw.1 * kw.2) 0 := by
  rw [densityAt, summationDensity, List.foldl_map]; rfl

theorem densityAt_congr (st st' : Store α) (hm : st.m = st'.m) (g : SrcGeo α) (j : Nat) :
    densityAt st g j = densityAt st' g j := by
  rw [densityAt_eq, densityAt_eq, hm]

theorem group1_rho_of_mem (g : SrcGeo α) (st : Store α) (j : Nat) (h : j ∈ g.ids) :
    (group1 g st).rho j = densityAt st g j := by
  simp [group1, h]

theorem group1_rho_congr (g : SrcGeo α) (st st' : Store α) (hm : st.m = st'.m) (j : Nat)
    (h : j ∈ g.ids) : (group1 g st).rho j = (group1 g st').rho j := by
  rw [group1_rho_of_mem g st j h, group1_rho_of_mem g st' j h, densityAt_congr st st' hm]

theorem ptNbr_group1_congr (g : SrcGeo α) (st st' : Store α) (hm : st.m = st'.m)
    (hf : st.f = st'.f) (pn : List (PtNbr α)) (hin : ∀ p ∈ pn, p.k ∈ g.ids) :
    pn.map (ptNbr (group1 g st)) = pn.map (ptNbr (group1 g st')) := by
  apply List.map_congr_left
  intro p hp
  simp only [ptNbr]
  rw [group1_rho_congr g st st' hm p.k (hin p hp)]
  simp [group1, hm, hf]

theorem srun_rhoOnly (st : Store α) (ops : List (SOp α)) (h : ∀ op ∈ ops, op.rhoOnly = true) :
    (srun st ops).m = st.m ∧ (srun st ops).f = st.f :=
  List.foldlRecOn (motive := fun s => s.m = st.m ∧ s.f = st.f) ops sstep ⟨rfl, rfl⟩
    fun s hs op hop => by
    have ho := h op hop
    cases op with
    | setM m => cases ho
    | setF f => cases ho
    | setRho r => exact hs
    | otherOrder1 g' => exact hs

end SharedDensity

end PysphVerif.Interp
