import PysphVerif.Model.CodegenIter
/-!
Helper lemmas for `Model/CodegenIter.lean` (iterated groups, wrapper binding).
-/
namespace PysphVerif.Codegen

theorem iterateFrom_spec (mn mx : Nat) (conv : Nat → Bool) :
    ∀ (fuel count : Nat), count ≤ mx → mn ≤ mx → mx + 1 ≤ fuel + count →
      ∃ k, iterateFrom fuel mn mx conv count = some k ∧ count ≤ k ∧ mn ≤ k ∧ k ≤ mx ∧
        (conv k = true ∨ k = mx) ∧
        ∀ j, count ≤ j → mn ≤ j → j < k → conv j = false := by
  intro fuel
  induction fuel with
  | zero => intro count h1 _ h3; omega
  | succ fuel ih =>
    intro count h1 h2 h3
    unfold iterateFrom
    split
    · next h =>
      exact ⟨count, rfl, Nat.le_refl _, h.1, h1, h.2, fun j a _ b => absurd a (Nat.not_le_of_lt b)⟩
    · next h =>
      -- a sweep that does not leave has `count < max`: at `count = max` the test is `min ≤ max`
      have hlt : count < mx := Nat.lt_of_le_of_ne h1 fun e => h ⟨e ▸ h2, Or.inr e⟩
      obtain ⟨k, hk, a, b, c, d, e⟩ := ih (count + 1) hlt h2 (by omega)
      refine ⟨k, hk, Nat.le_of_succ_le a, b, c, d, fun j hj1 hj2 hj3 => ?_⟩
      rcases Nat.eq_or_lt_of_le hj1 with rfl | hh
      · exact Bool.eq_false_iff.mpr fun hc => h ⟨hj2, Or.inl hc⟩
      · exact e j hh hj2 hj3

theorem allConverged_iff (names : List Name) (st : Name → Bool) :
    allConverged names st = true ↔ ∀ v ∈ names, st v = true := by
  simp [allConverged, List.all_eq_true]

theorem allConverged_eq_false (names : List Name) (st : Name → Bool) :
    allConverged names st = false ↔ ∃ v ∈ names, st v = false := by
  simp [allConverged, List.all_eq_false]

theorem groupSweeps_spec (names : List Name) (mn mx : Nat) (st : Nat → Name → Bool)
    (h1 : 1 ≤ mx) (h2 : mn ≤ mx) :
    ∃ k, groupSweeps names mn mx st = some k ∧ 1 ≤ k ∧ mn ≤ k ∧ k ≤ mx ∧
      ((∀ v ∈ names, st k v = true) ∨ k = mx) ∧
      ∀ j, 1 ≤ j → mn ≤ j → j < k → ∃ v ∈ names, st j v = false := by
  simp only [← allConverged_iff, ← allConverged_eq_false]
  exact iterateFrom_spec mn mx _ mx 1 h1 h2 (Nat.le_refl _)

theorem bindAll_get (names : List Name) (pa : Nat) :
    ∀ (w : Wrapper) (k : Name),
      bindAll w names pa k = if k ∈ names then some pa else w k := by
  induction names with
  | nil => intro w k; simp [bindAll]
  | cons n rest ih =>
    intro w k
    have h := ih (bindAttr w n pa) k
    simp only [bindAll, List.foldl_cons] at h ⊢
    rw [h]
    by_cases hk : k ∈ rest
    · simp [hk]
    · by_cases hn : k = n
      · simp [hn, bindAttr]
      · simp [hk, hn, bindAttr]

theorem setArrayPropsOnly_get (w : Wrapper) (pa : PArrObj) (k : Name) :
    setArrayPropsOnly w pa k =
      if k ∈ pa.props ∨ k = "tag" ∨ k = "pid" ∨ k = "gid" then some pa.id else w k := by
  simp only [setArrayPropsOnly, bindAll_get, List.mem_append, List.mem_cons, List.not_mem_nil,
    or_false]

theorem setArray_get (w : Wrapper) (pa : PArrObj) (k : Name) :
    setArray w pa k =
      if k ∈ pa.consts ∨ k ∈ pa.props ∨ k = "tag" ∨ k = "pid" ∨ k = "gid" then some pa.id
      else w k := by
  rw [show setArray w pa = bindAll (setArrayPropsOnly w pa) pa.consts pa.id from rfl,
    bindAll_get, setArrayPropsOnly_get]
  by_cases h : k ∈ pa.consts <;> simp only [h, if_true, if_false, true_or, false_or]

theorem foldl_setArray_bound (l : List PArrObj) (w : Wrapper) (k : Name) (j : Nat) :
    l.foldl setArray w k = some j →
      w k = some j ∨
        ∃ pa ∈ l, k ∈ pa.consts ∨ k ∈ pa.props ∨ k = "tag" ∨ k = "pid" ∨ k = "gid" := by
  refine List.foldlRecOn (motive := fun w' => w' k = some j → _) l setArray Or.inl
    fun w' ih pa hpa h => ?_
  rw [setArray_get] at h
  split at h
  · next hb => exact Or.inr ⟨pa, hpa, hb⟩
  · exact ih h

end PysphVerif.Codegen
