import PysphVerif.Lemmas.PArrayView
/-!
A pool of arrays addressed by slot: `slot_elim`, the case analysis every statement about
`applyOp` shares, and how a fact about the array written to (or pushed onto) the pool lifts to
the pool: for the invariant (`all_*`), the constants (`ConstsKept.*`) and the record-list view
(`refines_*`).
-/
namespace PysphVerif.PArray

theorem all_set {st : State} {Q : PA → Prop} (h : ∀ pa ∈ st, Q pa) (k : Nat) (x : PA) (hx : Q x) :
    ∀ pa ∈ st.set k x, Q pa := by
  intro pa hpa
  rcases List.mem_or_eq_of_mem_set hpa with h1 | h1
  · exact h pa h1
  · exact h1 ▸ hx

theorem all_setAt {st : State} {Q : PA → Prop} (h : ∀ pa ∈ st, Q pa) (k : Nat) (r : Option PA)
    (hr : ∀ x, r = some x → Q x) : ∀ pa ∈ setAt st k r, Q pa := by
  unfold setAt
  cases r with
  | none => exact h
  | some x => exact all_set h k x (hr x rfl)

theorem all_pushOpt {st : State} {Q : PA → Prop} (h : ∀ pa ∈ st, Q pa) (r : Option PA)
    (hr : ∀ x, r = some x → Q x) : ∀ pa ∈ pushOpt st r, Q pa := by
  unfold pushOpt
  cases r with
  | none => exact h
  | some x => exact List.forall_mem_append.mpr ⟨h, List.forall_mem_singleton.mpr (hr x rfl)⟩

theorem slot_elim {st : State} {P : State → Prop} (h0 : P st) (s : Nat) (g : PA → State)
    (hg : ∀ pa, st[s]? = some pa → P (g pa)) :
    P (match st[s]? with | some pa => g pa | none => st) := by
  split
  · exact hg _ ‹_›
  · exact h0

theorem slot_elim₂ {st : State} {P : State → Prop} (h0 : P st) (s d : Nat) (g : PA → PA → State)
    (hg : ∀ pa dd, st[s]? = some pa → st[d]? = some dd → P (g pa dd)) :
    P (match st[s]?, st[d]? with | some pa, some dd => g pa dd | _, _ => st) := by
  split
  · exact hg _ _ ‹_› ‹_›
  · exact h0

def ConstsKept (st st' : State) : Prop :=
  ∀ (k : Nat) (pa : PA), st[k]? = some pa → ∃ pa' : PA, st'[k]? = some pa' ∧ pa'.consts = pa.consts

theorem ConstsKept.refl (st : State) : ConstsKept st st := fun _ pa hk => ⟨pa, hk, rfl⟩

theorem ConstsKept.set {st : State} {s : Nat} {p0 x : PA} (hs : st[s]? = some p0)
    (hx : x.consts = p0.consts) : ConstsKept st (st.set s x) := by
  intro k pa hk
  rw [List.getElem?_set]
  by_cases hsk : s = k
  · subst hsk
    rw [if_pos rfl, if_pos (List.getElem?_eq_some_iff.mp hs).1]
    rw [hs] at hk
    simp only [Option.some.injEq] at hk
    exact ⟨x, rfl, hk ▸ hx⟩
  · rw [if_neg hsk]; exact ⟨pa, hk, rfl⟩

theorem ConstsKept.setAt {st : State} {s : Nat} {p0 : PA} (r : Option PA) (hs : st[s]? = some p0)
    (hx : ∀ x, r = some x → x.consts = p0.consts) : ConstsKept st (setAt st s r) := by
  unfold PArray.setAt
  cases r with
  | none => exact .refl st
  | some x => exact .set hs (hx x rfl)

theorem ConstsKept.append (st tail : List PA) : ConstsKept st (st ++ tail) := by
  intro k pa hk
  rw [List.getElem?_append_left (List.getElem?_eq_some_iff.mp hk).1]
  exact ⟨pa, hk, rfl⟩

theorem ConstsKept.pushOpt (st : State) (r : Option PA) : ConstsKept st (pushOpt st r) := by
  unfold PArray.pushOpt
  cases r with
  | none => exact .refl st
  | some x => exact .append st [x]

theorem poolEquiv_refl (A : List RA) : poolEquiv A A :=
  List.forall₂_same.mpr (fun a _ => RA.equiv_refl a)

theorem poolEquiv_set {A B : List RA} (h : poolEquiv A B) (k : Nat) (a b : RA) (hab : a.equiv b) :
    poolEquiv (A.set k a) (B.set k b) := by
  induction h generalizing k with
  | nil => exact List.Forall₂.nil
  | cons hx _ ih =>
    cases k with
    | zero => exact List.Forall₂.cons hab ‹_›
    | succ k => exact List.Forall₂.cons hx (ih k)

theorem poolEquiv_push {A B : List RA} (h : poolEquiv A B) (a b : RA) (hab : a.equiv b) :
    poolEquiv (A ++ [a]) (B ++ [b]) :=
  List.rel_append h (.cons hab .nil)

theorem absState_getElem? (st : State) (s : Nat) : (absState st)[s]? = (st[s]?).map absPA :=
  List.getElem?_map

theorem refines_set {st : State} {k : Nat} {pa' : PA} {b : RA} (h : (absPA pa').equiv b) :
    poolEquiv (absState (st.set k pa')) ((absState st).set k b) := by
  unfold absState
  rw [List.map_set]
  exact poolEquiv_set (poolEquiv_refl _) k _ _ h

theorem refines_push {st : State} {pa' : PA} {b : RA} (h : (absPA pa').equiv b) :
    poolEquiv (absState (st ++ [pa'])) (absState st ++ [b]) := by
  unfold absState
  rw [List.map_append]
  exact poolEquiv_push (poolEquiv_refl _) _ _ h

theorem absState_set_same {st : State} {s : Nat} {pa : PA} (pa' : PA) (hs : st[s]? = some pa)
    (h : absPA pa' = absPA pa) : absState (st.set s pa') = absState st := by
  obtain ⟨hlt, he⟩ := List.getElem?_eq_some_iff.mp hs
  unfold absState
  rw [List.map_set, h, ← List.map_set, ← he, List.set_getElem_self]

/-- The slot `applyOp` reads in the pool is the slot `specOp` reads in the view: a full one
resolves both matches at once, whatever `specOp` goes on to do with the record list it finds
(`G`: write a slot, push a new array); an empty one leaves both sides as they are. -/
theorem refines_slot {st : State} (s : Nat) (g : PA → State) (G : RA → List RA)
    (hg : ∀ pa, st[s]? = some pa → poolEquiv (absState (g pa)) (G (absPA pa))) :
    poolEquiv (absState (match st[s]? with | some pa => g pa | none => st))
      (match (absState st)[s]? with | some a => G a | none => absState st) := by
  rw [absState_getElem?]
  cases hs : st[s]? with
  | none => exact poolEquiv_refl _
  | some pa => exact hg pa hs

theorem refines_slot₂ {st : State} (s d : Nat) (g : PA → PA → State) (G : RA → RA → List RA)
    (hg : ∀ pa dd, st[s]? = some pa → st[d]? = some dd →
      poolEquiv (absState (g pa dd)) (G (absPA pa) (absPA dd))) :
    poolEquiv (absState (match st[s]?, st[d]? with | some pa, some dd => g pa dd | _, _ => st))
      (match (absState st)[s]?, (absState st)[d]? with
        | some a, some b => G a b
        | _, _ => absState st) := by
  rw [absState_getElem?, absState_getElem?]
  cases hs : st[s]? <;> cases hd : st[d]? <;> try exact poolEquiv_refl _
  exact hg _ _ hs hd

theorem refines_slot_same {st : State} (s : Nat) (r : PA → Option PA)
    (h : ∀ pa pa', r pa = some pa' → absPA pa' = absPA pa) :
    poolEquiv (absState (match st[s]? with | some pa => setAt st s (r pa) | none => st))
      (absState st) := by
  refine slot_elim (P := fun st' => poolEquiv (absState st') (absState st)) (poolEquiv_refl _) s _
    (fun pa hs => ?_)
  cases hr : r pa with
  | none => exact poolEquiv_refl _
  | some pa' => exact absState_set_same pa' hs (h pa pa' hr) ▸ poolEquiv_refl _

end PysphVerif.PArray
