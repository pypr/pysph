import Mathlib.Analysis.Calculus.Deriv.MeanValue
import Mathlib.Analysis.Calculus.Deriv.Inv
import Mathlib.Analysis.Calculus.Deriv.Pow
import Mathlib.Analysis.SpecialFunctions.ExpDeriv
import Mathlib.Analysis.SpecialFunctions.Trigonometric.Basic
import PysphVerif.Lemmas.Poly
import PysphVerif.Model.Kernel
/-!
C08 — from the executable table checks of `Model/Kernel.lean` to statements over ℝ about the functions
the tables denote (`W`, `dwdq`, `gradH`, `gradient`), one soundness theorem for each `…Ok` check,
proved once for every table.

The functions are instances of one construction: `gfun g sel p` is the function the coefficient list
`sel p` of piece `p` denotes (times the envelope `envg g`), and `FG G ps t q = G (lookR ps t q) q`
evaluates a family `G` of functions indexed by pieces at the piece `q` selects.  The `FG_…` lemmas
are inductions over the list of pieces along `chain`.  (`normOk` is used in
`Lemmas/KernelIntegral.lean`, `gaussFacOk` in `Props/C08.lean`.)
-/
namespace PysphVerif.Kernel
open PysphVerif.Poly Set

/-- piece selection over ℝ (the same `lookup` the driver runs over ℚ) -/
noncomputable def lookR (ps : List Piece) (t : Piece) (q : ℝ) : Piece :=
  lookup (fun a : ℚ => (a : ℝ)) ps t q

/-- `q` selects `p` -/
def InP (p : Piece) (q : ℝ) : Prop := q < (p.hi : ℝ) ∨ (p.hiIncl = true ∧ q = (p.hi : ℝ))

theorem inPiece_iff (p : Piece) (q : ℝ) :
    inPiece (fun a : ℚ => (a : ℝ)) p q = true ↔ InP p q := by
  simp [inPiece, InP]

@[simp] theorem lookR_nil (t : Piece) (q : ℝ) : lookR [] t q = t := rfl

theorem lookR_cons_in {p : Piece} (ps : List Piece) (t : Piece) {q : ℝ} (h : InP p q) :
    lookR (p :: ps) t q = p := by
  simp [lookR, lookup, (inPiece_iff p q).2 h]

theorem lookR_cons_out {p : Piece} (ps : List Piece) (t : Piece) {q : ℝ} (h : ¬ InP p q) :
    lookR (p :: ps) t q = lookR ps t q := by
  simp [lookR, lookup, (inPiece_iff p q).not.2 h]

theorem lookR_mem (ps : List Piece) (t : Piece) (q : ℝ) : lookR ps t q ∈ ps ∨ lookR ps t q = t := by
  induction ps with
  | nil => right; rfl
  | cons p ps ih =>
    by_cases h : InP p q
    · left; rw [lookR_cons_in ps t h]; exact List.mem_cons_self
    · rw [lookR_cons_out ps t h]
      rcases ih with h1 | h1
      · left; exact List.mem_cons_of_mem _ h1
      · right; exact h1

theorem InP_le {p : Piece} {y : ℝ} (h : InP p y) : y ≤ (p.hi : ℝ) := by
  rcases h with h | ⟨_, h⟩
  · exact h.le
  · exact h.le

theorem InP_of_le {p : Piece} {x y : ℝ} (h : InP p y) (hxy : x ≤ y) : InP p x := by
  rcases h with h | ⟨hi, h⟩
  · exact Or.inl (lt_of_le_of_lt hxy h)
  · exact (eq_or_lt_of_le hxy).elim (fun e => Or.inr ⟨hi, e.trans h⟩) (fun l => Or.inl (h ▸ l))

theorem not_InP_ge {p : Piece} {y : ℝ} (h : ¬ InP p y) : (p.hi : ℝ) ≤ y :=
  not_lt.1 fun hc => h (Or.inl hc)

theorem not_InP_of_gt {p : Piece} {x : ℝ} (hx : (p.hi : ℝ) < x) : ¬ InP p x :=
  fun hin => not_le.2 hx (InP_le hin)

noncomputable def FG (G : Piece → ℝ → ℝ) (ps : List Piece) (t : Piece) (q : ℝ) : ℝ :=
  G (lookR ps t q) q

theorem FG_cons_in (G : Piece → ℝ → ℝ) {p : Piece} (ps : List Piece) (t : Piece) {q : ℝ}
    (h : InP p q) : FG G (p :: ps) t q = G p q := by
  unfold FG; rw [lookR_cons_in ps t h]

theorem FG_cons_out (G : Piece → ℝ → ℝ) {p : Piece} (ps : List Piece) (t : Piece) {q : ℝ}
    (h : ¬ InP p q) : FG G (p :: ps) t q = FG G ps t q := by
  unfold FG; rw [lookR_cons_out ps t h]

/-- the tail is the zero list; a piece that reaches `R` and is closed there vanishes at `R` -/
theorem edge_zero (sel : Piece → List ℚ) (R : ℚ) (t : Piece) (ht : isZero (sel t) = true) :
    ∀ ps, edgeZero sel R ps = true → ∀ q : ℝ, (R : ℝ) ≤ q → evR (sel (lookR ps t q)) q = 0 := by
  intro ps
  induction ps with
  | nil => intro _ q _; exact evR_eq_zero_of_isZero ht q
  | cons p ps ih =>
    intro h q hq
    simp only [edgeZero, Bool.and_eq_true, Bool.or_eq_true, decide_eq_true_eq, beq_iff_eq,
      Bool.not_eq_true'] at h
    by_cases hin : InP p q
    · rw [lookR_cons_in ps t hin]
      have hqle := InP_le hin
      rcases h.1 with hhi | ⟨hhiR, hz⟩
      · exact absurd (lt_of_le_of_lt hqle (Rat.cast_lt.2 hhi)) (not_lt.2 hq)
      · -- `q` is the edge itself, so the piece is closed there and vanishes
        have hR : (p.hi : ℝ) = R := congrArg _ hhiR
        have hqR : q = (R : ℝ) := le_antisymm (hR ▸ hqle) hq
        rcases hin with hlt | ⟨hincl, _⟩
        · exact absurd hlt (by rw [hqR, hR]; exact lt_irrefl _)
        · rcases hz with hf | hz
          · rw [hf] at hincl; cases hincl
          · rw [hqR, evR_ratCast, hz, Rat.cast_zero]
    · rw [lookR_cons_out ps t hin]
      exact ih h.2 q hq

noncomputable def envg (g : Bool) (q : ℝ) : ℝ := if g then Real.exp (-(q * q)) else 1

theorem envg_pos (g : Bool) (q : ℝ) : 0 < envg g q := by
  unfold envg; split
  · exact Real.exp_pos _
  · exact one_pos

noncomputable def gfun (g : Bool) (sel : Piece → List ℚ) (p : Piece) (q : ℝ) : ℝ :=
  evR (sel p) q * envg g q

theorem gfun_false (sel : Piece → List ℚ) (p : Piece) (q : ℝ) :
    gfun false sel p q = evR (sel p) q := mul_one _

theorem hasDerivAt_envg (g : Bool) (x : ℝ) :
    HasDerivAt (envg g) (if g then -(2 * x) * Real.exp (-(x * x)) else 0) x := by
  cases g with
  | false => exact hasDerivAt_const x (1 : ℝ)
  | true =>
    have h1 : HasDerivAt (fun y : ℝ => -(y * y)) (-(1 * x + x * 1)) x :=
      ((hasDerivAt_id' x).mul (hasDerivAt_id' x)).neg
    exact h1.exp.congr_deriv (by rw [if_pos rfl]; ring)

theorem gfun_hasDerivAt {g : Bool} {p : Piece} (h : pieceDerivOk g p = true) (x : ℝ) :
    HasDerivAt (gfun g Piece.w p) (gfun g Piece.dw p x) x := by
  have hd := (hasDerivAt_evR p.w x).mul (hasDerivAt_envg g x)
  have e := evR_eq_of_peq h x
  refine hd.congr_deriv ?_
  unfold gfun
  rw [e]
  cases g with
  | false => simp [dshape, envg]
  | true =>
    simp only [dshape, if_true, evR_sub, evR_mulLin, envg]
    push_cast; ring

theorem FG_hasDerivAt_cons_lt {G G' : Piece → ℝ → ℝ} {p : Piece} (ps : List Piece) (t : Piece)
    {q : ℝ} (hlt : q < (p.hi : ℝ)) (h : HasDerivAt (G p) (G' p q) q) :
    HasDerivAt (FG G (p :: ps) t) (FG G' (p :: ps) t q) q := by
  rw [FG_cons_in G' ps t (Or.inl hlt)]
  refine h.congr_of_eventuallyEq ?_
  filter_upwards [Iio_mem_nhds hlt] with x hx
  exact FG_cons_in G ps t (Or.inl hx)

theorem FG_hasDerivAt_cons_gt {G G' : Piece → ℝ → ℝ} {p : Piece} (ps : List Piece) (t : Piece)
    {q : ℝ} (hgt : (p.hi : ℝ) < q) (h : HasDerivAt (FG G ps t) (FG G' ps t q) q) :
    HasDerivAt (FG G (p :: ps) t) (FG G' (p :: ps) t q) q := by
  rw [FG_cons_out G' ps t (not_InP_of_gt hgt)]
  refine h.congr_of_eventuallyEq ?_
  filter_upwards [Ioi_mem_nhds hgt] with x hx
  exact FG_cons_out G ps t (not_InP_of_gt hx)

theorem FG_hasDerivAt_interior (G G' : Piece → ℝ → ℝ) (t : Piece) :
    ∀ ps : List Piece, (∀ p, p ∈ ps ∨ p = t → ∀ x, HasDerivAt (G p) (G' p x) x) →
    ∀ q : ℝ, (∀ p ∈ ps, q ≠ (p.hi : ℝ)) → HasDerivAt (FG G ps t) (FG G' ps t q) q := by
  intro ps
  induction ps with
  | nil => intro hG q _; exact hG t (Or.inr rfl) q
  | cons p ps ih =>
    intro hG q hq
    rcases lt_or_gt_of_ne (hq p List.mem_cons_self) with hlt | hgt
    · exact FG_hasDerivAt_cons_lt ps t hlt (hG p (Or.inl List.mem_cons_self) q)
    · exact FG_hasDerivAt_cons_gt ps t hgt
        (ih (fun p' hp' => hG p' (hp'.imp_left (List.mem_cons_of_mem _))) q
          (fun p' hp' => hq p' (List.mem_cons_of_mem _ hp')))

theorem chain_cons {L : ℚ} {p : Piece} {ps : List Piece} (h : chain L (p :: ps) = true) :
    p.lo = L ∧ p.lo < p.hi ∧ chain p.hi ps = true := by
  simp only [chain, Bool.and_eq_true, beq_iff_eq, decide_eq_true_eq] at h
  exact ⟨h.1.1, h.1.2, h.2⟩

theorem FG_at_start (G : Piece → ℝ → ℝ) (t : Piece) (ps : List Piece) (L : ℚ)
    (h : chain L ps = true) : FG G ps t (L : ℝ) = G (ps.headD t) L := by
  cases ps with
  | nil => rfl
  | cons a l =>
    obtain ⟨hlo, hlt, _⟩ := chain_cons h
    exact FG_cons_in G l t (Or.inl (hlo ▸ Rat.cast_lt.2 hlt))

/-- whichever of the two pieces `q = p.hi` selects -/
theorem FG_cons_split (H : Piece → ℝ → ℝ) {p : Piece} {ps : List Piece} {t : Piece}
    (hj : H p p.hi = FG H ps t p.hi) :
    (∀ x, x ≤ (p.hi : ℝ) → FG H (p :: ps) t x = H p x) ∧
    (∀ x, (p.hi : ℝ) ≤ x → FG H (p :: ps) t x = FG H ps t x) := by
  refine ⟨fun x hx => ?_, fun x hx => ?_⟩
  · by_cases hin : InP p x
    · exact FG_cons_in H ps t hin
    · obtain rfl : x = (p.hi : ℝ) := le_antisymm hx (not_InP_ge hin)
      rw [FG_cons_out H ps t hin, hj]
  · by_cases hin : InP p x
    · obtain rfl : x = (p.hi : ℝ) := le_antisymm (InP_le hin) hx
      rw [FG_cons_in H ps t hin, hj]
    · exact FG_cons_out H ps t hin

theorem gfun_ratCast (g : Bool) (sel : Piece → List ℚ) (p : Piece) (a : ℚ) :
    gfun g sel p a = ((eval (sel p) a : ℚ) : ℝ) * envg g a := by
  rw [gfun, evR_ratCast]

theorem FG_hasDerivAt_C1 (g : Bool) (t : Piece) :
    ∀ (ps : List Piece) (L : ℚ), chain L ps = true →
    (∀ p, p ∈ ps ∨ p = t → pieceDerivOk g p = true) → junctionsC1 ps t = true →
    ∀ q : ℝ, HasDerivAt (FG (gfun g Piece.w) ps t) (FG (gfun g Piece.dw) ps t q) q := by
  intro ps
  induction ps with
  | nil => intro _ _ hG _ q; exact gfun_hasDerivAt (hG t (Or.inr rfl)) q
  | cons p ps ih =>
    intro L hch hG hJ q
    obtain ⟨_, _, hch'⟩ := chain_cons hch
    simp only [junctionsC1, Bool.and_eq_true, beq_iff_eq] at hJ
    have hIH := ih p.hi hch' (fun p' hp' => hG p' (hp'.imp_left (List.mem_cons_of_mem _))) hJ.2
    have hp := gfun_hasDerivAt (hG p (Or.inl List.mem_cons_self))
    rcases lt_trichotomy q (p.hi : ℝ) with hlt | rfl | hgt
    · exact FG_hasDerivAt_cons_lt ps t hlt (hp q)
    · -- the breakpoint: `p` up to it; from it on the rest of the family, which starts there with
      -- the value and derivative of `p` and is differentiable there by induction
      have hj : ∀ sel : Piece → List ℚ, eval (sel p) p.hi = eval (sel (ps.headD t)) p.hi →
          gfun g sel p p.hi = FG (gfun g sel) ps t p.hi := fun sel h => by
        rw [FG_at_start _ t ps p.hi hch', gfun_ratCast, gfun_ratCast, h]
      have hd := hj Piece.dw hJ.1.2
      obtain ⟨hl, hr⟩ := FG_cons_split (gfun g Piece.w) (hj Piece.w hJ.1.1)
      rw [(FG_cons_split (gfun g Piece.dw) hd).1 _ le_rfl]
      have hleft : HasDerivWithinAt (FG (gfun g Piece.w) (p :: ps) t) (gfun g Piece.dw p p.hi)
          (Iic (p.hi : ℝ)) p.hi := (hp _).hasDerivWithinAt.congr hl (hl _ le_rfl)
      have hright : HasDerivWithinAt (FG (gfun g Piece.w) (p :: ps) t) (gfun g Piece.dw p p.hi)
          (Ici (p.hi : ℝ)) p.hi :=
        ((hIH _).congr_deriv hd.symm).hasDerivWithinAt.congr hr (hr _ le_rfl)
      have := hleft.union hright
      rwa [Iic_union_Ici, hasDerivWithinAt_univ] at this
    · exact FG_hasDerivAt_cons_gt ps t hgt (hIH q)

theorem gfun_antitoneOn {g : Bool} {p : Piece} (hd : pieceDerivOk g p = true)
    (hs : pieceSignOk p = true) : AntitoneOn (gfun g Piece.w p) (Icc (p.lo : ℝ) p.hi) := by
  have hcert : ∀ x : ℝ, (p.lo : ℝ) ≤ x → x ≤ (p.hi : ℝ) → evR p.dw x ≤ 0 := by
    unfold pieceSignOk at hs
    cases hc : p.cuts with
    | nil => rw [hc] at hs; cases hs
    | cons a rest =>
      rw [hc] at hs
      simp only [Bool.and_eq_true, beq_iff_eq] at hs
      obtain ⟨⟨ha, hl⟩, hcc⟩ := hs
      intro x hx1 hx2
      exact certCuts_sound rest a hcc x (by rw [ha]; exact hx1) (by rw [hl]; exact hx2)
  refine antitoneOn_of_hasDerivWithinAt_nonpos (convex_Icc _ _)
    (fun x _ => (gfun_hasDerivAt hd x).continuousAt.continuousWithinAt)
    (fun x _ => (gfun_hasDerivAt hd x).hasDerivWithinAt) ?_
  intro x hx
  have hx' := interior_subset hx
  exact mul_nonpos_of_nonpos_of_nonneg (hcert x hx'.1 hx'.2) (envg_pos g x).le

theorem FG_antitone (g : Bool) (t : Piece) (ht : isZero t.w = true) :
    ∀ (ps : List Piece) (L : ℚ), chain L ps = true →
      (∀ p ∈ ps, pieceDerivOk g p = true ∧ pieceSignOk p = true) → jumpsDown ps t = true →
      AntitoneOn (FG (gfun g Piece.w) ps t) (Ici (L : ℝ)) := by
  intro ps
  induction ps with
  | nil =>
    intro L _ _ _ x _ y _ _
    simp [FG, gfun, evR_eq_zero_of_isZero ht]
  | cons p ps ih =>
    intro L hch hok hj x hx y hy hxy
    obtain ⟨rfl, hlt, hch'⟩ := chain_cons hch
    simp only [jumpsDown, Bool.and_eq_true, decide_eq_true_eq] at hj
    have hIH := ih p.hi hch' (fun p' hp' => hok p' (List.mem_cons_of_mem _ hp')) hj.2
    have hp := gfun_antitoneOn (hok p List.mem_cons_self).1 (hok p List.mem_cons_self).2
    have hjump : FG (gfun g Piece.w) ps t p.hi ≤ gfun g Piece.w p p.hi := by
      rw [FG_at_start _ t ps p.hi hch', gfun_ratCast, gfun_ratCast]
      exact mul_le_mul_of_nonneg_right (Rat.cast_le.2 hj.1) (envg_pos g _).le
    rw [mem_Ici] at hx hy
    by_cases hiny : InP p y
    · have hinx := InP_of_le hiny hxy
      rw [FG_cons_in _ ps t hinx, FG_cons_in _ ps t hiny]
      exact hp ⟨hx, InP_le hinx⟩ ⟨hy, InP_le hiny⟩ hxy
    · by_cases hinx : InP p x
      · -- values beyond `p` are at most its value at `p.hi`, values on `p` at least that
        rw [FG_cons_in _ ps t hinx, FG_cons_out _ ps t hiny]
        exact ((hIH (mem_Ici.2 le_rfl) (mem_Ici.2 (not_InP_ge hiny)) (not_InP_ge hiny)).trans
          hjump).trans (hp ⟨hx, InP_le hinx⟩ ⟨(Rat.cast_lt.2 hlt).le, le_rfl⟩ (InP_le hinx))
      · rw [FG_cons_out _ ps t hinx, FG_cons_out _ ps t hiny]
        exact hIH (mem_Ici.2 (not_InP_ge hinx)) (mem_Ici.2 ((not_InP_ge hinx).trans hxy)) hxy

noncomputable def wR (K : KTable) : ℝ → ℝ := FG (gfun K.gauss Piece.w) K.pieces K.tail
noncomputable def dwR (K : KTable) : ℝ → ℝ := FG (gfun K.gauss Piece.dw) K.pieces K.tail
noncomputable def dw0R (K : KTable) : ℝ → ℝ := FG (gfun K.gauss Piece.dw0) K.pieces K.tail
noncomputable def ghR (K : KTable) : ℝ → ℝ := FG (gfun K.gauss Piece.gh) K.pieces K.tail

/-- `self.fac = facQ · π^(piHalf/2)` -/
noncomputable def facR (K : KTable) : ℝ := (K.facQ : ℝ) * (Real.sqrt Real.pi) ^ K.piHalf

/-- `kernel(rij = r, h)` -/
noncomputable def W (K : KTable) (r h : ℝ) : ℝ := facR K * h⁻¹ ^ K.hpowW * wR K (r * h⁻¹)
/-- `dwdq(rij = r, h)` -/
noncomputable def dwdq (K : KTable) (r h : ℝ) : ℝ :=
  facR K * h⁻¹ ^ K.hpowDw * (if (K.rmin : ℝ) < r then dwR K (r * h⁻¹) else dw0R K (r * h⁻¹))
/-- `gradient_h(rij = r, h)` -/
noncomputable def gradH (K : KTable) (r h : ℝ) : ℝ := facR K * h⁻¹ ^ K.hpowGh * ghR K (r * h⁻¹)

noncomputable def monoR (m : Mono) (wd h r x0 x1 x2 : ℝ) : ℝ :=
  (m.c : ℝ) * wd ^ m.wdash * h ^ m.h * r ^ m.rij *
    x0 ^ (m.x.getD 0 0) * x1 ^ (m.x.getD 1 0) * x2 ^ (m.x.getD 2 0)

/-- component `i` of `gradient(xij = (x0,x1,x2), rij = r, h)` -/
noncomputable def gradient (K : KTable) (i : ℕ) (x0 x1 x2 r h : ℝ) : ℝ :=
  if (K.rmin : ℝ) < r then monoR (K.grad.getD i ⟨0, 0, 0, 0, []⟩) (dwdq K r h) h r x0 x1 x2
  else monoR (K.grad0.getD i ⟨0, 0, 0, 0, []⟩) (dwdq K r h) h r x0 x1 x2

theorem all_or_tail {f : Piece → Bool} {ps : List Piece} {t : Piece} (h : ps.all f = true)
    (ht : f t = true) {p : Piece} (hp : p ∈ ps ∨ p = t) : f p = true :=
  hp.elim (List.all_eq_true.1 h p) (fun e => e ▸ ht)

theorem lastHi_radius {K : KTable} (hc : chainOk K = true) :
    chain 0 K.pieces = true ∧ lastHi 0 K.pieces = K.radius := by
  simp only [chainOk, Bool.and_eq_true, beq_iff_eq] at hc
  exact ⟨hc.1.1, hc.1.2⟩

theorem support_sound {K : KTable} (h : supportOk K = true) {q : ℝ} (hq : (K.radius : ℝ) ≤ q) :
    wR K q = 0 ∧ dwR K q = 0 ∧ dw0R K q = 0 := by
  simp only [supportOk, Bool.and_eq_true] at h
  obtain ⟨⟨⟨⟨⟨h1, h2⟩, h3⟩, h4⟩, h5⟩, h6⟩ := h
  have hz : ∀ sel : Piece → List ℚ, isZero (sel K.tail) = true →
      edgeZero sel K.radius K.pieces = true → FG (gfun K.gauss sel) K.pieces K.tail q = 0 :=
    fun sel ht he => mul_eq_zero_of_left (edge_zero sel K.radius K.tail ht K.pieces he q hq) _
  exact ⟨hz _ h1 h4, hz _ h2 h5, hz _ h3 h6⟩

theorem W_support {K : KTable} (hK : supportOk K = true) {r h : ℝ} (hh : 0 < h)
    (hr : (K.radius : ℝ) * h ≤ r) : W K r h = 0 ∧ dwdq K r h = 0 := by
  have hq : (K.radius : ℝ) ≤ r * h⁻¹ := by
    rw [← div_eq_mul_inv, le_div_iff₀ hh]; exact hr
  obtain ⟨h1, h2, h3⟩ := support_sound hK hq
  constructor
  · simp [W, h1]
  · unfold dwdq; split <;> simp [h2, h3]

theorem derivOk_pieces {K : KTable} (hK : derivOk K = true) {p : Piece}
    (hp : p ∈ K.pieces ∨ p = K.tail) : pieceDerivOk K.gauss p = true := by
  simp only [derivOk, Bool.and_eq_true] at hK
  exact all_or_tail hK.1 hK.2 hp

theorem wR_hasDerivAt {K : KTable} (hK : derivOk K = true) {q : ℝ}
    (hq : ∀ p ∈ K.pieces, q ≠ (p.hi : ℝ)) : HasDerivAt (wR K) (dwR K q) q :=
  FG_hasDerivAt_interior _ _ K.tail K.pieces
    (fun _ hp => gfun_hasDerivAt (derivOk_pieces hK hp)) q hq

/-- above the guard `dwdq` is `h` times `dW/dr` -/
theorem W_hasDerivAt_r {K : KTable} (hp : K.hpowW = K.hpowDw) {r h : ℝ}
    (hr : (K.rmin : ℝ) < r) (hq : HasDerivAt (wR K) (dwR K (r * h⁻¹)) (r * h⁻¹)) :
    HasDerivAt (fun r' => W K r' h) (dwdq K r h * h⁻¹) r := by
  have h1 : HasDerivAt (fun r' : ℝ => r' * h⁻¹) (1 * h⁻¹) r := (hasDerivAt_id' r).mul_const h⁻¹
  have h2 : HasDerivAt (fun r' : ℝ => wR K (r' * h⁻¹)) (dwR K (r * h⁻¹) * (1 * h⁻¹)) r :=
    HasDerivAt.comp r hq h1
  refine (h2.const_mul (facR K * h⁻¹ ^ K.hpowW)).congr_deriv ?_
  rw [dwdq, if_pos hr, hp]
  ring

theorem wR_hasDerivAt_C1 {K : KTable} (hc : chainOk K = true) (hK : derivOk K = true)
    (h1 : c1Ok K = true) (q : ℝ) : HasDerivAt (wR K) (dwR K q) q :=
  FG_hasDerivAt_C1 _ K.tail K.pieces 0 (lastHi_radius hc).1 (fun _ => derivOk_pieces hK) h1 q

theorem hasDerivAt_inv_pow (d : ℕ) {h : ℝ} (hh : h ≠ 0) :
    HasDerivAt (fun y : ℝ => y⁻¹ ^ d) (-(d : ℝ) * h⁻¹ ^ (d + 1)) h := by
  refine ((hasDerivAt_inv hh).pow d).congr_deriv ?_
  cases d with
  | zero => simp
  | succ d => rw [Nat.add_sub_cancel]; ring

theorem ghR_eq {K : KTable} (hK : gradhOk K = true) (q : ℝ) :
    ghR K q = -((K.dim : ℝ) * wR K q + q * dwR K q) := by
  simp only [gradhOk, Bool.and_eq_true] at hK
  have hp := all_or_tail hK.1.2 hK.2 (lookR_mem K.pieces K.tail q)
  have e := evR_eq_of_peq hp q
  simp only [ghR, wR, dwR, FG, gfun]
  rw [e, evR_neg, evR_add, evR_smul, evR_mulX]
  push_cast; ring

theorem W_hasDerivAt_h {K : KTable} (hK : gradhOk K = true) {r h : ℝ} (hh : h ≠ 0)
    (hq : HasDerivAt (wR K) (dwR K (r * h⁻¹)) (r * h⁻¹)) :
    HasDerivAt (fun h' => W K r h') (gradH K r h) h := by
  have hd : K.hpowW = K.dim ∧ K.hpowGh = K.dim + 1 := by
    simp only [gradhOk, Bool.and_eq_true, beq_iff_eq] at hK
    exact ⟨hK.1.1.1.1, hK.1.1.2⟩
  have h1 : HasDerivAt (fun h' : ℝ => r * h'⁻¹) (r * -(h ^ 2)⁻¹) h :=
    (hasDerivAt_inv hh).const_mul r
  have h2 : HasDerivAt (fun h' : ℝ => wR K (r * h'⁻¹)) (dwR K (r * h⁻¹) * (r * -(h ^ 2)⁻¹)) h :=
    HasDerivAt.comp h hq h1
  have h3 := ((hasDerivAt_inv_pow K.hpowW hh).const_mul (facR K)).mul h2
  unfold W gradH
  rw [ghR_eq hK, hd.2]
  refine h3.congr_deriv ?_
  rw [hd.1]
  ring

theorem wR_antitone {K : KTable} (hc : chainOk K = true) (hsup : supportOk K = true)
    (hd : derivOk K = true) (hs : signOk K = true) : AntitoneOn (wR K) (Ici (0 : ℝ)) := by
  simp only [signOk, Bool.and_eq_true] at hs
  simp only [supportOk, Bool.and_eq_true] at hsup
  have := FG_antitone K.gauss K.tail hsup.1.1.1.1.1 K.pieces 0 (lastHi_radius hc).1
    (fun p hp => ⟨derivOk_pieces hd (Or.inl hp), List.all_eq_true.1 hs.1 p hp⟩) hs.2
  simpa [wR] using this

theorem facR_pos {K : KTable} (hf : 0 < K.facQ) : 0 < facR K :=
  mul_pos (Rat.cast_pos.2 hf) (zpow_pos (Real.sqrt_pos.2 Real.pi_pos) _)

theorem W_antitoneOn {K : KTable} (hf : 0 < K.facQ) (hanti : AntitoneOn (wR K) (Ici (0 : ℝ)))
    {h : ℝ} (hh : 0 < h) : AntitoneOn (fun r => W K r h) (Ici (0 : ℝ)) := by
  intro x hx y hy hxy
  have hi : 0 ≤ h⁻¹ := (inv_pos.2 hh).le
  exact mul_le_mul_of_nonneg_left
    (hanti (mem_Ici.2 (mul_nonneg hx hi)) (mem_Ici.2 (mul_nonneg hy hi))
      (mul_le_mul_of_nonneg_right hxy hi))
    (mul_nonneg (facR_pos hf).le (pow_nonneg hi _))

theorem W_nonneg {K : KTable} (hsup : supportOk K = true) {h : ℝ} (hh : 0 < h)
    (hanti : AntitoneOn (fun r => W K r h) (Ici (0 : ℝ))) {r : ℝ} (hr : 0 ≤ r) : 0 ≤ W K r h := by
  have hm : r ≤ max r ((K.radius : ℝ) * h) := le_max_left _ _
  have h0 : W K (max r ((K.radius : ℝ) * h)) h = 0 := (W_support hsup hh (le_max_right _ _)).1
  exact h0.symm.trans_le (hanti (mem_Ici.2 hr) (mem_Ici.2 (hr.trans hm)) hm)

theorem dwdq_origin {K : KTable} (hK : originOk K = true) {r : ℝ} (hr : r ≤ (K.rmin : ℝ)) (h : ℝ) :
    dwdq K r h = 0 := by
  simp only [originOk, Bool.and_eq_true] at hK
  have hz : isZero (lookR K.pieces K.tail (r * h⁻¹)).dw0 = true :=
    all_or_tail (f := fun p => isZero p.dw0) hK.1.1.1.2 hK.1.1.2 (lookR_mem K.pieces K.tail _)
  unfold dwdq
  rw [if_neg (not_lt.2 hr)]
  simp [dw0R, FG, gfun, evR_eq_zero_of_isZero hz]

theorem gradient_origin {K : KTable} (hK : originOk K = true) {r : ℝ} (hr : r ≤ (K.rmin : ℝ))
    (i : ℕ) (x0 x1 x2 h : ℝ) : gradient K i x0 x1 x2 r h = 0 := by
  simp only [originOk, Bool.and_eq_true] at hK
  unfold gradient
  rw [if_neg (not_lt.2 hr)]
  have hc : (K.grad0.getD i ⟨0, 0, 0, 0, []⟩).c = 0 := by
    rw [List.getD_eq_getElem?_getD]
    cases hm : K.grad0[i]? with
    | none => rfl
    | some m =>
      exact beq_iff_eq.mp (List.all_eq_true.1 hK.1.2 m (List.mem_of_getElem? hm))
  unfold monoR
  rw [hc, Rat.cast_zero]
  simp only [zero_mul]

theorem gradient_shape {K : KTable} (hK : gradOk K = true) {r : ℝ} (hr : (K.rmin : ℝ) < r)
    (x0 x1 x2 h : ℝ) :
    gradient K 0 x0 x1 x2 r h = dwdq K r h * h⁻¹ / r * x0 ∧
    gradient K 1 x0 x1 x2 r h = dwdq K r h * h⁻¹ / r * x1 ∧
    gradient K 2 x0 x1 x2 r h = dwdq K r h * h⁻¹ / r * x2 := by
  simp only [gradOk, beq_iff_eq] at hK
  unfold gradient
  rw [if_pos hr, if_pos hr, if_pos hr, hK]
  simp only [monoR, List.getD_cons_zero, List.getD_cons_succ, Rat.cast_one, one_mul, zpow_one,
    zpow_neg_one, zpow_zero, mul_one, div_eq_mul_inv, and_self]

end PysphVerif.Kernel
