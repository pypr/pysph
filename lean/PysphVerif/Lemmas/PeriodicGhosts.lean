import PysphVerif.Model.PeriodicGhosts
import Mathlib.Algebra.Order.Field.Basic
import Mathlib.Tactic.Linarith
import Mathlib.Tactic.Ring
/-!
C09 — "the neighbour relation is symmetric" across a periodic face.

`seen` counts how often particle `i` has particle `j` or one of its images
along a periodic axis in its neighbour list (criterion of
`find_nearest_neighbors`: `xij2 < hi2 or xij2 < hj2`, `hi2 = (radius_scale*h_i)^2`),
the images being the ones `Model/PeriodicGhosts` makes with a layer of depth
`d`.  `seen_symm`: when the depth covers the search radius of both partners
(which the common depth `n_layers * radius_scale * hmax`, `n_layers ≥ 1`, does
for every pair of every two arrays: `depth_covers`), `i` sees `j` exactly as
often as `j` sees `i` — every pair force across the face has its reaction.
-/
set_option linter.unusedSectionVars false
namespace PysphVerif.PeriodicGhosts

variable {K : Type} [Field K] [LinearOrder K] [IsStrictOrderedRing K]

def crit (k h_i h_j d2 : K) : Bool :=
  decide (d2 < (k * h_i) * (k * h_i) ∨ d2 < (k * h_j) * (k * h_j))

theorem crit_comm (k h_i h_j d2 : K) : crit k h_i h_j d2 = crit k h_j h_i d2 := by
  simp only [crit, or_comm]

/-- `j` itself, its image beyond the high face (made iff `lowSel`), its image beyond the low face
(made iff `highSel`) -/
def seen (k lo hi d xi h_i xj h_j : K) : Nat :=
  (crit k h_i h_j ((xi - xj) * (xi - xj))).toNat +
  (lowSel lo d xj &&
    crit k h_i h_j ((xi - (xj + (hi - lo))) * (xi - (xj + (hi - lo))))).toNat +
  (highSel hi d xj &&
    crit k h_i h_j ((xi - (xj + -(hi - lo))) * (xi - (xj + -(hi - lo))))).toNat

/-- if `i` has the image of `j` beyond the high face within `R ≤ d`, then that
image exists AND so does the image of `i` beyond the low face -/
theorem image_pair (lo hi d R xi xj : K) (hxi : xi ≤ hi) (hxj : lo ≤ xj) (hR : R ≤ d) (hR0 : 0 ≤ R)
    (h : (xi - (xj + (hi - lo))) * (xi - (xj + (hi - lo))) < R * R) :
    xj - lo ≤ d ∧ hi - xi ≤ d := by
  -- the gaps `xj - lo` and `hi - xi` are non-negative and add up to `xj + (hi - lo) - xi < R`
  have := lt_of_mul_self_lt_mul_self₀ (a := xj + (hi - lo) - xi) hR0 (by linarith)
  constructor <;> linarith

theorem crit_image_pair (k lo hi d xi h_i xj h_j : K) (hxi : xi ≤ hi) (hxj : lo ≤ xj)
    (hi0 : 0 ≤ k * h_i) (hj0 : 0 ≤ k * h_j) (hid : k * h_i ≤ d) (hjd : k * h_j ≤ d)
    (h : crit k h_i h_j ((xi - (xj + (hi - lo))) * (xi - (xj + (hi - lo)))) = true) :
    lowSel lo d xj = true ∧ highSel hi d xi = true := by
  simp only [crit, decide_eq_true_eq] at h
  simp only [lowSel, highSel, decide_eq_true_eq]
  rcases h with h | h
  · exact image_pair lo hi d (k * h_i) xi xj hxi hxj hid hi0 h
  · exact image_pair lo hi d (k * h_j) xi xj hxi hxj hjd hj0 h

theorem crit_image_swap (k t xi h_i xj h_j : K) :
    crit k h_j h_i ((xj - (xi + -t)) * (xj - (xi + -t))) =
    crit k h_i h_j ((xi - (xj + t)) * (xi - (xj + t))) := by
  rw [crit_comm]
  congr 1
  ring

theorem image_term_swap (k lo hi d xi h_i xj h_j : K) (hxi : xi ≤ hi) (hxj : lo ≤ xj)
    (hi0 : 0 ≤ k * h_i) (hj0 : 0 ≤ k * h_j) (hid : k * h_i ≤ d) (hjd : k * h_j ≤ d) :
    (lowSel lo d xj &&
      crit k h_i h_j ((xi - (xj + (hi - lo))) * (xi - (xj + (hi - lo))))) =
    (highSel hi d xi &&
      crit k h_j h_i ((xj - (xi + -(hi - lo))) * (xj - (xi + -(hi - lo))))) := by
  rw [crit_image_swap]
  cases hc : crit k h_i h_j ((xi - (xj + (hi - lo))) * (xi - (xj + (hi - lo))))
  · simp
  · obtain ⟨h1, h2⟩ := crit_image_pair k lo hi d xi h_i xj h_j hxi hxj hi0 hj0 hid hjd hc
    simp [h1, h2]

/-- the three terms of `seen` pair off: `j` itself with `i` itself, the high-face image of `j`
with the low-face image of `i`, and the low-face image of `j` with the high-face image of `i` -/
theorem seen_symm (k lo hi d xi h_i xj h_j : K)
    (hxi : lo ≤ xi ∧ xi ≤ hi) (hxj : lo ≤ xj ∧ xj ≤ hi)
    (hi0 : 0 ≤ k * h_i) (hj0 : 0 ≤ k * h_j) (hid : k * h_i ≤ d) (hjd : k * h_j ≤ d) :
    seen k lo hi d xi h_i xj h_j = seen k lo hi d xj h_j xi h_i := by
  have e0 : crit k h_i h_j ((xi - xj) * (xi - xj)) = crit k h_j h_i ((xj - xi) * (xj - xi)) := by
    rw [crit_comm k h_j h_i]; congr 1; ring
  have e1 := image_term_swap k lo hi d xi h_i xj h_j hxi.2 hxj.1 hi0 hj0 hid hjd
  have e2 := image_term_swap k lo hi d xj h_j xi h_i hxj.2 hxi.1 hj0 hi0 hjd hid
  unfold seen
  rw [e0, e1, ← e2]
  omega

/-- the common depth covers every particle's search radius:
`radius_scale * h ≤ n_layers * cell_size` for `n_layers ≥ 1`,
`cell_size = radius_scale * hmax` or the fallback `1.0 > 1e-6 > radius_scale * hmax`.
`hcell` is the text of `cellSize k start tiny 1 hmaxs` with `hmax` for its running maximum
`hmaxs.foldl hmaxStep start`; that the running maximum bounds every array's `h` is not stated
here (it is `foldl_max_spec` of `Lemmas/FoldSelect.lean`), `hmax` is any such bound. -/
theorem depth_covers (nLayers k tiny h hmax cell : K) (hn : 1 ≤ nLayers) (hk : 0 ≤ k)
    (hh : h ≤ hmax) (hh0 : 0 ≤ hmax) (htiny : tiny ≤ 1)
    (hcell : cell = if k * hmax < tiny then 1 else k * hmax) :
    k * h ≤ depth nLayers cell := by
  have h1 : k * h ≤ k * hmax := mul_le_mul_of_nonneg_left hh hk
  have h2 : k * hmax ≤ cell ∧ 0 ≤ cell := by
    rw [hcell]; split
    · exact ⟨by linarith, zero_le_one⟩
    · exact ⟨le_refl _, mul_nonneg hk hh0⟩
  calc k * h ≤ 1 * cell := by rw [one_mul]; exact h1.trans h2.1
    _ ≤ depth nLayers cell := mul_le_mul_of_nonneg_right hn h2.2

end PysphVerif.PeriodicGhosts
