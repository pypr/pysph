/-
C02 — model of the code-generation bookkeeping that decides what the compiled
equations compute.  Core Lean only.

Transcribes, statement by statement,
  pysph/sph/equation.py :
      the code-block language of `precomputed_symbols()` (`Expr`, `Stmt`; the
      table itself is generated into Gen/Precomp.lean from the source),
      `sort_precomputed` (weights / levels, the `while pre_comp_names` loop with
      fuel), `Group._setup_precomputed` (closure over the symbols mentioned by
      the code blocks), `get_array_names`, `get_arrays_used_in_equation`,
      `Group.get_array_names`, `CythonGroup._get_variable_decl`,
      `get_variable_array_setup`, `get_array_declarations`, `get_equation_init`,
      the precomputed preamble of `CythonGroup._get_code(kind='loop')`
  pysph/sph/acceleration_eval.py : `MegaGroup._make_data`
  pysph/sph/acceleration_eval_cython_helper.py :
      `get_all_array_names`, `get_known_types_for_arrays`,
      `get_dest_array_setup`, `get_src_array_setup`, `get_array_declarations`,
      `_compute_group_map`, `get_condition_call`, `get_pre_call`, `get_post_call`
  pysph/sph/acceleration_eval_cython.mako : where the template puts the
      `condition` / `pre` / `post` calls of groups and sub-groups

Python sets / dicts are lists here (dicts in insertion order, later entries of an
association list win where Python overwrites); `sorted(set)` is `sortDedup`.
Assumed third-party behaviour (exercised by the tie): `compyle.get_symbols` =
all `ast.Name` ids of a code block; `cyarray` `get_c_type()` of an array class
(passed in by the harness with every particle array property).
-/
namespace PysphVerif.Codegen

/-! ## 1. the code-block language of `precomputed_symbols()` -/

/-- right-hand sides of the code blocks -/
inductive Expr where
  /-- decimal literal, exact value `num / den` of its source text -/
  | lit (num den : Nat)
  /-- `d_p[d_idx]` -/
  | dref (p : String)
  /-- `s_p[s_idx]` -/
  | sref (p : String)
  /-- a scalar symbol (`HIJ`, `RIJ`, `DELTAP`, …) -/
  | var (s : String)
  /-- a whole 3-vector passed to a kernel function (`XIJ`) -/
  | vec (s : String)
  /-- `XIJ[k]` -/
  | comp (s : String) (k : Nat)
  | add (a b : Expr)
  | sub (a b : Expr)
  | mul (a b : Expr)
  | div (a b : Expr)
  | neg (a : Expr)
  /-- `sqrt(a)`, … -/
  | call1 (f : String) (a : Expr)
  /-- `DWDQ(RIJ, h)` -/
  | call2 (f : String) (a b : Expr)
  /-- `KERNEL(XIJ, RIJ, h)`, `GRADH(XIJ, RIJ, h)` -/
  | call3 (f : String) (a b c : Expr)
  deriving DecidableEq, Repr, Inhabited

inductive Stmt where
  /-- `S = e` -/
  | assign (s : String) (e : Expr)
  /-- `S[k] = e` -/
  | assignComp (s : String) (k : Nat) (e : Expr)
  /-- `GRADIENT(a, b, c, OUT)`: writes `OUT[0..2]` -/
  | callOut (f : String) (a b c : Expr) (out : String)
  deriving DecidableEq, Repr, Inhabited

abbrev Block := List Stmt

/-- what a code block is evaluated against -/
structure Env (α : Type) where
  d : String → α
  s : String → α
  /-- scalar functions `sqrt`, `KERNEL`, `DWDQ`, `GRADH` applied to the flattened
  argument list (a vector argument contributes its three components) -/
  fn : String → List α → α
  /-- component `k` of what `GRADIENT`-like functions write -/
  fnOut : String → List α → Nat → α

/-- values of the symbols: `st "XIJ" k`, scalars at index 0 -/
abbrev Store (α : Type) := String → Nat → α

section eval
variable {α : Type} [Add α] [Sub α] [Mul α] [Div α] [Neg α] [NatCast α]

def eval (env : Env α) (st : Store α) : Expr → α
  | .lit n d => (n : α) / (d : α)
  | .dref p => env.d p
  | .sref p => env.s p
  | .var s => st s 0
  | .vec s => st s 0
  | .comp s k => st s k
  | .add a b => eval env st a + eval env st b
  | .sub a b => eval env st a - eval env st b
  | .mul a b => eval env st a * eval env st b
  | .div a b => eval env st a / eval env st b
  | .neg a => - eval env st a
  | .call1 f a => env.fn f [eval env st a]
  | .call2 f a b => env.fn f [eval env st a, eval env st b]
  | .call3 f a b c =>
      env.fn f ((match a with
                 | .vec s => [st s 0, st s 1, st s 2]
                 | _ => [eval env st a]) ++ [eval env st b, eval env st c])

/-- flattened argument: a vector contributes its three components -/
def argVals (env : Env α) (st : Store α) : Expr → List α
  | .vec s => [st s 0, st s 1, st s 2]
  | e => [eval env st e]

def Store.set (st : Store α) (s : String) (k : Nat) (v : α) : Store α :=
  fun s' k' => if s' = s ∧ k' = k then v else st s' k'

def evalStmt (env : Env α) (st : Store α) : Stmt → Store α
  | .assign s e => st.set s 0 (eval env st e)
  | .assignComp s k e => st.set s k (eval env st e)
  | .callOut f a b c out =>
      let args := argVals env st a ++ argVals env st b ++ argVals env st c
      ((st.set out 0 (env.fnOut f args 0)).set out 1 (env.fnOut f args 1)).set out 2
        (env.fnOut f args 2)

def evalBlock (env : Env α) (st : Store α) (b : Block) : Store α :=
  b.foldl (evalStmt env) st

end eval

/-! ### names occurring in a block (`compyle.get_symbols`: every `ast.Name` id) -/

def Expr.names : Expr → List String
  | .lit _ _ => []
  | .dref p => ["d_" ++ p, "d_idx"]
  | .sref p => ["s_" ++ p, "s_idx"]
  | .var s => [s]
  | .vec s => [s]
  | .comp s _ => [s]
  | .add a b => a.names ++ b.names
  | .sub a b => a.names ++ b.names
  | .mul a b => a.names ++ b.names
  | .div a b => a.names ++ b.names
  | .neg a => a.names
  | .call1 f a => f :: a.names
  | .call2 f a b => f :: (a.names ++ b.names)
  | .call3 f a b c => f :: (a.names ++ b.names ++ c.names)

def Stmt.names : Stmt → List String
  | .assign s e => s :: e.names
  | .assignComp s _ e => s :: e.names
  | .callOut f a b c out => f :: out :: (a.names ++ b.names ++ c.names)

def Block.names (b : Block) : List String := (b.flatMap Stmt.names).eraseDups

/-! ## sorting (`sorted(...)`): structural insertion sort, so that `decide` can
evaluate it; for distinct keys under a total order the result is the one sorted
list, whatever algorithm CPython uses -/

def insertSorted {α : Type} (le : α → α → Bool) (x : α) : List α → List α
  | [] => [x]
  | y :: ys => if le x y then x :: y :: ys else y :: insertSorted le x ys

def isort {α : Type} (le : α → α → Bool) : List α → List α
  | [] => []
  | x :: xs => insertSorted le x (isort le xs)

/-! ## 2. `sort_precomputed` -/

section sort
variable {ν : Type} [DecidableEq ν]

/-- `all_pre_comp`: symbol ↦ `cb.symbols` (dict, keys distinct) -/
abbrev Table (ν : Type) := List (ν × List ν)

/-- `x in pre_comp` -/
def Table.has (t : Table ν) (x : ν) : Bool := t.any (fun e => e.1 == x)

/-- `pre_comp[x].symbols` -/
def Table.syms (t : Table ν) (x : ν) : List ν :=
  match t.find? (fun e => e.1 == x) with
  | some e => e.2
  | none => []

/-- `depends[pre] = [x for x in cb.symbols if x in pre_comp and x != pre]` -/
def depends (t : Table ν) (pre : ν) : List ν :=
  (t.syms pre).filter (fun x => t.has x && x != pre)

/-- `weights[x]` for an `x` among the keys: `none` is Python's `None` (no weight
yet).  The list holds (name, weight) in the order the weights were assigned;
`levels[w]` is the sub-list with weight `w`. -/
def weightOf (a : List (ν × Nat)) (x : ν) : Option Nat :=
  (a.find? (fun e => e.1 == x)).map (·.2)

def maxList : List Nat → Nat
  | [] => 0
  | x :: xs => max x (maxList xs)

/-- loop state: weights assigned so far, `pre_comp_names` -/
abbrev SortSt (ν : Type) := List (ν × Nat) × List ν

/-- body of `for name in pre_comp_names[:]`.  (The first test never fires in
Python: a name of the snapshot is still in `pre_comp_names` when it is reached,
dict keys being distinct; `pre_comp_names.remove(name)` is `erase`.) -/
def stepName (t : Table ν) (st : SortSt ν) (name : ν) : SortSt ν :=
  if !st.2.contains name then st else
  let wts := (depends t name).map (weightOf st.1)
  if wts.isEmpty then (st.1 ++ [(name, 0)], st.2.erase name)
  else if wts.any Option.isNone then st
  else (st.1 ++ [(name, maxList (wts.filterMap id) + 1)], st.2.erase name)

/-- one pass of the `while` body over the snapshot `pre_comp_names[:]` -/
def sortPass (t : Table ν) (st : SortSt ν) : SortSt ν :=
  st.2.foldl (stepName t) st

/-- `while pre_comp_names:` with fuel -/
def sortLoop (t : Table ν) : Nat → SortSt ν → SortSt ν
  | 0, st => st
  | fuel + 1, st => if st.2.isEmpty then st else sortLoop t fuel (sortPass t st)

/-- `len(levels)`: the number of distinct weights -/
def numLevels (a : List (ν × Nat)) : Nat := ((a.map (·.2)).eraseDups).length

/-- `levels[l]` -/
def levelNames (a : List (ν × Nat)) (l : Nat) : List ν :=
  (a.filter (fun e => e.2 == l)).map (·.1)

/-- `for level in range(len(levels)): for name in sorted(levels[level])` -/
def sortOutput (le : ν → ν → Bool) (a : List (ν × Nat)) : List ν :=
  (List.range (numLevels a)).flatMap (fun l => isort le (levelNames a l))

inductive SortRes (ν : Type) where
  /-- `weights[x]` with `x` a precomputed symbol that is not among the keys -/
  | keyError
  /-- the `while` loop never ends (fuel = number of keys exhausted) -/
  | diverges
  | ok (out : List ν)
  deriving Repr, DecidableEq

/-- all dependencies of the keys are keys (otherwise the first pass raises) -/
def depsClosed (t : Table ν) (keys : List ν) : Bool :=
  keys.all (fun k => (depends t k).all (fun d => keys.contains d))

/-- `sort_precomputed(precomputed, all_pre_comp)` with `keys = precomputed.keys()`
(the values are those of `all_pre_comp`) -/
def sortPrecomputed (le : ν → ν → Bool) (t : Table ν) (keys : List ν) : SortRes ν :=
  if !depsClosed t keys then .keyError else
  let st := sortLoop t keys.length ([], keys)
  if st.2.isEmpty then .ok (sortOutput le st.1) else .diverges

/-! ## 3. `Group._setup_precomputed` -/

/-- `all_new` of one round: `s for sym in found for s in pre[sym].symbols
if s in pre and s not in precomputed` -/
def newSyms (t : Table ν) (pre found : List ν) : List ν :=
  ((found.flatMap (Table.syms t)).filter (fun s => t.has s && !pre.contains s)).eraseDups

/-- the `while not done` loop -/
def closureLoop (t : Table ν) : Nat → List ν → List ν → List ν
  | 0, pre, _ => pre
  | fuel + 1, pre, found =>
    let new := newSyms t pre found
    if new.isEmpty then pre else closureLoop t fuel (pre ++ new) new

/-- keys of `precomputed` before sorting: `s for s in all_args if s in pre`, then
the loop (`self` is never a table key) -/
def closure (t : Table ν) (allArgs : List ν) : List ν :=
  let p0 := (allArgs.filter (fun s => t.has s)).eraseDups
  closureLoop t (t.length + 1) p0 p0

/-- `self.precomputed.keys()` -/
def setupPrecomputed (le : ν → ν → Bool) (t : Table ν) (allArgs : List ν) : SortRes ν :=
  sortPrecomputed le t (closure t allArgs)

/-- longest dependency chain below `x`, with fuel (a rank function for acyclic
tables; used only to state and decide acyclicity) -/
def depth (t : Table ν) : Nat → ν → Nat
  | 0, _ => 0
  | fuel + 1, x => maxList ((depends t x).map (fun d => depth t fuel d + 1))

/-- decidable acyclicity of the dependency relation of a table: `depth` with
fuel `length` is a strict rank -/
def acyclicB (t : Table ν) : Bool :=
  t.all (fun e => (depends t e.1).all (fun d => depth t t.length d < depth t t.length e.1))

end sort

/-! ## 4. wiring of array pointers -/

abbrev Name := String

/-- `x.startswith('s_') and x != 's_idx'` (equation.py get_array_names) -/
def isSrcArr (x : Name) : Bool := x.startsWith "s_" && x != "s_idx"
/-- `x.startswith('d_') and x != 'd_idx'` -/
def isDstArr (x : Name) : Bool := x.startsWith "d_" && x != "d_idx"
/-- `x[2:]` -/
def strip (x : Name) : Name := (x.drop 2).toString

def strLe (a b : String) : Bool := !(decide (b < a))

/-- `sorted(set(l))` -/
def sortDedup (l : List Name) : List Name := isort strLe l.eraseDups

/-- an equation as the generator sees it: class name, dest, sources and
`getfullargspec(meth).args` (without `self`) of the methods that exist -/
structure Eqn where
  /-- object identity (`equation not in all_equations` compares objects) -/
  uid : Nat
  name : Name
  dest : Name
  /-- `[]` ⇔ `equation.sources is None` ⇔ `no_source` -/
  sources : List Name
  mInit : Option (List Name)
  mInitPair : Option (List Name)
  mLoop : Option (List Name)
  mLoopAll : Option (List Name)
  mPostLoop : Option (List Name)
  deriving Repr, DecidableEq, Inhabited

def Eqn.noSource (e : Eqn) : Bool := e.sources.isEmpty

/-- arguments `get_arrays_used_in_equation` looks at -/
def Eqn.allArgs (e : Eqn) : List Name :=
  e.mInit.getD [] ++ e.mInitPair.getD [] ++ e.mLoop.getD [] ++
  e.mLoopAll.getD [] ++ e.mPostLoop.getD []

def Eqn.loopArgs (e : Eqn) : List Name := e.mLoop.getD []

/-- keys of `Group(eqs).precomputed` (unsorted) -/
def groupPrecomp (t : Table Name) (eqs : List Eqn) : List Name :=
  closure t (eqs.flatMap Eqn.loopArgs)

/-- every name `Group(eqs).get_array_names()` filters: method arguments and the
symbols of the group's precomputed code blocks -/
def groupNames (t : Table Name) (eqs : List Eqn) : List Name :=
  eqs.flatMap Eqn.allArgs ++ (groupPrecomp t eqs).flatMap (Table.syms t)

/-- `Group(eqs).get_array_names()[0]` -/
def groupSrcNames (t : Table Name) (eqs : List Eqn) : List Name :=
  (groupNames t eqs).filter isSrcArr
/-- `Group(eqs).get_array_names()[1]` -/
def groupDstNames (t : Table Name) (eqs : List Eqn) : List Name :=
  (groupNames t eqs).filter isDstArr

inductive Side where
  | dst
  | src
  deriving Repr, DecidableEq

/-- `lhs = dst.prop.data` / `lhs = src.prop.data` -/
structure Assign where
  lhs : Name
  side : Side
  prop : Name
  deriving Repr, DecidableEq

/-- the block of one source inside a destination -/
structure SrcBlock where
  source : Name
  /-- `get_src_array_setup` -/
  assigns : List Assign
  eqs : List Eqn
  /-- sorted precomputed symbols whose code precedes the `loop` calls -/
  precomp : SortRes Name
  deriving Repr

structure DestBlock where
  dest : Name
  /-- `get_dest_array_setup` (pointer lines) -/
  assigns : List Assign
  noSrc : List Eqn
  srcs : List SrcBlock
  allEqs : List Eqn
  deriving Repr

/-- destinations in order of first appearance (`dest_list`) -/
def destList (eqs : List Eqn) : List Name := (eqs.map (·.dest)).eraseDups

/-- sources of a destination in order of first appearance (`defaultdict` keys) -/
def sourceList (eqs : List Eqn) (dest : Name) : List Name :=
  ((eqs.filter (fun e => e.dest == dest)).flatMap (·.sources)).eraseDups

/-- `sources[src]`: one entry per occurrence of `src` in `equation.sources` -/
def eqsOfSource (eqs : List Eqn) (dest src : Name) : List Eqn :=
  (eqs.filter (fun e => e.dest == dest)).flatMap
    (fun e => (e.sources.filter (· == src)).map (fun _ => e))

/-- `all_equations` (`if equation not in all_equations`) -/
def allEqsOf (eqs : List Eqn) (dest : Name) : List Eqn :=
  (eqs.filter (fun e => e.dest == dest)).eraseDups

def noSrcEqsOf (eqs : List Eqn) (dest : Name) : List Eqn :=
  (eqs.filter (fun e => e.dest == dest)).filter Eqn.noSource

/-- `get_src_array_setup`: `'%s = src.%s.data' % (n, n[2:]) for n in sorted(src_arrays)` -/
def srcSetup (t : Table Name) (eqs : List Eqn) : List Assign :=
  (sortDedup (groupSrcNames t eqs)).map (fun n => ⟨n, .src, strip n⟩)

/-- `get_dest_array_setup`: destination arrays of the no-source group and of
every source group -/
def destSetup (t : Table Name) (noSrc : List Eqn) (srcGroups : List (List Eqn)) : List Assign :=
  (sortDedup (groupDstNames t noSrc ++ srcGroups.flatMap (groupDstNames t))).map
    (fun n => ⟨n, .dst, strip n⟩)

def mkSrcBlock (t : Table Name) (eqs : List Eqn) (dest src : Name) : SrcBlock :=
  let g := eqsOfSource eqs dest src
  { source := src, assigns := srcSetup t g, eqs := g,
    precomp := setupPrecomputed strLe t (g.flatMap Eqn.loopArgs) }

/-- `MegaGroup._make_data` + the pointer set-up of the template's `do_group` -/
def mkDestBlock (t : Table Name) (eqs : List Eqn) (dest : Name) : DestBlock :=
  let srcs := sourceList eqs dest
  { dest := dest,
    assigns := destSetup t (noSrcEqsOf eqs dest) (srcs.map (eqsOfSource eqs dest)),
    noSrc := noSrcEqsOf eqs dest,
    srcs := srcs.map (mkSrcBlock t eqs dest),
    allEqs := allEqsOf eqs dest }

def wiring (t : Table Name) (eqs : List Eqn) : List DestBlock :=
  (destList eqs).map (mkDestBlock t eqs)

/-! ### types -/

/-- a particle array: name and (property-or-constant, carray class, C type) -/
structure PArr where
  name : Name
  props : List (Name × Name × Name)
  deriving Repr, DecidableEq

/-- `get_all_array_names`: carray class ↦ names (dict in first-appearance order),
with the C type `getattr(carray, cls)().get_c_type()` carried along -/
def allArrayNames (pas : List PArr) : List (Name × Name × List Name) :=
  let all := pas.flatMap (·.props)
  let classes := (all.map (fun p => (p.2.1, p.2.2))).eraseDups
  classes.map (fun c => (c.1, c.2, ((all.filter (fun p => p.2.1 == c.1)).map (·.1)).eraseDups))

/-- `get_known_types_for_arrays`: an association list in assignment order; a
later entry overwrites an earlier one with the same key -/
def knownTypes (an : List (Name × Name × List Name)) : List (Name × Name) :=
  an.flatMap (fun e => e.2.2.flatMap (fun arr =>
    [("s_" ++ arr, e.2.1 ++ "*"), ("d_" ++ arr, e.2.1 ++ "*")]))

/-- dict lookup: the last assignment wins -/
def lookupLast (kt : List (Name × Name)) (k : Name) : Option Name :=
  (kt.reverse.find? (fun e => e.1 == k)).map (·.2)

/-- `get_array_declarations`: `cdef {type} {arr}` for the sorted names, `double*`
when the name is unknown -/
def arrayDecls (kt : List (Name × Name)) (names : List Name) : List (Name × Name) :=
  (sortDedup names).map (fun n => (n, (lookupLast kt n).getD "double*"))

/-- the helper's `get_array_declarations` for the group of all equations -/
def allArrayDecls (t : Table Name) (pas : List PArr) (eqs : List Eqn) : List (Name × Name) :=
  arrayDecls (knownTypes (allArrayNames pas)) (groupSrcNames t eqs ++ groupDstNames t eqs)

/-! ### per-thread scratch vectors -/

/-- `_get_variable_decl` / `get_variable_array_setup` for the context of the group
of all equations: for every precomputed symbol of the closure its default:
`0` = scalar `0.0`, `n > 0` = list of `n` zeros.
Output: (name, size); scalars have size 0. -/
def scratchDecls (t : Table Name) (defaults : List (Name × Nat)) (eqs : List Eqn) :
    List (Name × Nat) :=
  (sortDedup (groupPrecomp t eqs)).map
    (fun s => (s, ((defaults.find? (fun e => e.1 == s)).map (·.2)).getD 0))

/-- `aligned(n, 8)` of cyarray: `n` rounded up to a multiple of 8 doubles -/
def aligned8 (n : Nat) : Nat := ((n + 7) / 8) * 8

/-- first element of thread `tid`'s part: `&_X.data[thread_id*aligned(size, 8)]` -/
def scratchOffset (size tid : Nat) : Nat := tid * aligned8 size

/-- elements allocated: `aligned(size, 8)*self.n_threads` -/
def scratchAlloc (size nThreads : Nat) : Nat := aligned8 size * nThreads

/-! ## 5. call sites of the group callables (`condition`, `pre`, `post`)

`acceleration_eval_cython_helper.py`: `_compute_group_map`, `get_condition_call`,
`get_pre_call`, `get_post_call`; `acceleration_eval_cython.mako`: the body of `compute`
(`if <condition call>:`, the sub-group branch) and `do_group` (`pre` first, `post` last).

The generated `compute` reaches a callable as `self.groups[i].condition(t, dt)` /
`self.groups[i].data[k].pre()` …, where the expression `self.groups[i]…` is looked up in
`_group_map`.  That dict is keyed by the (mega-)group OBJECT; `group.name` — the user's
`name=` label for the profiling output, or `Group_<n>` — is not a key and need not be unique.
The model is parametric in the key (`key : GNode → κ`) so that this can be stated: the code is
`key := GNode.uid` (object identity). -/

/-- one (mega-)group as the call-site generation sees it -/
structure GNode where
  /-- object identity (hash/eq of a Python object without `__eq__`) -/
  uid : Nat
  /-- `group.name`: a label, not an identity -/
  name : Name
  hasCond : Bool
  hasPre : Bool
  hasPost : Bool
  deriving Repr, DecidableEq

/-- a top-level group; `subs = []` ⇔ `not group.has_subgroups` (a group with sub-groups has at
least one), else `subs = group.data` -/
structure GTop where
  node : GNode
  subs : List GNode
  deriving Repr, DecidableEq

/-- `self.groups[top]` / `self.groups[top].data[sub]` -/
structure GPos where
  top : Nat
  sub : Option Nat
  deriving Repr, DecidableEq

/-- the groups `_compute_group_map` visits for one `g_idx`, with the expression it stores:
the group itself, then `enumerate(group.data)` if it has sub-groups -/
def topNodes (gt : GTop × Nat) : List (GNode × GPos) :=
  (gt.1.node, ⟨gt.2, none⟩) :: gt.1.subs.zipIdx.map (fun sk => (sk.1, ⟨gt.2, some sk.2⟩))

/-- every group with its position, in the order of
`for g_idx, group in enumerate(self.object.mega_groups)` -/
def allNodes (gs : List GTop) : List (GNode × GPos) := gs.zipIdx.flatMap topNodes

section groupmap
variable {κ : Type} [DecidableEq κ]

/-- `_compute_group_map`: `mapping[<key of group>] = <expression>`, in visiting order -/
def groupMapBy (key : GNode → κ) (gs : List GTop) : List (κ × GPos) :=
  (allNodes gs).map (fun np => (key np.1, np.2))

/-- `mapping[k]` after all the assignments: the LAST assignment to `k` wins; `none` is
`KeyError` -/
def gmLookup : List (κ × GPos) → κ → Option GPos
  | [], _ => none
  | (k', v) :: m, k =>
    match gmLookup m k with
    | some w => some w
    | none => if k' = k then some v else none

inductive Cb where
  | cond | pre | post
  deriving Repr, DecidableEq

/-- one `….condition(t, dt)` / `….pre()` / `….post()` in the generated text: `site` = the
group whose text it stands in, `target` = the group the expression refers to -/
structure CallSite where
  kind : Cb
  site : GPos
  target : Option GPos
  deriving Repr, DecidableEq

/-- `% if group.<callable>:` … `helper.get_<callable>_call(group)` -/
def siteIf (key : GNode → κ) (m : List (κ × GPos)) (b : Bool) (k : Cb) (np : GNode × GPos) :
    List CallSite :=
  if b then [⟨k, np.2, gmLookup m (key np.1)⟩] else []

/-- a group of equations: `if <condition>:` around `do_group` = `pre`, …, `post` -/
def nodeSites (key : GNode → κ) (m : List (κ × GPos)) (np : GNode × GPos) : List CallSite :=
  siteIf key m np.1.hasCond .cond np ++ siteIf key m np.1.hasPre .pre np ++
  siteIf key m np.1.hasPost .post np

/-- one iteration of `% for g_idx, group in enumerate(helper.object.mega_groups):` -/
def topSites (key : GNode → κ) (m : List (κ × GPos)) (gt : GTop × Nat) : List CallSite :=
  let np : GNode × GPos := (gt.1.node, ⟨gt.2, none⟩)
  if gt.1.subs.isEmpty then nodeSites key m np
  else
    siteIf key m np.1.hasCond .cond np ++ siteIf key m np.1.hasPre .pre np ++
    (gt.1.subs.zipIdx.map (fun sk => (sk.1, (⟨gt.2, some sk.2⟩ : GPos)))).flatMap
      (nodeSites key m) ++
    siteIf key m np.1.hasPost .post np

/-- the call sites of the generated `compute`, in text order -/
def callSitesBy (key : GNode → κ) (gs : List GTop) : List CallSite :=
  gs.zipIdx.flatMap (topSites key (groupMapBy key gs))

end groupmap

/-- what the code does: the map is keyed by the group object -/
def callSites (gs : List GTop) : List CallSite := callSitesBy GNode.uid gs

end PysphVerif.Codegen
