/-
C17 — model of spatial re-ordering.

Transcribes (pinned tree, CPU path):

* `cyarray.carray.<T>Array.c_align_array(new_indices, stride)`        → `gather`
* `LinkedListNNPS._refresh/_bin` + `get_spatially_ordered_indices`
  (pysph/base/linked_list_nnps.pyx; `BoxSortNNPS` inherits it)        → `llBin`, `llOrder`
* `ZOrderNNPS/ExtendedZOrderNNPS.fill_array` (pids, `compare_sort`) and
  `StratifiedSFCNNPS.fill_array` + `get_spatially_ordered_indices`
  (z_order_nnps.pyx, stratified_sfc_nnps.pyx, z_order.h)              → `sortOrder`
* `CellIndexingNNPS.fill_array/_get_key/_get_id` +
  `get_spatially_ordered_indices` (cell_indexing_nnps.pyx)           → `ciOrder`
* `Octree/CompressedOctree._c_build_tree` (octree.pyx: `pids`) and
  `OctreeNNPS.get_spatially_ordered_indices` (octree_nnps.pyx)       → `octBuild`, `octOrder`
* `NNPS.spatially_order_particles` (nnps_base.pyx)                    → `spatiallyOrderOrig`
  and, with the proposed repair (`pa.align_particles()` after the
  gather, proposed_fixes/C17-reorder-align.diff),                     → `spatiallyOrder`
* `ParticleArray.align_particles` (particle_array.pyx)               → `alignIndex`, `align`
* `Solver.reorder_particles` (solver/solver.py): every array in turn → `reorderAll`

What is a parameter (geometry, belongs to C01): the map particle ↦ cell id /
key / octant digit.  The harness computes it from the positions and the
search structure's public geometry and hands it to the model; the theorems
hold for every such map (with the range conditions stated there).

Values are integers (the harness uses values every C type represents
exactly).  Core Lean only.
-/
namespace PysphVerif.Reorder

/-! ## `c_align_array`: gather with stride -/

/-- the `stride` elements of row `src` of the temp copy -/
def gatherRow {α : Type} [Inhabited α] (temp : List α) (stride src : Nat) : List α :=
  (List.range stride).map (fun j => temp.getD (src * stride + j) default)

/-- body of the outer loop of `c_align_array`: row `i` of the result.
`new_index = new_indices.data[i]`; `if i != new_index` is an optimisation
(the assignment is the identity otherwise). -/
def gatherAt {α : Type} [Inhabited α] (idx : List Nat) (stride : Nat) (temp : List α) (i : Nat) :
    List α :=
  gatherRow temp stride (idx.getD i i)

/-- `arr.c_align_array(new_indices, stride)`:
`temp = copy(data); for i in range(length//stride): for j in range(stride):
data[i*stride+j] = temp[new_indices[i]*stride+j]`; elements beyond
`(length//stride)*stride` are not touched. -/
def gather {α : Type} [Inhabited α] (idx : List Nat) (stride : Nat) (data : List α) : List α :=
  (List.range (data.length / stride)).flatMap (gatherAt idx stride data) ++
    data.drop (data.length / stride * stride)

/-- row `i` (chunk of `stride` consecutive elements) of a flat array -/
def row {α : Type} [Inhabited α] (stride : Nat) (data : List α) (i : Nat) : List α :=
  gatherRow data stride i

/-- the flat array read as rows -/
def rowsOf {α : Type} [Inhabited α] (stride : Nat) (data : List α) : List (List α) :=
  (List.range (data.length / stride)).map (row stride data)

/-! ## LinkedListNNPS: head/next lists -/

/-- `UINT_MAX` is `none` -/
structure LL where
  head : List (Option Nat)
  next : List (Option Nat)
  deriving Repr, DecidableEq

/-- `_refresh`: `head[j] = UINT_MAX` for the `n_cells` cells, `next[j] = UINT_MAX` -/
def llInit (ncells n : Nat) : LL :=
  { head := List.replicate ncells none, next := List.replicate n none }

/-- `_bin` loop body: `next[i] = head[_cid]; head[_cid] = i` -/
def llBinStep (cid : Nat → Nat) (st : LL) (i : Nat) : LL :=
  { head := st.head.set (cid i) (some i),
    next := st.next.set i (st.head.getD (cid i) none) }

/-- `_bin(pa_index, indices = arange(n))` after `_refresh` -/
def llBin (cid : Nat → Nat) (ncells n : Nat) : LL :=
  (List.range n).foldl (llBinStep cid) (llInit ncells n)

/-- `while _next != UINT_MAX: indices.append(_next); _next = next[_next]`
(the fuel only makes the function total; `n` steps always suffice, see
`llBin_inv`) -/
def llWalk (next : List (Option Nat)) : Nat → Option Nat → List Nat
  | 0, _ => []
  | _ + 1, none => []
  | fuel + 1, some i => i :: llWalk next fuel (next.getD i none)

/-- inner part of `get_spatially_ordered_indices` for one cell -/
def llCell (ll : LL) (fuel : Nat) (c : Nat) : List Nat :=
  llWalk ll.next fuel (ll.head.getD c none)

/-- `LinkedListNNPS.get_spatially_ordered_indices`: `for i in range(n_cells)` -/
def llOrderOf (ll : LL) (fuel : Nat) : List Nat :=
  (List.range ll.head.length).flatMap (llCell ll fuel)

def llOrder (cid : Nat → Nat) (ncells n : Nat) : List Nat :=
  llOrderOf (llBin cid ncells n) n

/-! ## ZOrder / ExtendedZOrder / StratifiedSFC: `pids` sorted by key -/

/-- `CompareFunctionWrapper`: `keys[a] < keys[b]` is the strict order; as a
`≤` for the merge sort -/
def keyLe (key : Nat → Nat) (a b : Nat) : Bool := key a ≤ key b

/-- `current_pids[i] = i` then `compare_sort()`.  `std::sort` is not stable:
the order inside a run of equal keys is unspecified; the model uses a stable
sort and the harness canonicalises runs of equal keys (L2 detail). -/
def sortOrder (key : Nat → Nat) (n : Nat) : List Nat :=
  (List.range n).mergeSort (keyLe key)

/-! ## CellIndexingNNPS: particle id packed into the low bits of the key -/

/-- `_get_key(n, i, j, k)`, in `unsigned int` arithmetic; `cell n` stands for
`i + 2^J j + 2^(J+K) k` -/
def ciKey (I : Nat) (cell : Nat → Nat) (n : Nat) : Nat :=
  (n + 2 ^ I * cell n) % 2 ^ 32

/-- `_get_id(key)` -/
def ciId (I : Nat) (key : Nat) : Nat := key % 2 ^ I

def natLe (a b : Nat) : Bool := a ≤ b

/-- `fill_array`: keys of all particles, `sort(keys)`;
`get_spatially_ordered_indices`: `_get_id(keys[j])` for every `j` -/
def ciOrder (I : Nat) (cell : Nat → Nat) (n : Nat) : List Nat :=
  (((List.range n).map (ciKey I cell)).mergeSort natLe).map (ciId I)

/-! ## Octree / CompressedOctree: `pids` = leaves in depth-first octant order -/

/-- `new_indices[oct_id].push_back(q)` for the particles of one octant, in
their incoming order -/
def octPart (digit : Nat → Nat → Nat) (depth : Nat) (ids : List Nat) (o : Nat) : List Nat :=
  ids.filter (fun q => digit depth q == o)

/-- `_c_build_tree`: `digit depth q` is the octant `k+2j+4i` of particle `q` in
the node of depth `depth` that contains it; `stop path` stands for
`eps > EPS_MAX` (always false for the compressed tree); leaves copy their
indices to `pids`; empty octants are skipped; children in octant order. -/
def octBuild (leafMax : Nat) (digit : Nat → Nat → Nat) (stop : List Nat → Bool) :
    Nat → List Nat → List Nat → List Nat
  | 0, _, ids => ids
  | fuel + 1, path, ids =>
    if ids.length < leafMax || stop path then ids
    else (List.range 8).flatMap (fun o =>
      octBuild leafMax digit stop fuel (o :: path) (octPart digit path.length ids o))

/-- `c_build_tree` (indices `0..n-1`) + `get_spatially_ordered_indices` -/
def octOrder (leafMax : Nat) (digit : Nat → Nat → Nat) (stop : List Nat → Bool)
    (fuel n : Nat) : List Nat :=
  octBuild leafMax digit stop fuel [] (List.range n)

/-! ## the particle array, as far as re-ordering sees it -/

structure Col where
  name : String
  stride : Nat
  data : List Int
  deriving Repr, DecidableEq, Inhabited

structure PA where
  /-- `pa.properties` with `pa.stride.get(name, 1)` resolved -/
  props : List Col
  /-- `num_real_particles` -/
  nReal : Nat
  deriving Repr, DecidableEq, Inhabited

/-- `Local = 0` -/
def localTag : Int := 0

def PA.tags (pa : PA) : List Int :=
  match pa.props.find? (fun c => c.name == "tag") with
  | some c => c.data
  | none => []

/-- `get_number_of_particles()` -/
def PA.n (pa : PA) : Nat := pa.tags.length

def gatherCol (idx : List Nat) (c : Col) : Col :=
  { c with data := gather idx c.stride c.data }

/-- `for name, arr in pa.properties.items(): arr.c_align_array(indices, stride)` -/
def PA.gatherAll (pa : PA) (idx : List Nat) : PA :=
  { pa with props := pa.props.map (gatherCol idx) }

/-- `NNPS.spatially_order_particles` as it is on the pinned tree -/
def spatiallyOrderOrig (idx : List Nat) (pa : PA) : PA := pa.gatherAll idx

/-! ### `align_particles` -/

/-- state of the index loop: (index_array so far, next_insert, num_moves) -/
structure AlignSt where
  idx : List Nat
  next : Nat
  moves : Nat
  deriving Repr, DecidableEq

/-- one iteration `i` of the loop of `align_particles` (`i = st.idx.length`) -/
def alignStep (st : AlignSt) (tag : Int) : AlignSt :=
  let i := st.idx.length
  if tag == localTag then
    if i != st.next then
      -- tmp = index[next]; index[next] = i; index[i] = tmp
      { idx := (st.idx.set st.next i) ++ [st.idx.getD st.next 0],
        next := st.next + 1, moves := st.moves + 1 }
    else { idx := st.idx ++ [i], next := st.next + 1, moves := st.moves }
  else { idx := st.idx ++ [i], next := st.next, moves := st.moves }

def alignIndex (tags : List Int) : AlignSt :=
  tags.foldl alignStep { idx := [], next := 0, moves := 0 }

/-- `ParticleArray.align_particles()`; `num_real_particles` is the number of
Local tags (`num_real_particles += 1` in the same branch as `next_insert += 1`) -/
def align (pa : PA) : PA :=
  let st := alignIndex pa.tags
  let pa' : PA := { pa with nReal := st.next }
  if st.moves > 0 then pa'.gatherAll st.idx else pa'

/-- `NNPS.spatially_order_particles` with the proposed repair -/
def spatiallyOrder (idx : List Nat) (pa : PA) : PA := align (spatiallyOrderOrig idx pa)

/-- `Solver.reorder_particles`: array `i` is re-ordered by its own index list -/
def reorderAll (fixed : Bool) (idxs : List (List Nat)) (pas : List PA) : List PA :=
  (List.zip idxs pas).map (fun p => if fixed then spatiallyOrder p.1 p.2 else spatiallyOrderOrig p.1 p.2)

/-! ### what the property talks about -/

/-- particle `i` as a whole: its row in every property -/
def PA.particle (pa : PA) (i : Nat) : List (List Int) :=
  pa.props.map (fun c => row c.stride c.data i)

def PA.particles (pa : PA) : List (List (List Int)) :=
  (List.range pa.n).map pa.particle

/-- real (Local) particles occupy exactly the first `num_real_particles` slots -/
def PA.realFirst (pa : PA) : Bool :=
  (pa.tags.take pa.nReal).all (· == localTag) && (pa.tags.drop pa.nReal).all (· != localTag)
    && pa.nReal ≤ pa.n

/-- every property holds `n` rows of its stride -/
def PA.wf (pa : PA) : Bool :=
  pa.props.all (fun c => c.stride > 0 && c.data.length == pa.n * c.stride) &&
  (pa.props.find? (fun c => c.name == "tag")).any (fun c => c.stride == 1)

def isPermOfRange (idx : List Nat) (n : Nat) : Bool :=
  idx.length == n && (List.range n).all (fun i => idx.count i == 1)

end PysphVerif.Reorder
